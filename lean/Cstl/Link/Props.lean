import Cstl.Link.Lemmas
import Cstl.Gen.LinkTab
/-
C18 — public headers are usable by client programs that link the library.

Not proved (decided by running the compiler over the property's finite
configuration list in tools/props/C18.py): that each configuration *compiles*
without diagnostics, and that the toolchain behaves like the link model.
-/
namespace Cstl.Link

theorem tuDefs_nil_of {tab : Tab} (hd : ∀ h ∈ tab.headers, h.defs = []) {tu : TU}
    (hk : ∀ h ∈ tu, h ∈ tab.headers) : tuDefs tu = [] := by
  have : tu.flatMap (·.defs) = [] := by
    apply List.flatMap_eq_nil_iff.2
    intro h hh; exact hd h (hk h hh)
  simp [tuDefs, this, dedup]

/-- **C18, general part.**  If the tables satisfy `TablesOK`, every client
program — any number of translation units, each including any public headers
in any order and any number of times — links against both libraries. -/
theorem link_ok {tab : Tab} (ok : TablesOK tab) : ∀ prog : Prog tab, Links tab prog := by
  intro prog
  obtain ⟨hd, nA, nS, hdecl⟩ := ok
  have hnil : prog.tus.flatMap tuDefs = [] := by
    apply List.flatMap_eq_nil_iff.2
    intro tu htu; exact tuDefs_nil_of hd (prog.known tu htu)
  have key : ∀ lib, lib.Nodup → (∀ h ∈ tab.headers, ∀ s ∈ h.decls, s ∈ lib) →
      LinksWith lib prog.tus := by
    intro lib nl hl
    refine ⟨by simpa [allDefs, hnil] using nl, ?_⟩
    intro tu htu s hs
    simp only [allDefs, hnil, List.nil_append]
    obtain ⟨h, hh, hs⟩ := List.mem_flatMap.1 hs
    exact hl h (prog.known tu htu h hh) s hs
  exact ⟨key _ nA (fun h hh s hs => (hdecl h hh s hs).1),
         key _ nS (fun h hh s hs => (hdecl h hh s hs).2)⟩

def Prog.one {tab : Tab} (h : Header) (hh : h ∈ tab.headers) : Prog tab :=
  ⟨[[h]], by simp, by
    intro tu htu x hx; simp at htu; subst htu; simp at hx; subst hx; exact hh⟩

def Prog.two {tab : Tab} (h : Header) (hh : h ∈ tab.headers) : Prog tab :=
  ⟨[[h], [h]], by simp, by
    intro tu htu x hx; simp at htu; subst htu; simp at hx; subst hx; exact hh⟩

/-- Converse: `TablesOK` is not stronger than the property — if it fails, one
of the two smallest programs (`H` alone, `H` in two translation units) does
not link in the model.  This is the witness `tools/props/C18.py` builds on the
real toolchain when `tables_ok` stops being provable. -/
theorem tablesOK_of_links {tab : Tab} (hne : tab.headers ≠ [])
    (hl : ∀ prog : Prog tab, Links tab prog) : TablesOK tab := by
  have one : ∀ h (hh : h ∈ tab.headers), Links tab (Prog.one h hh) := fun h hh => hl _
  have two : ∀ h (hh : h ∈ tab.headers), Links tab (Prog.two h hh) := fun h hh => hl _
  have hdefs : ∀ h ∈ tab.headers, h.defs = [] := by
    intro h hh
    have := (two h hh).1.1
    simp only [Prog.two, allDefs, List.flatMap_cons, List.flatMap_nil, List.append_nil] at this
    cases hd : h.defs with
    | nil => rfl
    | cons a l =>
      exfalso
      have ha : a ∈ tuDefs [h] := by
        exact mem_dedup.2 (by simp [hd])
      have := (List.nodup_append.1 (List.nodup_append.1 this).1).2.2 a ha a ha
      exact this rfl
  obtain ⟨h0, l0, hh0⟩ := List.exists_cons_of_ne_nil hne
  have h0m : h0 ∈ tab.headers := by simp [hh0]
  have libN : ∀ h ∈ tab.headers, ∀ lib, LinksWith lib [[h]] →
      lib.Nodup ∧ ∀ s ∈ h.decls, s ∈ lib := by
    intro h hh lib hlk
    have hd := hdefs h hh
    obtain ⟨n, r⟩ := hlk
    simp [allDefs, tuDefs, hd, dedup] at n
    refine ⟨n, ?_⟩
    intro s hs
    have := r [h] (by simp) s (by simp [tuRefs, hs])
    simpa [allDefs, tuDefs, hd, dedup] using this
  refine ⟨hdefs, (libN h0 h0m _ (one h0 h0m).1).1, (libN h0 h0m _ (one h0 h0m).2).1, ?_⟩
  intro h hh s hs
  exact ⟨(libN h hh _ (one h hh).1).2 s hs, (libN h hh _ (one h hh).2).2 s hs⟩


/-- The regenerated tables satisfy the obligation (evaluated by the kernel). -/
theorem tables_ok : TablesOK Cstl.Gen.tab :=
  tablesOK_of_fast (by decide +kernel)

/-- **C18 (link level).**  Every client program over the public headers links
against `libcstl.a` and against `libcstl.so`. -/
theorem c18_links : ∀ prog : Prog Cstl.Gen.tab, Links Cstl.Gen.tab prog :=
  link_ok tables_ok

-- the generated table is not empty: there are headers, declarations, library symbols
example : Cstl.Gen.tab.headers.length ≥ 12 ∧ Cstl.Gen.tab.libA.length ≥ 100 ∧
    (Cstl.Gen.tab.headers.all (fun h => !h.decls.isEmpty)) = true := by decide

-- a program with two translation units exists (so `c18_links` says something)
example : ∃ p : Prog Cstl.Gen.tab, p.tus.length = 2 := by
  have hne : Cstl.Gen.tab.headers ≠ [] := by decide
  obtain ⟨h, l, hh⟩ := List.exists_cons_of_ne_nil hne
  exact ⟨Prog.two h (by simp [hh]), rfl⟩

/-- The shape of defect #1 on the pinned tree (hash.h defined two functions,
`cstl_hash_size` and `cstl_hash_load`, with external linkage): a header that
defines two symbols; 7 and 8 stand in for them (in `Gen.symNames`, the table of
the fixed tree, these numbers name `cstl_array_at_const` and
`cstl_array_data_const`).  The checker rejects the table and the
two-translation-unit program does not link in the model. -/
def pinnedShape : Tab :=
  { headers := [{ name := "hash.h", defs := [7, 8], decls := [1] }], libA := [1, 2], libSo := [1, 2] }

example : checkTab pinnedShape = false := by decide

example : ¬ Links pinnedShape (Prog.two (tab := pinnedShape)
    { name := "hash.h", defs := [7, 8], decls := [1] } (by simp [pinnedShape])) := by
  intro h
  have := h.1.1
  revert this
  decide

end Cstl.Link
