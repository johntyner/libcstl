/-
Link model for C18 (public headers are usable by client programs that link
the library).  Core Lean only.

The tables (`Tab`) are produced by the translator `tools/linktab.py` from the
compiler's and `nm`'s own output on every run (`Cstl/Gen/LinkTab.lean`):

* `defs H`  — strong external definitions emitted by a translation unit that
               includes only the public header `H`;
* `decls H` — functions / objects with external linkage that such a
               translation unit declares but does not define (what a client
               may reference and the linker must then find somewhere);
* `libA`, `libSo` — global definitions of `libcstl.a` / exported by
               `libcstl.so`.

Symbols are numbered by the translator (index into `Gen.symNames`).

A *program* is a non-empty list of translation units; a translation unit is a
list of public headers, in any order, with repetition.  What the model assumes
about the C toolchain (validated, not proved, by the compile-level enumeration
of `tools/props/C18.py`): because of the include guards a header contributes
its definitions once per translation unit, and what it contributes does not
depend on what was included before it.
-/
namespace Cstl.Link

abbrev Sym := Nat

structure Header where
  name  : String
  defs  : List Sym
  decls : List Sym
deriving Repr

structure Tab where
  headers : List Header
  libA    : List Sym
  libSo   : List Sym
deriving Repr

/-- set union of a list with duplicates (one contribution per header per TU) -/
def dedup : List Sym → List Sym
  | [] => []
  | a :: l => if a ∈ dedup l then dedup l else a :: dedup l

abbrev TU := List Header

/-- strong definitions one translation unit hands to the linker -/
def tuDefs (tu : TU) : List Sym := dedup (tu.flatMap (·.defs))

/-- what the most demanding client may reference from this translation unit:
every symbol its headers declare -/
def tuRefs (tu : TU) : List Sym := tu.flatMap (·.decls)

/-- A client program over the public headers of `tab`. -/
structure Prog (tab : Tab) where
  tus      : List TU
  nonempty : tus ≠ []
  known    : ∀ tu ∈ tus, ∀ h ∈ tu, h ∈ tab.headers

/-- every strong definition the linker sees: one entry per translation unit
that defines the symbol, plus the library's -/
def allDefs (lib : List Sym) (tus : List TU) : List Sym :=
  tus.flatMap tuDefs ++ lib

/-- The program links against `lib`: no symbol is strongly defined twice among
the translation units and the library, and every declared symbol a translation
unit may reference is defined somewhere. -/
def LinksWith (lib : List Sym) (tus : List TU) : Prop :=
  (allDefs lib tus).Nodup ∧ ∀ tu ∈ tus, ∀ s ∈ tuRefs tu, s ∈ allDefs lib tus

/-- … against the static and against the shared library. -/
def Links (tab : Tab) (p : Prog tab) : Prop :=
  LinksWith tab.libA p.tus ∧ LinksWith tab.libSo p.tus

/-- The obligation on the generated tables. -/
def TablesOK (tab : Tab) : Prop :=
  (∀ h ∈ tab.headers, h.defs = []) ∧
  tab.libA.Nodup ∧ tab.libSo.Nodup ∧
  (∀ h ∈ tab.headers, ∀ s ∈ h.decls, s ∈ tab.libA ∧ s ∈ tab.libSo)

/-! Boolean checker that decides `TablesOK` (`checkTab_iff`).  On the generated table the kernel
evaluates the one-pass `checkFast` of Lemmas.lean instead (`tables_ok`). -/

def nodupb : List Sym → Bool
  | [] => true
  | a :: l => !(l.contains a) && nodupb l

def checkTab (tab : Tab) : Bool :=
  tab.headers.all (fun h => h.defs.isEmpty) &&
  nodupb tab.libA && nodupb tab.libSo &&
  tab.headers.all (fun h => h.decls.all (fun s => tab.libA.contains s && tab.libSo.contains s))

end Cstl.Link
