import Cstl.Link.Model
/-
Helper lemmas of the link model: `dedup`, the Boolean table checker.
-/
namespace Cstl.Link

theorem mem_dedup {a : Sym} : ∀ {l : List Sym}, a ∈ dedup l ↔ a ∈ l
  | [] => by simp [dedup]
  | b :: l => by
    have ih := @mem_dedup a l
    unfold dedup
    split
    · rename_i hb
      constructor
      · intro h; exact List.mem_cons_of_mem _ (ih.1 h)
      · intro h
        rcases List.mem_cons.1 h with rfl | h
        · exact hb
        · exact ih.2 h
    · simp [ih]

theorem nodup_dedup : ∀ (l : List Sym), (dedup l).Nodup
  | [] => by simp [dedup]
  | b :: l => by
    have ih := nodup_dedup l
    unfold dedup
    split
    · exact ih
    · rename_i hb; exact List.nodup_cons.2 ⟨hb, ih⟩

theorem nodupb_iff : ∀ {l : List Sym}, nodupb l = true ↔ l.Nodup
  | [] => by simp [nodupb]
  | a :: l => by simp [nodupb, nodupb_iff (l := l), List.nodup_cons]

theorem checkTab_iff (tab : Tab) : checkTab tab = true ↔ TablesOK tab := by
  simp [checkTab, TablesOK, nodupb_iff, List.all_eq_true, and_assoc]

theorem tablesOK_of_check {tab : Tab} (h : checkTab tab = true) : TablesOK tab :=
  (checkTab_iff tab).1 h

instance (tab : Tab) : Decidable (TablesOK tab) :=
  decidable_of_iff _ (checkTab_iff tab)

/-! ### the table check in one pass

`checkTab` walks a list for every membership and every duplicate test, quadratic in the number of
symbols, which is slow to evaluate on the generated table.  Symbols are small numbers (indices into
`Gen.symNames`), so a set of symbols is a natural number whose bit `s` says whether `s` is in it;
`checkFast` is `checkTab` with the library lists replaced by their masks. -/

/-- the symbols of `l` added to the set `a` -/
def maskFrom (a : Nat) (l : List Sym) : Nat := l.foldl (fun a s => a ||| 1 <<< s) a

theorem testBit_maskFrom (s : Sym) : ∀ (l : List Sym) (a : Nat),
    (maskFrom a l).testBit s = (a.testBit s || l.contains s)
  | [], a => by simp [maskFrom]
  | b :: l, a => by
    have := testBit_maskFrom s l (a ||| 1 <<< b)
    simp only [maskFrom, List.foldl_cons] at this ⊢
    rw [this, Nat.testBit_or, Nat.one_shiftLeft, Nat.testBit_two_pow, List.contains_cons, Bool.or_assoc]
    congr 2
    rw [Bool.eq_iff_iff]; simp; exact eq_comm

/-- no symbol of `l` occurs twice or is in the set `a` of symbols seen before -/
def nodupFrom : Nat → List Sym → Bool
  | _, [] => true
  | a, s :: l => !a.testBit s && nodupFrom (a ||| 1 <<< s) l

theorem nodupFrom_sound : ∀ (l : List Sym) (a : Nat), nodupFrom a l = true →
    l.Nodup ∧ ∀ s ∈ l, a.testBit s = false
  | [], _, _ => ⟨List.nodup_nil, nofun⟩
  | b :: l, a, h => by
    simp only [nodupFrom, Bool.and_eq_true, Bool.not_eq_true'] at h
    obtain ⟨ih1, ih2⟩ := nodupFrom_sound l _ h.2
    have hb : ∀ s ∈ l, s ≠ b ∧ a.testBit s = false := fun s hs => by
      have := ih2 s hs
      rw [Nat.testBit_or, Nat.one_shiftLeft, Nat.testBit_two_pow, Bool.or_eq_false_iff] at this
      exact ⟨fun e => by simp [e] at this, this.1⟩
    refine ⟨List.nodup_cons.2 ⟨fun hm => (hb b hm).1 rfl, ih1⟩, fun s hs => ?_⟩
    rcases List.mem_cons.1 hs with rfl | hs
    · exact h.1
    · exact (hb s hs).2

def checkFast (tab : Tab) : Bool :=
  tab.headers.all (fun h => h.defs.isEmpty) &&
  nodupFrom 0 tab.libA && nodupFrom 0 tab.libSo &&
  tab.headers.all (fun h => h.decls.all (fun s => (maskFrom 0 tab.libA).testBit s && (maskFrom 0 tab.libSo).testBit s))

theorem tablesOK_of_fast {tab : Tab} (h : checkFast tab = true) : TablesOK tab := by
  simp only [checkFast, Bool.and_eq_true, List.all_eq_true, testBit_maskFrom, Nat.zero_testBit, Bool.false_or,
    List.contains_iff_mem, List.isEmpty_iff] at h
  exact ⟨h.1.1.1, (nodupFrom_sound _ _ h.1.1.2).1, (nodupFrom_sound _ _ h.1.2).1, h.2⟩

end Cstl.Link
