import Cstl.Gen.DListC2
import Cstl.DList.SortL
/-
Translator tie, second part (dlist): `Cstl/Gen/DListC2.lean` is regenerated
from /repo's src/dlist.c by tools/c2lean_lists.py on every check run; the
fixed theorems below state that the link-level models of `cstl_dlist_sort`
(`SortL.lean`), `cstl_dlist_foreach`, `cstl_dlist_find` and `cstl_dlist_swap`
(`Model.lean`) are those translations.

The ties of sort and its loops are equalities.  `foreach_tie`, `find_tie`:
whenever the translated loop finishes, the model returns the same state /
visited elements / result (the model's loop is total: it stops when its fuel
is used up, the translation then yields `none`).  `swap_tie`: an equality on
represented lists — the translator and the model order the two halves of the
chained assignment in the fix-up macro differently; `swap_tie_raw` shows that
this makes no difference if, in the branch `size != 0`, the links of a head
node lead neither to itself nor to the other head node, which holds on
represented lists (`head_links_ne`).
-/
namespace Cstl.DList.Tie2
open Cstl.SList (Mem upd)
open Cstl.DList Cstl.Gen.DListC2

theorem insert_tie (m : M2) (l : Hd) (p n : Nat) :
    c_priv_cstl_dlist_insert m.nx m.pv l p n = ((insert m l p n).1.nx, (insert m l p n).1.pv, (insert m l p n).2) := rfl

theorem erase_tie (m : M2) (l : Hd) (n : Nat) :
    c_priv_cstl_dlist_erase m.nx m.pv l n = ((erase m l n).1.nx, (erase m l n).1.pv, (erase m l n).2, n) := rfl

theorem concat_tie (m : M2) (d s : Hd) :
    c_cstl_dlist_concat m.nx m.pv d s
      = ((concat m d s).1.nx, (concat m d s).1.pv, (concat m d s).2.1, (concat m d s).2.2) := by
  simp only [c_cstl_dlist_concat, concat]
  split <;> split <;> simp_all

/-- the split loop `for (t = &l->h; _l[0].size < l->size / 2; t = t->n, _l[0].size++) ;` -/
theorem splitLoop_tie (cmp : Nat → Nat → Int) (tmp : Nat → Nat × Nat) (fuel : Nat) (nx pv : Mem) (l l0 l1 : Hd) (t : Nat) :
    c_cstl_dlist_sort_loop1 cmp tmp fuel nx pv l l0 l1 t
      = (Cstl.SList.splitLoop fuel nx (l.size / 2) l0.size t).map
          (fun r => (nx, pv, l, { l0 with size := r.1 }, l1, r.2)) := by
  induction fuel generalizing l0 t with
  | zero =>
    simp only [c_cstl_dlist_sort_loop1, Cstl.SList.splitLoop]
    split <;> simp_all
  | succ f ih =>
    simp only [c_cstl_dlist_sort_loop1, Cstl.SList.splitLoop]
    split
    · rw [ih]
    · simp_all

theorem mergeLoop_tie (cmp : Nat → Nat → Int) (tmp : Nat → Nat × Nat) (fuel : Nat) (nx pv : Mem) (l a b : Hd) (t : Nat) :
    c_cstl_dlist_sort_loop2 cmp tmp fuel nx pv l a b t
      = (mergeLoop cmp fuel { nx := nx, pv := pv } l a b).map
          (fun r => (r.1.nx, r.1.pv, r.2.1, r.2.2.1, r.2.2.2, t)) := by
  induction fuel generalizing nx pv l a b with
  | zero =>
    simp only [c_cstl_dlist_sort_loop2, mergeLoop]
    split <;> simp_all
  | succ f ih =>
    simp only [c_cstl_dlist_sort_loop2, mergeLoop]
    split
    · split
      · simp only [c_priv_cstl_dlist_erase, c_priv_cstl_dlist_insert]
        rw [ih]; rfl
      · simp only [c_priv_cstl_dlist_erase, c_priv_cstl_dlist_insert]
        rw [ih]; rfl
    · simp_all

/-- **`cstl_dlist_sort`** = the link-level model `sortL` -/
theorem sort_tie (cmp : Nat → Nat → Int) (tmp : Nat → Nat × Nat) (fuel d : Nat) (nx pv : Mem) (l : Hd) :
    c_cstl_dlist_sort cmp tmp fuel d nx pv l
      = (sortL cmp tmp fuel d { nx := nx, pv := pv } l).map (fun r => (r.1.nx, r.1.pv, r.2)) := by
  induction fuel generalizing d nx pv l with
  | zero => simp [sortL, c_cstl_dlist_sort]
  | succ f ih =>
    simp only [sortL, c_cstl_dlist_sort]
    split
    · simp only [init, splitLoop_tie]
      cases hs : Cstl.SList.splitLoop f (upd (upd nx (tmp d).fst (tmp d).fst) (tmp d).snd (tmp d).snd) (l.size / 2) 0 l.h with
      | none => simp
      | some p =>
        obtain ⟨cnt, t⟩ := p
        simp only [Option.map_some, splitLinks, init, ih]
        generalize sortL cmp tmp f (d + 1) _ _ = oA
        cases oA with
        | none => rfl
        | some rA =>
          obtain ⟨mA, a1⟩ := rA
          simp only [Option.map_some]
          generalize sortL cmp tmp f (d + 1) _ _ = oB
          cases oB with
          | none => rfl
          | some rB =>
            obtain ⟨mB, b1⟩ := rB
            simp only [Option.map_some, mergeLoop_tie]
            generalize mergeLoop cmp f _ _ _ _ = oC
            cases oC with
            | none => rfl
            | some rC =>
              obtain ⟨mC, l3, a3, b3⟩ := rC
              simp only [Option.map_some]
              have e1 := concat_tie mC l3 a3
              have e2 := concat_tie mC l3 b3
              simp only [e1, e2]
              split <;> rfl
    · rfl


/-- the model's visit function (result, "did it remove the element") in the
vocabulary of the translation: the private state is the call counter and the
visited elements; a removing visit unlinks the element with `eraseP` -/
def erasingVisit (poison : Nat → Nat) (visit : Nat → Nat → Int × Bool) :
    (Nat × List Nat) → Mem → Mem → Hd → Nat → Int × (Nat × List Nat) × Mem × Mem × Hd :=
  fun s nx pv l c =>
    let v := visit s.1 c
    let ml := if v.2 then eraseP poison { nx := nx, pv := pv } l c else ({ nx := nx, pv := pv }, l)
    (v.1, (s.1 + 1, c :: s.2), ml.1.nx, ml.1.pv, ml.2)

/-- the value of the local function pointer `next` -/
def sel (fwd : Bool) : Mem → Mem → Nat → Nat :=
  if fwd then (fun nx _ a => nx a) else (fun _ pv a => pv a)

theorem foreachLoop_stop {σ : Type} (vis : σ → Mem → Mem → Hd → Nat → Int × σ × Mem × Mem × Hd) (dir fuel : Nat)
    (vs : σ) (nx pv : Mem) (l : Hd) (next : Mem → Mem → Nat → Nat) (c n : Nat) (res : Int) (hr : res ≠ 0) :
    c_cstl_dlist_foreach_loop1 vis dir fuel vs nx pv l next c n res = some (vs, nx, pv, l, next, c, n, res) := by
  cases fuel <;> simp [c_cstl_dlist_foreach_loop1, hr]

theorem sel_apply (fwd : Bool) (nx pv : Mem) (a : Nat) : sel fwd nx pv a = if fwd then nx a else pv a := by
  cases fwd <;> rfl

theorem foreach_eq {σ : Type} (vis : σ → Mem → Mem → Hd → Nat → Int × σ × Mem × Mem × Hd) (dir fuel : Nat)
    (vs : σ) (nx pv : Mem) (l : Hd) :
    c_cstl_dlist_foreach vis dir fuel vs nx pv l
      = (c_cstl_dlist_foreach_loop1 vis dir fuel vs nx pv l (sel (dir != 1)) (sel (dir != 1) nx pv l.h)
          (sel (dir != 1) nx pv (sel (dir != 1) nx pv l.h)) 0).map
        (fun r => (r.1, r.2.1, r.2.2.1, r.2.2.2.1, r.2.2.2.2.2.2.2)) := by
  simp only [c_cstl_dlist_foreach]
  by_cases hd : dir = 1
  · subst hd
    simp only [if_true]
    split <;> simp_all [sel]
  · have hb : (dir != 1) = true := by simp [hd]
    simp only [hd, if_false, hb]
    split <;> simp_all [sel]

/-- the loop of `cstl_dlist_foreach`: whenever the translated loop finishes,
the model's loop ends with the same memory, header, visited elements, result -/
theorem foreachLoop_tie (poison : Nat → Nat) (visit : Nat → Nat → Int × Bool) (fwd : Bool) (dir fuel : Nat)
    (nx pv : Mem) (l : Hd) (c n k : Nat) (acc : List Nat)
    (out : (Nat × List Nat) × Mem × Mem × Hd × (Mem → Mem → Nat → Nat) × Nat × Nat × Int)
    (h : c_cstl_dlist_foreach_loop1 (erasingVisit poison visit) dir fuel (k, acc) nx pv l (sel fwd) c n 0 = some out) :
    foreachLoop poison fwd visit fuel { nx := nx, pv := pv } l c n k acc
      = ({ nx := out.2.1, pv := out.2.2.1 }, out.2.2.2.1, out.1.2.reverse, out.2.2.2.2.2.2.2) := by
  induction fuel generalizing nx pv l c n k acc with
  | zero =>
    simp only [c_cstl_dlist_foreach_loop1] at h
    split at h
    · cases h
    · cases h; simp [foreachLoop]
  | succ f ih =>
    simp only [c_cstl_dlist_foreach_loop1] at h
    split at h
    · rename_i hc
      have hc0 : c ≠ l.h := hc.2
      simp only [erasingVisit] at h
      by_cases hv : (visit k c).1 = 0
      · rw [hv] at h
        have := ih _ _ _ _ _ _ _ h
        simp only [foreachLoop, hc0, if_false, hv, ne_eq, not_true_eq_false]
        rw [← this]
        cases fwd <;> rfl
      · rw [foreachLoop_stop _ _ _ _ _ _ _ _ _ _ _ hv] at h
        cases h
        simp [foreachLoop, hc0, hv]
    · rename_i hc
      have hc0 : c = l.h := by simpa using hc
      cases h
      simp [foreachLoop, hc0]

/-- **`cstl_dlist_foreach`**, both directions: `dir = 1`
(`CSTL_DLIST_FOREACH_DIR_REV`) walks backwards, every other value forwards -/
theorem foreach_tie (poison : Nat → Nat) (visit : Nat → Nat → Int × Bool) (dir : Nat) (m : M2) (l : Hd)
    (out : (Nat × List Nat) × Mem × Mem × Hd × Int)
    (h : c_cstl_dlist_foreach (erasingVisit poison visit) dir (l.size + 1) (0, []) m.nx m.pv l = some out) :
    foreach m l (dir != 1) visit poison
      = ({ nx := out.2.1, pv := out.2.2.1 }, out.2.2.2.1, out.1.2.reverse, out.2.2.2.2) := by
  rw [foreach_eq] at h
  obtain ⟨o, hl, e⟩ := Option.map_eq_some_iff.mp h
  subst e
  simpa [foreach, sel_apply] using foreachLoop_tie poison visit (dir != 1) dir (l.size + 1) m.nx m.pv l _ _ 0 [] o hl


/-- a comparison function that compares keys: the probe has key `probe` -/
def keyCmp (key : Nat → Int) (probe : Int) : Nat → Nat → Int := fun _ b => key b - probe

/-- how `cstl_dlist_find` hands `cstl_dlist_find_visit` to `cstl_dlist_foreach`:
the private state is the field `lfp.e` -/
def findVis (cmp : Nat → Nat → Int) : Nat → Mem → Mem → Hd → Nat → Int × Nat × Mem × Mem × Hd :=
  fun s nx pv l e => let r := c_cstl_dlist_find_visit cmp s e; (r.2, r.1, nx, pv, l)

theorem findLoop_tie (poison : Nat → Nat) (key : Nat → Int) (probe : Int) (fwd : Bool) (dir fuel : Nat)
    (nx pv : Mem) (l : Hd) (c n k : Nat) (acc : List Nat) (s : Nat)
    (out : Nat × Mem × Mem × Hd × (Mem → Mem → Nat → Nat) × Nat × Nat × Int)
    (h : c_cstl_dlist_foreach_loop1 (findVis (keyCmp key probe)) dir fuel s nx pv l (sel fwd) c n 0 = some out) :
    (foreachLoop poison fwd (findVisit key probe) fuel { nx := nx, pv := pv } l c n k acc).2.2.2 = out.2.2.2.2.2.2.2
    ∧ (out.2.2.2.2.2.2.2 ≠ 0 →
        (foreachLoop poison fwd (findVisit key probe) fuel { nx := nx, pv := pv } l c n k acc).2.2.1.getLast? = some out.1)
    ∧ (out.2.2.2.2.2.2.2 = 0 → out.1 = s)
    ∧ out.2.1 = nx ∧ out.2.2.1 = pv ∧ out.2.2.2.1 = l := by
  induction fuel generalizing c n k acc with
  | zero =>
    simp only [c_cstl_dlist_foreach_loop1] at h
    split at h
    · cases h
    · cases h; simp [foreachLoop]
  | succ f ih =>
    simp only [c_cstl_dlist_foreach_loop1] at h
    split at h
    · rename_i hc
      have hc0 : c ≠ l.h := hc.2
      simp only [findVis, c_cstl_dlist_find_visit, keyCmp] at h
      by_cases hk : key c = probe
      · have hz : key c - probe = 0 := by omega
        simp only [hz, if_true] at h
        rw [foreachLoop_stop _ _ _ _ _ _ _ _ _ _ _ (by decide)] at h
        cases h
        simp [foreachLoop, hc0, findVisit, hk]
      · have hz : ¬ key c - probe = 0 := by omega
        simp only [hz, if_false] at h
        have := ih _ _ (k + 1) (c :: acc) h
        simp only [foreachLoop, hc0, if_false, findVisit, hk, ne_eq, not_true_eq_false, Bool.false_eq_true]
        cases fwd <;> exact this
    · rename_i hc
      have hc0 : c = l.h := by simpa using hc
      cases h
      simp [foreachLoop, hc0]

theorem findForeach_tie (key : Nat → Int) (probe : Int) (dir : Nat) (m : M2) (l : Hd) (s : Nat)
    (out : Nat × Mem × Mem × Hd × Int)
    (h : c_cstl_dlist_foreach (findVis (keyCmp key probe)) dir (l.size + 1) s m.nx m.pv l = some out) :
    (foreach m l (dir != 1) (findVisit key probe)).2.2.2 = out.2.2.2.2
    ∧ (out.2.2.2.2 ≠ 0 → (foreach m l (dir != 1) (findVisit key probe)).2.2.1.getLast? = some out.1)
    ∧ (out.2.2.2.2 = 0 → out.1 = s)
    ∧ out.2.1 = m.nx ∧ out.2.2.1 = m.pv ∧ out.2.2.2.1 = l := by
  rw [foreach_eq] at h
  obtain ⟨o, hl, e⟩ := Option.map_eq_some_iff.mp h
  subst e
  simpa [foreach, sel_apply] using
    findLoop_tie (fun _ => 0) key probe (dir != 1) dir (l.size + 1) m.nx m.pv l _ _ 0 [] s o hl

/-- **`cstl_dlist_find`**: whenever the translation finishes it leaves the list
untouched and returns what the model's `find` returns (NULL for `none`) -/
theorem find_tie (key : Nat → Int) (probe : Int) (e dir : Nat) (m : M2) (l : Hd) (out : Mem × Mem × Hd × Nat)
    (h : c_cstl_dlist_find (keyCmp key probe) e dir (l.size + 1) m.nx m.pv l = some out) :
    out = (m.nx, m.pv, l, (find m l (dir != 1) key probe).getD 0) := by
  simp only [c_cstl_dlist_find] at h
  split at h
  · cases h
  · rename_i s' nx' pv' l' r1 heq
    obtain ⟨i1, i2, i3, i4, i5, i6⟩ := findForeach_tie key probe dir m l e _ heq
    simp only at i1 i2 i3 i4 i5 i6
    subst i4 i5 i6
    have ef : find m l' (dir != 1) key probe
        = if (foreach m l' (dir != 1) (findVisit key probe)).2.2.2 > 0
          then (foreach m l' (dir != 1) (findVisit key probe)).2.2.1.getLast? else none := rfl
    rw [ef, i1]
    split at h
    · rename_i hr
      cases h
      have : r1 ≠ 0 := by omega
      simp [hr, i2 this]
    · rename_i hr
      cases h
      simp [hr]


/-- In the fix-up macro's chained assignment `L->h.n->p = L->h.p->n = &L->h`
the translator performs the right-hand assignment first and then evaluates
`L->h.n`; the model `swapFix` evaluates `L->h.n` first.  Both agree as soon as
the head's links are not self-links, which the branch `size != 0` guarantees
on represented lists (`swap_tie`). -/
theorem swap_tie_raw (m : M2) (a b : Hd) (hab : a.h ≠ b.h)
    (hA : a.size ≠ 0 → m.nx a.h ≠ a.h ∧ m.nx a.h ≠ b.h ∧ m.pv a.h ≠ a.h ∧ m.pv a.h ≠ b.h)
    (hB : b.size ≠ 0 → m.nx b.h ≠ a.h ∧ m.nx b.h ≠ b.h ∧ m.pv b.h ≠ a.h ∧ m.pv b.h ≠ b.h) :
    c_cstl_dlist_swap m.nx m.pv a b
      = ((swap m a b).1.nx, (swap m a b).1.pv, (swap m a b).2.1, (swap m a b).2.2) := by
  simp only [c_cstl_dlist_swap, swap, swapFix]
  by_cases ha : a.size = 0 <;> by_cases hb : b.size = 0
  · simp [ha, hb]
  -- in the other three cases the two memories agree address by address, given `hA ha` / `hB hb`
  all_goals
    simp only [ha, hb, if_true, if_false, Prod.mk.injEq, and_true]
    constructor <;> funext x <;> simp only [upd] <;> grind

theorem head_links_ne {m : M2} {a b : Hd} {xs ys : List Nat} (ha : IsDL m a xs) (hdis : Disjoint a xs b ys)
    (hs : a.size ≠ 0) : m.nx a.h ≠ a.h ∧ m.nx a.h ≠ b.h ∧ m.pv a.h ≠ a.h ∧ m.pv a.h ≠ b.h := by
  have hx : xs ≠ [] := ha.size_pos_iff.mp (Nat.pos_of_ne_zero hs)
  have hn : ∀ z ∈ xs, z ≠ a.h ∧ z ≠ b.h := fun z hz =>
    ⟨fun e => (List.nodup_cons.mp ha.nodup).1 (e ▸ hz), fun e => hdis z (List.mem_cons_of_mem _ hz) (by simp [e])⟩
  rw [ha.head_links.1, ha.head_links.2]
  exact ⟨(hn _ (headOr_mem_of_ne_nil _ hx)).1, (hn _ (headOr_mem_of_ne_nil _ hx)).2,
    (hn _ (Cstl.SList.lastOr_mem_of_ne_nil _ hx)).1, (hn _ (Cstl.SList.lastOr_mem_of_ne_nil _ hx)).2⟩

/-- **`cstl_dlist_swap`** on represented lists: the translation is the model `swap` -/
theorem swap_tie {m : M2} {a b : Hd} {xs ys : List Nat} (ha : IsDL m a xs) (hb : IsDL m b ys)
    (hdis : Disjoint a xs b ys) :
    c_cstl_dlist_swap m.nx m.pv a b
      = ((swap m a b).1.nx, (swap m a b).1.pv, (swap m a b).2.1, (swap m a b).2.2) := by
  have hab : a.h ≠ b.h := fun e => hdis a.h (by simp) (by simp [e])
  have hdis' : Disjoint b ys a xs := fun z hz hm => hdis z hm hz
  refine swap_tie_raw m a b hab (fun hs => head_links_ne ha hdis hs) (fun hs => ?_)
  obtain ⟨h1, h2, h3, h4⟩ := head_links_ne hb hdis' hs
  exact ⟨h2, h1, h4, h3⟩


/-- **the translated C function sorts.**  `sort_tie` composed with the
refinement theorem: on every represented list with fresh temporary heads the
translation of `cstl_dlist_sort` finishes and leaves, in both directions, an
ordered permutation of the same nodes. -/
theorem c_sort_spec (cmp : Nat → Nat → Int) (key : Nat → Int) (hck : ∀ x y, cmp x y ≤ 0 ↔ key x ≤ key y)
    (tmp : Nat → Nat × Nat) (d : Nat) {m : M2} {l : Hd} {xs : List Nat}
    (h : IsDL m l xs) (hfr : Cstl.SList.Fresh tmp d (l.h :: xs)) :
    ∃ m' l', c_cstl_dlist_sort cmp tmp (xs.length + 1) d m.nx m.pv l = some (m'.nx, m'.pv, l') ∧
      let ys := if l.size > 1 then Cstl.SList.msort key xs.length xs else xs
      IsDL m' l' ys ∧ ys.Perm xs ∧ Cstl.SList.SortedBy key ys ∧ l'.h = l.h
      ∧ ∀ a, a ∉ l.h :: xs → ¬ Cstl.SList.Scratch tmp d a → m'.nx a = m.nx a ∧ m'.pv a = m.pv a := by
  obtain ⟨m', l', e, rest⟩ := sortL_spec cmp key hck tmp d h hfr
  refine ⟨m', l', ?_, rest⟩
  rw [sort_tie]
  show Option.map _ (sortL cmp tmp (xs.length + 1) d m l) = _
  rw [e]; rfl

end Cstl.DList.Tie2
