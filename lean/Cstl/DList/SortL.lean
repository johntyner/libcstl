import Cstl.DList.Props
import Cstl.SList.SortL
/-
Link-level model of `cstl_dlist_sort` (src/dlist.c) and the theorem that it
refines the sequence-level model (`Cstl.SList.msort` + relink) of
`Model.lean`.

As for slist (see `Cstl/SList/SortL.lean`): the two temporary list heads
`_l[2]` of the activation at recursion depth `d` live at the addresses
`(tmp d).1`, `(tmp d).2`; both recursive calls of an activation run at depth
`d + 1`.  One `upd` per C assignment.  In the two chained assignments
`_l[i].h.n->p = _l[i].h.p->n = &_l[i].h` the right-hand assignment is
performed first and the left-hand lvalue is evaluated afterwards (the order
the translator `tools/c2lean_lists.py` emits; the refinement theorem shows
that it closes both rings).
-/
namespace Cstl.DList
open Cstl.SList

/-- the merge loop: while both halves are non-empty, unlink the front node of
the half whose front compares `<= 0` (left on ties) with `__cstl_dlist_erase`
and append it to the output with `__cstl_dlist_insert(l, l->h.p, n)`. -/
def mergeLoop (cmp : Nat → Nat → Int) : Nat → M2 → Hd → Hd → Hd → Option (M2 × Hd × Hd × Hd)
  | 0, m, l, a, b => if a.size > 0 ∧ b.size > 0 then none else some (m, l, a, b)
  | fuel + 1, m, l, a, b =>
    if a.size > 0 ∧ b.size > 0 then
      if cmp (m.nx a.h) (m.nx b.h) ≤ 0 then
        let n := m.nx a.h                         -- n = ol->h.n
        let r1 := erase m a n                     -- __cstl_dlist_erase(ol, n)
        let r2 := insert r1.1 l (r1.1.pv l.h) n   -- __cstl_dlist_insert(l, l->h.p, n)
        mergeLoop cmp fuel r2.1 r2.2 r1.2 b
      else
        let n := m.nx b.h
        let r1 := erase m b n
        let r2 := insert r1.1 l (r1.1.pv l.h) n
        mergeLoop cmp fuel r2.1 r2.2 a r1.2
    else some (m, l, a, b)

/-- the assignments between the split loop and the recursive calls; `a`, `b`
are the (initialised) temporary headers, `t` the last node of the first half -/
def splitLinks (m : M2) (l a b : Hd) (t : Nat) : M2 × Hd × Hd × Hd :=
  let nx1 := upd m.nx a.h (m.nx l.h)          -- _l[0].h.n = l->h.n
  let pv1 := upd m.pv a.h t                   -- _l[0].h.p = t
  let nx2 := upd nx1 b.h (nx1 t)              -- _l[1].h.n = t->n
  let pv2 := upd pv1 b.h (pv1 l.h)            -- _l[1].h.p = l->h.p
  let nx3 := upd nx2 (pv2 a.h) a.h            -- _l[0].h.p->n = &_l[0].h
  let pv3 := upd pv2 (nx3 a.h) a.h            -- _l[0].h.n->p = &_l[0].h
  let nx4 := upd nx3 (pv3 b.h) b.h            -- _l[1].h.p->n = &_l[1].h
  let pv4 := upd pv3 (nx4 b.h) b.h            -- _l[1].h.n->p = &_l[1].h
  let b1 := { b with size := l.size - a.size }        -- _l[1].size = l->size - _l[0].size
  let r := init { nx := nx4, pv := pv4 } l.h          -- cstl_dlist_init(l, l->off)
  (r.1, r.2, a, b1)

/-- `cstl_dlist_sort` at link level (`fuel` bounds recursion depth and loop
iterations, `d` is the recursion depth) -/
def sortL (cmp : Nat → Nat → Int) (tmp : Nat → Nat × Nat) : Nat → Nat → M2 → Hd → Option (M2 × Hd)
  | 0, _, _, _ => none
  | fuel + 1, d, m, l =>
    if l.size > 1 then
      let ra := init m (tmp d).1                -- cstl_dlist_init(&_l[0], l->off)
      let rb := init ra.1 (tmp d).2             -- cstl_dlist_init(&_l[1], l->off)
      match Cstl.SList.splitLoop fuel rb.1.nx (l.size / 2) ra.2.size l.h with
      | none => none
      | some (cnt, t) =>
        let s := splitLinks rb.1 l { ra.2 with size := cnt } rb.2 t
        match sortL cmp tmp fuel (d + 1) s.1 s.2.2.1 with          -- cstl_dlist_sort(&_l[0], …)
        | none => none
        | some (m1, a1) =>
          match sortL cmp tmp fuel (d + 1) m1 s.2.2.2 with         -- cstl_dlist_sort(&_l[1], …)
          | none => none
          | some (m2, b1) =>
            match mergeLoop cmp fuel m2 s.2.1 a1 b1 with
            | none => none
            | some (m3, l3, a3, b3) =>
              if a3.size > 0 then
                let r := concat m3 l3 a3
                some (r.1, r.2.1)
              else
                let r := concat m3 l3 b3
                some (r.1, r.2.1)
    else some (m, l)

/-- what `splitLinks` leaves in the two link fields (`p1`/`pk` = first/last
node of the first half, `q1`/`qj` = first/last node of the second).  Every
address is written at most once per field, except `l.h`, where the final
`init` overwrites: `nx` at `a.h`, `b.h`, `pk`, `qj`, `l.h` comes from the
writes 1, 3, 5, 7 and `init`; `pv` at `a.h`, `b.h`, `p1`, `q1`, `l.h` from
the writes 2, 4, 6, 8 and `init`.  The lvalues `pv2 a.h`, `nx3 a.h`,
`pv3 b.h`, `nx4 b.h` evaluate to `pk`, `p1`, `qj`, `q1` because the nodes are
different from the three head nodes. -/
theorem splitLinks_mem (m : M2) (l a b : Hd) (p1 pk q1 qj : Nat)
    (hnl : m.nx l.h = p1) (hnk : m.nx pk = q1) (hpl : m.pv l.h = qj)
    (hab : a.h ≠ b.h) (hal : a.h ≠ l.h) (hbl : b.h ≠ l.h)
    (np1 : p1 ≠ a.h ∧ p1 ≠ b.h ∧ p1 ≠ l.h) (npk : pk ≠ a.h ∧ pk ≠ b.h ∧ pk ≠ l.h)
    (nq1 : q1 ≠ a.h ∧ q1 ≠ b.h ∧ q1 ≠ l.h) (nqj : qj ≠ a.h ∧ qj ≠ b.h ∧ qj ≠ l.h)
    (hkj : pk ≠ qj) (h11 : p1 ≠ q1) :
    let r := splitLinks m l a b pk
    r.1.nx a.h = p1 ∧ r.1.nx b.h = q1 ∧ r.1.nx pk = a.h ∧ r.1.nx qj = b.h ∧ r.1.nx l.h = l.h
    ∧ (∀ x, x ≠ a.h → x ≠ b.h → x ≠ pk → x ≠ qj → x ≠ l.h → r.1.nx x = m.nx x)
    ∧ r.1.pv a.h = pk ∧ r.1.pv b.h = qj ∧ r.1.pv p1 = a.h ∧ r.1.pv q1 = b.h ∧ r.1.pv l.h = l.h
    ∧ (∀ x, x ≠ a.h → x ≠ b.h → x ≠ p1 → x ≠ q1 → x ≠ l.h → r.1.pv x = m.pv x) := by
  simp only [splitLinks, init, upd]
  grind

theorem splitLinks_spec {m : M2} {l a b : Hd} {pre post : List Nat}
    (h : IsDL m l (pre ++ post)) (hpre : pre ≠ []) (hpost : post ≠ [])
    (ha : a.h ∉ l.h :: (pre ++ post)) (hb : b.h ∉ l.h :: (pre ++ post)) (hab : a.h ≠ b.h)
    (haz : a.h ≠ 0) (hbz : b.h ≠ 0) (hac : a.size = pre.length) :
    let r := splitLinks m l a b (lastOr l.h pre)
    IsDL r.1 r.2.1 [] ∧ r.2.1.h = l.h ∧ IsDL r.1 r.2.2.1 pre ∧ r.2.2.1.h = a.h
    ∧ IsDL r.1 r.2.2.2 post ∧ r.2.2.2.h = b.h
    ∧ ∀ x, x ∉ l.h :: (pre ++ post) → x ≠ a.h → x ≠ b.h → r.1.nx x = m.nx x ∧ r.1.pv x = m.pv x := by
  obtain ⟨hnd1, hnd2, hdisj⟩ := nodup_split h.nodup
  have hlpre : l.h ∉ pre := (List.nodup_cons.mp hnd1).1
  obtain ⟨p1, hp1⟩ : ∃ p, p = headOr l.h pre := ⟨_, rfl⟩
  obtain ⟨pk, hpk⟩ : ∃ p, p = lastOr l.h pre := ⟨_, rfl⟩
  obtain ⟨q1, hq1⟩ : ∃ p, p = headOr l.h post := ⟨_, rfl⟩
  obtain ⟨qj, hqj⟩ : ∃ p, p = lastOr l.h post := ⟨_, rfl⟩
  have mp1 : p1 ∈ pre := hp1 ▸ headOr_mem_of_ne_nil l.h hpre
  have mpk : pk ∈ pre := hpk ▸ lastOr_mem_of_ne_nil l.h hpre
  have mq1 : q1 ∈ post := hq1 ▸ headOr_mem_of_ne_nil l.h hpost
  have mqj : qj ∈ post := hqj ▸ lastOr_mem_of_ne_nil l.h hpost
  obtain ⟨fA, fB⟩ := Seg_append_last.mp h.fwd
  have hbw : Seg m.pv l.h (post.reverse ++ pre.reverse) l.h := by simpa using h.bwd
  obtain ⟨bB, bA⟩ := Seg_append_last.mp hbw
  rw [lastOr_reverse, ← hq1] at bB bA
  rw [← hpk] at fA fB ⊢
  have hnl : m.nx l.h = p1 := by rw [h.head_links.1, headOr_append_of_ne_nil hpre, hp1]
  have hnk : m.nx pk = q1 := by rw [hpk, Seg_at h.fwd, hq1]
  have hpl : m.pv l.h = qj := by rw [h.head_links.2, lastOr_append_of_ne_nil l.h l.h pre post hpost, hqj]
  have hpq : m.pv q1 = pk := by
    have := Seg_at (pre := []) (post := pre.reverse) bA
    rw [headOr_reverse, ← hpk] at this; exact this
  have nA : ∀ x ∈ pre, (x ≠ a.h ∧ x ≠ b.h ∧ x ≠ l.h) ∧ x ∉ post := fun x hx =>
    ⟨⟨fun e => ha (e ▸ by simp [hx]), fun e => hb (e ▸ by simp [hx]), fun e => hlpre (e ▸ hx)⟩,
      hdisj x (by simp [hx])⟩
  have nB : ∀ x ∈ post, (x ≠ a.h ∧ x ≠ b.h ∧ x ≠ l.h) ∧ x ∉ pre := fun x hx =>
    ⟨⟨fun e => ha (e ▸ by simp [hx]), fun e => hb (e ▸ by simp [hx]), fun e => hdisj l.h (by simp) (e ▸ hx)⟩,
      fun hm => (nA x hm).2 hx⟩
  obtain ⟨nx_a, nx_b, nx_pk, nx_qj, nx_l, nx_o, pv_a, pv_b, pv_p1, pv_q1, pv_l, pv_o⟩ :=
    splitLinks_mem m l a b p1 pk q1 qj hnl hnk hpl hab (fun e => ha (by simp [e])) (fun e => hb (by simp [e]))
      (nA _ mp1).1 (nA _ mpk).1 (nB _ mq1).1 (nB _ mqj).1
      (fun e => (nA _ mpk).2 (e ▸ mqj)) (fun e => (nA _ mp1).2 (e ▸ mq1))
  intro r
  have e : r = splitLinks m l a b pk := rfl
  clear_value r
  rw [← e] at nx_a nx_b nx_pk nx_qj nx_l nx_o pv_a pv_b pv_p1 pv_q1 pv_l pv_o
  have h1 : r.2.1 = { h := l.h, size := 0 } := e ▸ rfl
  have h2 : r.2.2.1 = a := e ▸ rfl
  have h3 : r.2.2.2 = { b with size := l.size - a.size } := e ▸ rfl
  rw [h1, h2, h3]
  refine ⟨⟨nx_l, pv_l, by simp, h.hnz, rfl⟩, rfl, ?_, rfl, ?_, rfl, ?_⟩
  · -- the stretch `pre` between `l.h` and `q1`, closed on `a.h`
    refine IsDL.of_stretch (hnk ▸ fA) bA hpre
      (fun hm => (nA _ hm).1.1 rfl) (List.nodup_cons.mp hnd1).2 haz hac
      (nx_a.trans hnl.symm) (by rw [hpq]; exact nx_pk) (fun x hx hne => ?_)
      (pv_a.trans hpq.symm) (by rw [hnl]; exact pv_p1) (fun x hx hne => ?_)
    · exact nx_o x (nA x hx).1.1 (nA x hx).1.2.1 (hpq ▸ hne) (fun e => (nA x hx).2 (e ▸ mqj)) (nA x hx).1.2.2
    · exact pv_o x (nA x hx).1.1 (nA x hx).1.2.1 (hnl ▸ hne) (fun e => (nA x hx).2 (e ▸ mq1)) (nA x hx).1.2.2
  · -- the stretch `post` between `pk` and `l.h`, closed on `b.h`
    refine IsDL.of_stretch fB (hpq ▸ bB) hpost (fun hm => (nB _ hm).1.2.1 rfl) hnd2 hbz
      (by show l.size - a.size = post.length; rw [h.size, hac, List.length_append]; omega)
      (nx_b.trans hnk.symm) (by rw [hpl]; exact nx_qj) (fun x hx hne => ?_)
      (pv_b.trans hpl.symm) (by rw [hnk]; exact pv_q1) (fun x hx hne => ?_)
    · exact nx_o x (nB x hx).1.1 (nB x hx).1.2.1 (fun e => (nB x hx).2 (e ▸ mpk)) (hpl ▸ hne) (nB x hx).1.2.2
    · exact pv_o x (nB x hx).1.1 (nB x hx).1.2.1 (fun e => (nB x hx).2 (e ▸ mp1)) (hnk ▸ hne) (nB x hx).1.2.2
  · intro x hx hxa hxb
    have hxA : ∀ y ∈ pre, x ≠ y := fun y hy e => hx (e ▸ by simp [hy])
    have hxB : ∀ y ∈ post, x ≠ y := fun y hy e => hx (e ▸ by simp [hy])
    have hxl : x ≠ l.h := fun e => hx (by simp [e])
    exact ⟨nx_o x hxa hxb (hxA _ mpk) (hxB _ mqj) hxl, pv_o x hxa hxb (hxA _ mp1) (hxB _ mq1) hxl⟩

/-! The three phases of the sort in the vocabulary of `Cstl.ListG` (`SList/SortG.lean`). -/

/-- `n = a->h.n; __cstl_dlist_erase(a, n); __cstl_dlist_insert(l, l->h.p, n)` -/
def move (m : M2) (l a : Hd) : Option (M2 × Hd × Hd) :=
  let n := m.nx a.h
  let r1 := erase m a n
  let r2 := insert r1.1 l (r1.1.pv l.h) n
  some (r2.1, r2.2, r1.2)

/-- `cstl_dlist_concat(d, s)`, without the emptied source header -/
def cat (m : M2) (d s : Hd) : M2 × Hd := ((concat m d s).1, (concat m d s).2.1)

/-- the activation at depth `d` up to its first recursive call -/
def split (tmp : Nat → Nat × Nat) (f d : Nat) (m : M2) (l : Hd) : Option (M2 × Hd × Hd × Hd) :=
  let ra := init m (tmp d).1
  let rb := init ra.1 (tmp d).2
  match Cstl.SList.splitLoop f rb.1.nx (l.size / 2) ra.2.size l.h with
  | none => none
  | some (cnt, t) => some (splitLinks rb.1 l { ra.2 with size := cnt } rb.2 t)

theorem move_spec {m : M2} {l a : Hd} {out as : List Nat} {x : Nat} (hl : IsDL m l out)
    (ha : IsDL m a (x :: as)) (dla : ∀ z ∈ l.h :: out, z ∉ a.h :: x :: as) :
    ∃ m' l' a', move m l a = some (m', l', a') ∧ l'.h = l.h ∧ a'.h = a.h
      ∧ IsDL m' l' (out ++ [x]) ∧ IsDL m' a' as
      ∧ ∀ z, z ∉ l.h :: out → z ∉ a.h :: x :: as → rd m' z = rd m z := by
  have hax : m.nx a.h = x := ha.fwd.1
  have hxa : x ∉ a.h :: as := (nodup_remove_mid (pre := []) ha.nodup).2
  obtain ⟨ha1, fr1⟩ := erase_frame (pre := []) ha
  have hl1 : IsDL (erase m a x).1 l out := hl.frame fun z hz => fr1 z (dla z hz)
  obtain ⟨hl2, fr2⟩ := pushBack_spec hl1 (fun hm => dla x hm (by simp)) (ha.nonzero x (by simp))
  refine ⟨_, _, _, by rw [move, hax]; rfl, by rfl, by rfl, hl2, ?_, ?_⟩
  · exact ha1.frame fun z hz => fr2 z (fun hm => dla z hm (mem_cons_skip hz)) fun e => hxa (e ▸ hz)
  · intro z h1 h2
    have g2 := fr2 z h1 fun e => h2 (by simp [e])
    exact rd_eq.mpr ⟨g2.1.trans (fr1 z h2).1, g2.2.trans (fr1 z h2).2⟩

theorem cat_spec {m : M2} {d s : Hd} {xs ys : List Nat} (hd : IsDL m d xs) (hs : IsDL m s ys)
    (hdis : ∀ z ∈ d.h :: xs, z ∉ s.h :: ys) :
    IsDL (cat m d s).1 (cat m d s).2 (xs ++ ys) ∧ (cat m d s).2.h = d.h
      ∧ ∀ z, z ∉ d.h :: xs → z ∉ s.h :: ys → rd (cat m d s).1 z = rd m z := by
  obtain ⟨c1, _, c3, _, c5⟩ := concat_spec hd hs hdis
  exact ⟨c1, c3, fun z h1 h2 => rd_eq.mpr (c5 z h1 h2)⟩

theorem split_spec (tmp : Nat → Nat × Nat) {f d : Nat} {m : M2} {l : Hd} {pre post : List Nat}
    (h : IsDL m l (pre ++ post)) (hpre : pre ≠ []) (hpost : post ≠ [])
    (hk : pre.length = (pre ++ post).length / 2) (hf : (pre ++ post).length ≤ f)
    (hfr : Fresh tmp d (l.h :: (pre ++ post))) :
    ∃ r, split tmp f d m l = some r ∧ IsDL r.1 r.2.1 [] ∧ r.2.1.h = l.h
      ∧ IsDL r.1 r.2.2.1 pre ∧ r.2.2.1.h = (tmp d).1 ∧ IsDL r.1 r.2.2.2 post ∧ r.2.2.2.h = (tmp d).2
      ∧ ∀ z, z ∉ l.h :: (pre ++ post) → z ≠ (tmp d).1 → z ≠ (tmp d).2 → rd r.1 z = rd m z := by
  have hz := hfr.nz d (Nat.le_refl d)
  have hs0u := hfr.dis _ (Scratch.here1 tmp d)
  have hs1u := hfr.dis _ (Scratch.here2 tmp d)
  have fr2 : ∀ z, z ≠ (tmp d).1 → z ≠ (tmp d).2 →
      (init (init m (tmp d).1).1 (tmp d).2).1.nx z = m.nx z
      ∧ (init (init m (tmp d).1).1 (tmp d).2).1.pv z = m.pv z :=
    fun z h0 h1 => ⟨(upd_other _ _ _ _ h1).trans (upd_other _ _ _ _ h0),
      (upd_other _ _ _ _ h1).trans (upd_other _ _ _ _ h0)⟩
  have h2 : IsDL (init (init m (tmp d).1).1 (tmp d).2).1 l (pre ++ post) :=
    h.frame fun z hz => fr2 z (fun e => hs0u (e ▸ hz)) (fun e => hs1u (e ▸ hz))
  have e0 : splitLoop f (init (init m (tmp d).1).1 (tmp d).2).1.nx (l.size / 2)
      (init m (tmp d).1).2.size l.h = some (l.size / 2, lastOr l.h pre) :=
    splitLoop_spec f (l.size / 2) 0 h2.fwd (by rw [h.size]; omega) (by omega)
  obtain ⟨hL0, hLh, hA0, hAh, hB0, hBh, frS⟩ :=
    splitLinks_spec (a := { (init m (tmp d).1).2 with size := l.size / 2 })
      (b := (init (init m (tmp d).1).1 (tmp d).2).2) h2 hpre hpost hs0u hs1u (hfr.ne d (Nat.le_refl d)) hz.1 hz.2
      (by show l.size / 2 = pre.length; rw [h.size]; omega)
  exact ⟨_, by rw [split, e0], hL0, hLh, hA0, hAh, hB0, hBh, fun z hx h0 h1 =>
    rd_eq.mpr ⟨(frS z hx h0 h1).1.trans (fr2 z h0 h1).1, (frS z hx h0 h1).2.trans (fr2 z h0 h1).2⟩⟩

theorem mergeLoop_zero (cmp : Nat → Nat → Int) (m : M2) (l a b : Hd) :
    mergeLoop cmp 0 m l a b = if a.size > 0 ∧ b.size > 0 then none else some (m, l, a, b) := by
  rw [mergeLoop]

theorem mergeLoop_succ (cmp : Nat → Nat → Int) (f : Nat) (m : M2) (l a b : Hd) :
    mergeLoop cmp (f + 1) m l a b
      = ListG.mergeStep Hd.size (fun m l => m.nx l.h) move cmp (mergeLoop cmp f) m l a b := by
  rw [mergeLoop]; rfl

theorem sortL_succ (cmp : Nat → Nat → Int) (tmp : Nat → Nat × Nat) (f d : Nat) (m : M2) (l : Hd) :
    sortL cmp tmp (f + 1) d m l
      = ListG.sortStep Hd.size (split tmp f) cat (mergeLoop cmp f) (sortL cmp tmp f) d m l := by
  rw [sortL, ListG.sortStep, split]
  dsimp only
  cases splitLoop f _ _ _ _ <;> dsimp only
  cases sortL cmp tmp f (d + 1) _ _ <;> dsimp only
  cases sortL cmp tmp f (d + 1) _ _ <;> dsimp only
  cases mergeLoop cmp f _ _ _ _ <;> rfl

theorem mergeLoop_spec (cmp : Nat → Nat → Int) (key : Nat → Int) (hck : ∀ x y, cmp x y ≤ 0 ↔ key x ≤ key y)
    (fuel : Nat) {m : M2} {l a b : Hd} {out as bs : List Nat}
    (I : ListG.Merging IsDL Hd.h m l a b out as bs) (hf : as.length + bs.length ≤ fuel) :
    ∃ m' l' a' b' out' as' bs', mergeLoop cmp fuel m l a b = some (m', l', a', b')
      ∧ ListG.Merging IsDL Hd.h m' l' a' b' out' as' bs' ∧ l'.h = l.h ∧ a'.h = a.h ∧ b'.h = b.h
      ∧ (as' = [] ∨ bs' = []) ∧ out' ++ as' ++ bs' = out ++ merge key as bs
      ∧ (∀ x, x ∉ l.h :: out → x ∉ a.h :: as → x ∉ b.h :: bs → m'.nx x = m.nx x ∧ m'.pv x = m.pv x) := by
  simpa only [rd_eq] using ListG.mergeLoop_spec (rd := rd) (fun m l => m.nx l.h) @IsDL.frame_rd @IsDL.nodup
    @IsDL.size (fun _ _ _ _ h => h.fwd.1) move @move_spec cmp key hck (mergeLoop cmp) (mergeLoop_zero cmp)
    (mergeLoop_succ cmp) fuel I hf

/-- **Refinement.**  On a represented list with fresh temporary heads and
enough fuel the link-level sort finishes, keeps the list's head node, and ends
in a state that represents — in both directions — exactly the sequence
computed by the sequence-level model `msort`.  It writes only the list's own
nodes and temporary heads of depth `d` or deeper. -/
theorem sortL_refines (cmp : Nat → Nat → Int) (key : Nat → Int) (hck : ∀ x y, cmp x y ≤ 0 ↔ key x ≤ key y)
    (tmp : Nat → Nat × Nat) (fuel d : Nat) {m : M2} {l : Hd} {xs : List Nat}
    (h : IsDL m l xs) (hfr : Fresh tmp d (l.h :: xs)) (hf : xs.length < fuel) :
    ∃ m' l', sortL cmp tmp fuel d m l = some (m', l') ∧ l'.h = l.h
      ∧ IsDL m' l' (msort key xs.length xs)
      ∧ ∀ x, x ∉ l.h :: xs → ¬ Scratch tmp d x → m'.nx x = m.nx x ∧ m'.pv x = m.pv x := by
  simpa only [rd_eq] using ListG.sortL_refines (rd := rd) (fun m l => m.nx l.h) @IsDL.frame_rd @IsDL.nodup
    @IsDL.size (fun _ _ _ _ h => h.fwd.1) tmp (split tmp) (@split_spec tmp) move @move_spec cat @cat_spec cmp key
    hck (mergeLoop cmp) (mergeLoop_zero cmp) (mergeLoop_succ cmp) (sortL cmp tmp) (sortL_succ cmp tmp) fuel d h hfr hf

/-- **C12, sort at link level.**  The conclusion of `sort_spec` holds for the
link-level model of the C function: the result represents, in both
directions, an ordered permutation of the same nodes; only the list's nodes
and the temporary heads are written. -/
theorem sortL_spec (cmp : Nat → Nat → Int) (key : Nat → Int) (hck : ∀ x y, cmp x y ≤ 0 ↔ key x ≤ key y)
    (tmp : Nat → Nat × Nat) (d : Nat) {m : M2} {l : Hd} {xs : List Nat}
    (h : IsDL m l xs) (hfr : Fresh tmp d (l.h :: xs)) :
    ∃ m' l', sortL cmp tmp (xs.length + 1) d m l = some (m', l') ∧
      let ys := if l.size > 1 then msort key xs.length xs else xs
      IsDL m' l' ys ∧ ys.Perm xs ∧ SortedBy key ys ∧ l'.h = l.h
      ∧ ∀ a, a ∉ l.h :: xs → ¬ Scratch tmp d a → m'.nx a = m.nx a ∧ m'.pv a = m.pv a := by
  obtain ⟨m', l', e, hh, hs, fr⟩ := sortL_refines cmp key hck tmp (xs.length + 1) d h hfr (by omega)
  refine ⟨m', l', e, ?_⟩
  intro ys
  have hys : ys = msort key xs.length xs := msort_guard key xs h.size
  rw [hys]
  exact ⟨hs, msort_perm key _ xs, msort_sorted key _ xs (Nat.le_refl _), hh, fr⟩

/-- **link-level sort = sequence-level model.**  The link-level sort ends with
the same header as the sequence-level model `sort` of `Model.lean` and with
the same two link memories everywhere except on the temporary heads. -/
theorem sortL_eq_sort (cmp : Nat → Nat → Int) (key : Nat → Int) (hck : ∀ x y, cmp x y ≤ 0 ↔ key x ≤ key y)
    (tmp : Nat → Nat × Nat) (d : Nat) {m : M2} {l : Hd} {xs : List Nat}
    (h : IsDL m l xs) (hfr : Fresh tmp d (l.h :: xs)) :
    ∃ m' l', sortL cmp tmp (xs.length + 1) d m l = some (m', l') ∧ l' = (sort m l key).2
      ∧ ∀ a, ¬ Scratch tmp d a → m'.nx a = (sort m l key).1.nx a ∧ m'.pv a = (sort m l key).1.pv a := by
  obtain ⟨m', l', e, s1, _, _, hh, fr⟩ := sortL_spec cmp key hck tmp d h hfr
  obtain ⟨t1, tp, _, tfr⟩ := sort_spec h key
  -- both represent the same sequence on the head node `l.h`
  obtain ⟨el, em⟩ := t1.unique s1 (hh.trans (sort_hd m l key).symm)
  refine ⟨m', l', e, el, fun a ha => ?_⟩
  by_cases hm : a ∈ l.h :: xs
  · exact em a (sort_hd m l key ▸ ((tp.cons l.h).mem_iff.mpr hm))
  · rw [(fr a hm ha).1, (fr a hm ha).2, (tfr a hm).1, (tfr a hm).2]; exact ⟨rfl, rfl⟩

/-- non-vacuity, and the model runs: the four-element list `[12, 10, 13, 11]`
(keys = addresses) is sorted by the link-level function; both walks agree -/
example :
    let s0 := init { nx := fun _ => 0, pv := fun _ => 0 } 1
    let s1 := pushBack s0.1 s0.2 12
    let s2 := pushBack s1.1 s1.2 10
    let s3 := pushBack s2.1 s2.2 13
    let s4 := pushBack s3.1 s3.2 11
    (sortL (fun a b => (a : Int) - b) (fun e => (100 + 2 * e, 101 + 2 * e)) 5 0 s4.1 s4.2).map
        (fun r => (walk r.1.nx r.2.h 5 r.2.h, walk r.1.pv r.2.h 5 r.2.h, r.2.size))
      = some ([10, 11, 12, 13], [13, 12, 11, 10], 4) := by
  decide

end Cstl.DList
