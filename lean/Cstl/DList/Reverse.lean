import Cstl.DList.Lemmas
/-
`cstl_dlist_reverse`: the main loop exchanges the POSITIONS of the first and
last node of the still unreversed middle part of the ring and moves inwards;
an epilogue treats a remaining adjacent pair.  (Not to be confused with
`cstl_dlist_swap`, which exchanges the contents of two lists: `swap_spec` in
`Props.lean`.)
-/
namespace Cstl.DList
open Cstl.SList

theorem ne_lastOr {x j : Nat} {M : List Nat} (h1 : x ≠ j) (h2 : x ∉ M) : x ≠ lastOr j M :=
  fun e => (List.mem_cons.mp (e ▸ lastOr_mem j M)).elim h1 h2

/-- exchanging two nodes `i`, `j` of a chain (one link field), `M` being the
nodes between them; `headOr i M` is the old successor of `i`, or `i` itself
when the two are neighbours -/
theorem Seg_exchange {f f' : Mem} {h i j z : Nat} {A M B : List Nat}
    (hs : Seg f h (A ++ i :: (M ++ j :: B)) z)
    (hnd : (h :: (A ++ i :: (M ++ j :: B))).Nodup)
    (ha : f' (lastOr h A) = j) (hj : f' j = headOr i M) (hc : f' (lastOr j M) = i)
    (hi : f' i = headOr z B)
    (ho : ∀ x, x ≠ lastOr h A → x ≠ j → x ≠ lastOr j M → x ≠ i → f' x = f x) :
    Seg f' h (A ++ j :: (M ++ i :: B)) z := by
  obtain ⟨hij, hndA, hndM, sepA, sepM, sepB⟩ := nodup_parts hnd
  rw [Seg_append] at hs
  obtain ⟨sA, hiz, s2⟩ := hs
  rw [Seg_append] at s2
  obtain ⟨sM, hjz, sB⟩ := s2
  rw [Seg_append]
  refine ⟨?_, hjz, ?_⟩
  · refine Seg_relast sA hndA ha fun x hx e => ?_
    exact ho x e (sepA x hx).2.1 (ne_lastOr (sepA x hx).2.1 (sepA x hx).2.2) (sepA x hx).1
  · rw [Seg_append]
    refine ⟨?_, hiz, ?_⟩
    · by_cases hM : M = []
      · subst hM; exact hc
      · refine Seg_reroute sM hM (List.nodup_cons.mp hndM).2 ?_ (lastOr_of_ne_nil i j hM ▸ hc) fun x hx e => ?_
        · rw [hj, headOr_of_ne_nil i j hM]; exact (Seg_at (pre := []) sM).symm
        · exact ho x (fun e' => (sepA _ (lastOr_mem h A)).2.2 (e' ▸ hx)) (sepM x hx).2
            (lastOr_of_ne_nil i j hM ▸ e) (sepM x hx).1
    · refine Seg_transfer sB (hi.trans (Seg_at (pre := []) sB).symm) fun x hx => ?_
      exact ho x (fun e => (sepB x hx).2.2.2 (e ▸ lastOr_mem h A)) (sepB x hx).2.1
        (ne_lastOr (sepB x hx).2.1 (sepB x hx).2.2.1) (sepB x hx).1

/-- the body of the main loop of `cstl_dlist_reverse` as one memory
transformer (same term as in `revLoop`) -/
def revBody (m : M2) (i j : Nat) : M2 :=
  let nx1 := upd m.nx (m.pv i) j
  let pv1 := upd m.pv (nx1 i) j
  let pv2 := upd pv1 (nx1 j) i
  let nx2 := upd nx1 (pv2 j) i
  swapNodes { nx := nx2, pv := pv2 } i j

theorem revLoop_step (f : Nat) (m : M2) (i j : Nat) (hc : i ≠ j ∧ m.nx i ≠ j) :
    revLoop (f + 1) m i j = revLoop f (revBody m i j) ((revBody m i j).nx j) ((revBody m i j).pv i) := by
  rw [revLoop, if_pos hc]; rfl

theorem revLoop_exit (f : Nat) (m : M2) (i j : Nat) (hc : ¬ (i ≠ j ∧ m.nx i ≠ j)) :
    revLoop f m i j = some (m, i, j) := by
  cases f <;> simp only [revLoop, hc, if_false]

theorem perm_exchange (h i j : Nat) (A M B : List Nat) :
    (h :: (A ++ j :: (M ++ i :: B))).Perm (h :: (A ++ i :: (M ++ j :: B))) := by
  refine List.Perm.cons _ (List.Perm.append_left _ ?_)
  have p1 : (j :: (M ++ i :: B)).Perm (j :: i :: (M ++ B)) := (List.perm_middle).cons j
  have p2 : (i :: (M ++ j :: B)).Perm (i :: j :: (M ++ B)) := (List.perm_middle).cons i
  exact p1.trans ((List.Perm.swap i j _).trans p2.symm)

/-- `Seg_exchange` in both directions -/
theorem IsDL.exchange {m m' : M2} {l : Hd} {A M B : List Nat} {i j : Nat}
    (h : IsDL m l (A ++ i :: (M ++ j :: B)))
    (n1 : m'.nx (lastOr l.h A) = j) (n2 : m'.nx j = headOr i M) (n3 : m'.nx (lastOr j M) = i)
    (n4 : m'.nx i = headOr l.h B)
    (no : ∀ x, x ≠ lastOr l.h A → x ≠ j → x ≠ lastOr j M → x ≠ i → m'.nx x = m.nx x)
    (p1 : m'.pv (headOr l.h B) = i) (p2 : m'.pv i = lastOr j M) (p3 : m'.pv (headOr i M) = j)
    (p4 : m'.pv j = lastOr l.h A)
    (po : ∀ x, x ≠ headOr l.h B → x ≠ i → x ≠ headOr i M → x ≠ j → m'.pv x = m.pv x) :
    IsDL m' l (A ++ j :: (M ++ i :: B)) := by
  have hnd := h.nodup
  refine ⟨Seg_exchange h.fwd hnd n1 n2 n3 n4 no, ?_, ?_, h.hnz, ?_⟩
  · have hb : Seg m.pv l.h (B.reverse ++ j :: (M.reverse ++ i :: A.reverse)) l.h := by
      simpa using h.bwd
    have hnd' : (l.h :: (B.reverse ++ j :: (M.reverse ++ i :: A.reverse))).Nodup := by
      simpa using nodup_reverse_cons hnd
    have := Seg_exchange (f' := m'.pv) hb hnd' (by rw [lastOr_reverse]; exact p1) (by rw [headOr_reverse]; exact p2)
      (by rw [lastOr_reverse]; exact p3) (by rw [headOr_reverse]; exact p4)
      (by rw [lastOr_reverse, lastOr_reverse]; exact po)
    simpa using this
  · exact (perm_exchange l.h i j A M B).nodup_iff.mpr hnd
  · have := h.size; simp at this ⊢; omega

theorem IsDL.ends {m : M2} {l : Hd} {A M B : List Nat} {i j : Nat} (h : IsDL m l (A ++ i :: (M ++ j :: B))) :
    m.pv i = lastOr l.h A ∧ m.nx j = headOr l.h B
    ∧ (lastOr l.h A ≠ i ∧ lastOr l.h A ≠ j ∧ lastOr l.h A ∉ M)
    ∧ (headOr l.h B ≠ i ∧ headOr l.h B ≠ j ∧ headOr l.h B ∉ M)
    ∧ ∀ x, x ∉ l.h :: (A ++ i :: (M ++ j :: B)) →
        x ≠ lastOr l.h A ∧ x ≠ headOr l.h B ∧ x ≠ i ∧ x ≠ j := by
  obtain ⟨_, _, _, sepA, _, sepB⟩ := nodup_parts h.nodup
  have ma := lastOr_mem l.h A
  have md := headOr_mem l.h B
  refine ⟨h.links.2.1, (show IsDL m l ((A ++ i :: M) ++ j :: B) by simpa using h).links.1, sepA _ ma, ?_,
    fun x hx => ⟨fun e => hx (e ▸ mem_cons_append_left ma), fun e => hx (e ▸ ?_),
      fun e => hx (by simp [e]), fun e => hx (by simp [e])⟩⟩
  · rcases List.mem_cons.mp md with e | hm
    · rw [e]; exact sepA l.h (by simp)
    · exact ⟨(sepB _ hm).1, (sepB _ hm).2.1, (sepB _ hm).2.2.1⟩
  · exact (List.mem_cons.mp md).elim (fun e => by simp [e]) fun hm => by simp [hm]

/-- one iteration exchanges the two (non-adjacent) end nodes `i`, `j` of the
still unreversed middle part, in both directions -/
theorem revBody_spec {m : M2} {l : Hd} {A M B : List Nat} {i j : Nat}
    (h : IsDL m l (A ++ i :: (M ++ j :: B))) (hM : M ≠ []) :
    IsDL (revBody m i j) l (A ++ j :: (M ++ i :: B))
    ∧ (revBody m i j).nx j = headOr j M ∧ (revBody m i j).pv i = lastOr i M
    ∧ (∀ x, x ∉ l.h :: (A ++ i :: (M ++ j :: B)) →
        (revBody m i j).nx x = m.nx x ∧ (revBody m i j).pv x = m.pv x) := by
  -- the four neighbours: a = pred i, b = succ i, c = pred j, d = succ j
  obtain ⟨a, ha⟩ : ∃ a, a = lastOr l.h A := ⟨_, rfl⟩
  obtain ⟨b, hb⟩ : ∃ b, b = headOr i M := ⟨_, rfl⟩
  obtain ⟨c, hc⟩ : ∃ c, c = lastOr j M := ⟨_, rfl⟩
  obtain ⟨d, hd⟩ : ∃ d, d = headOr l.h B := ⟨_, rfl⟩
  have hb' : headOr j M = b := hb ▸ headOr_of_ne_nil j i hM
  have hc' : lastOr i M = c := hc ▸ lastOr_of_ne_nil i j hM
  obtain ⟨e_pvi, e_nxj, sepA, sepD, out⟩ := h.ends
  simp only [← ha, ← hd] at e_pvi e_nxj sepA sepD out
  have e_nxi : m.nx i = b := by rw [h.links.1, headOr_append_cons, hb']
  have e_pvj : m.pv j = c := by
    rw [(show IsDL m l ((A ++ i :: M) ++ j :: B) by simpa using h).links.2.1, lastOr_append_cons, hc']
  obtain ⟨i_j, _, _, _, sepM, _⟩ := nodup_parts h.nodup
  have mb : b ∈ M := hb' ▸ headOr_mem_of_ne_nil j hM
  have mc : c ∈ M := hc' ▸ lastOr_mem_of_ne_nil i hM
  have a_i := sepA.1
  have a_j := sepA.2.1
  have a_c : a ≠ c := fun e => sepA.2.2 (e ▸ mc)
  have b_i := (sepM b mb).1
  have b_j := (sepM b mb).2
  have c_i := (sepM c mc).1
  have c_j := (sepM c mc).2
  have b_d : b ≠ d := fun e => sepD.2.2 (e ▸ mb)
  -- what the body's intermediate memories (`nx1`, `pv2` of `revBody`) hold at `i` and `j`
  have nx1_i : upd m.nx a j i = b := by rw [upd_other _ _ _ _ a_i.symm, e_nxi]
  have nx1_j : upd m.nx a j j = d := by rw [upd_other _ _ _ _ a_j.symm, e_nxj]
  have pv2_j : upd (upd m.pv b j) d i j = c := by
    rw [upd_other _ _ _ _ sepD.2.1.symm, upd_other _ _ _ _ b_j.symm, e_pvj]
  have pv2_i : upd (upd m.pv b j) d i i = a := by
    rw [upd_other _ _ _ _ sepD.1.symm, upd_other _ _ _ _ b_i.symm, e_pvi]
  have e_nx : (revBody m i j).nx = upd (upd (upd (upd m.nx a j) c i) i d) j b := by
    simp only [revBody, swapNodes, e_pvi]
    rw [nx1_i, nx1_j, pv2_j, upd_other _ _ _ _ c_j.symm, upd_other _ _ _ _ c_i.symm, nx1_i, nx1_j]
  have e_pv : (revBody m i j).pv = upd (upd (upd (upd m.pv b j) d i) i c) j a := by
    simp only [revBody, swapNodes, e_pvi]
    rw [nx1_i, nx1_j, pv2_j, pv2_i]
  have no : ∀ x, x ≠ a → x ≠ j → x ≠ c → x ≠ i → (revBody m i j).nx x = m.nx x := fun x x_a x_j x_c x_i => by
    rw [e_nx, upd_other _ _ _ _ x_j, upd_other _ _ _ _ x_i, upd_other _ _ _ _ x_c, upd_other _ _ _ _ x_a]
  have po : ∀ x, x ≠ d → x ≠ i → x ≠ b → x ≠ j → (revBody m i j).pv x = m.pv x := fun x x_d x_i x_b x_j => by
    rw [e_pv, upd_other _ _ _ _ x_j, upd_other _ _ _ _ x_i, upd_other _ _ _ _ x_d, upd_other _ _ _ _ x_b]
  have n2 : (revBody m i j).nx j = b := by rw [e_nx, upd_same]
  have p2 : (revBody m i j).pv i = c := by rw [e_pv, upd_other _ _ _ _ i_j, upd_same]
  refine ⟨h.exchange ?_ (hb ▸ n2) ?_ ?_ (ha ▸ hc ▸ no) ?_ (hc ▸ p2) ?_ ?_ (hd ▸ hb ▸ po), hb' ▸ n2, hc' ▸ p2, ?_⟩
  · rw [← ha, e_nx, upd_other _ _ _ _ a_j, upd_other _ _ _ _ a_i, upd_other _ _ _ _ a_c, upd_same]
  · rw [← hc, e_nx, upd_other _ _ _ _ c_j, upd_other _ _ _ _ c_i, upd_same]
  · rw [← hd, e_nx, upd_other _ _ _ _ i_j, upd_same]
  · rw [← hd, e_pv, upd_other _ _ _ _ sepD.2.1, upd_other _ _ _ _ sepD.1, upd_same]
  · rw [← hb, e_pv, upd_other _ _ _ _ b_j, upd_other _ _ _ _ b_i, upd_other _ _ _ _ b_d, upd_same]
  · rw [← ha, e_pv, upd_same]
  · intro x hx
    obtain ⟨x_a, x_d, x_i, x_j⟩ := out x hx
    exact ⟨no x x_a x_j (fun e => hx (by simp [e, mc])) x_i, po x x_d x_i (fun e => hx (by simp [e, mb])) x_j⟩

/-- main loop of `reverse`: with the ring standing as `A ++ i :: Y ++ B` and
`i`, `lastOr i Y` the first and last node of the middle part, the loop ends
with a middle part of at most two nodes, and reversing that remaining middle
part yields `A ++ (i :: Y).reverse ++ B`. -/
theorem revLoop_spec {l : Hd} (fuel : Nat) {m : M2} {A Y B : List Nat} {i : Nat}
    (h : IsDL m l (A ++ i :: Y ++ B)) (hf : Y.length ≤ fuel) :
    ∃ m' A' i' Y' B', revLoop fuel m i (lastOr i Y) = some (m', i', lastOr i' Y')
      ∧ IsDL m' l (A' ++ i' :: Y' ++ B') ∧ Y'.length ≤ 1
      ∧ A' ++ (i' :: Y').reverse ++ B' = A ++ (i :: Y).reverse ++ B
      ∧ (∀ x, x ∉ l.h :: (A ++ i :: Y ++ B) → m'.nx x = m.nx x ∧ m'.pv x = m.pv x) := by
  induction fuel generalizing m A Y B i with
  | zero =>
    obtain rfl : Y = [] := List.length_eq_zero_iff.mp (Nat.le_zero.mp hf)
    exact ⟨m, A, i, [], B, revLoop_exit _ _ _ _ (by simp), h, by simp, rfl, fun _ _ => ⟨rfl, rfl⟩⟩
  | succ f ih =>
    match Y with
    | [] => exact ⟨m, A, i, [], B, revLoop_exit _ _ _ _ (by simp), h, by simp, rfl, fun _ _ => ⟨rfl, rfl⟩⟩
    | [j] =>
      have h' : IsDL m l (A ++ i :: j :: B) := by simpa using h
      have : m.nx i = j := h'.links.1
      exact ⟨m, A, i, [j], B, revLoop_exit _ _ _ _ (by simp [this]), h, by simp, rfl, fun _ _ => ⟨rfl, rfl⟩⟩
    | b :: y :: R =>
      -- `Y = (b :: M') ++ [j]`: the loop exchanges `i` and `j` and goes on with `b :: M'`
      obtain ⟨M', j, e⟩ := (List.eq_nil_or_concat (y :: R)).resolve_left (by simp)
      rw [List.concat_eq_append] at e
      rw [e] at h hf ⊢
      have h' : IsDL m l (A ++ i :: ((b :: M') ++ j :: B)) := by simpa using h
      obtain ⟨hij, _, _, _, sepM, _⟩ := nodup_parts h'.nodup
      have hnx : m.nx i ≠ j := by rw [h'.links.1]; exact (sepM b (by simp)).2
      obtain ⟨s1, s2, s3, s4⟩ := revBody_spec h' (by simp)
      obtain ⟨m', A', i', Y', B', r1, r2, r3, r4, r5⟩ := ih (m := revBody m i j) (A := A ++ [j]) (i := b) (Y := M')
        (B := i :: B) (by simpa using s1) (by simp at hf; omega)
      refine ⟨m', A', i', Y', B', ?_, r2, r3, ?_, fun x hx => ?_⟩
      · rw [show lastOr i (b :: (M' ++ [j])) = j by simp [lastOr_append_singleton],
          revLoop_step f m i j ⟨hij, hnx⟩, s2, s3]
        exact r1
      · rw [r4]; simp
      · have hx2 : x ∉ l.h :: (A ++ i :: ((b :: M') ++ j :: B)) := by simpa using hx
        have hx1 : x ∉ l.h :: (A ++ [j] ++ b :: M' ++ i :: B) := fun hm =>
          hx2 ((perm_exchange l.h i j A (b :: M') B).mem_iff.mp (by simpa using hm))
        exact ⟨(r5 x hx1).1.trans (s4 x hx2).1, (r5 x hx1).2.trans (s4 x hx2).2⟩

/-- memory after the adjacent-pair epilogue of `reverse` (same term as in `reverse`) -/
def revTailMem (m : M2) (i j : Nat) : M2 :=
  let nx1 := upd m.nx (m.pv i) j
  let pv1 := upd m.pv (nx1 j) i
  let nx2 := upd nx1 i (nx1 j)
  let nx3 := upd nx2 j i
  let pv2 := upd pv1 j (pv1 i)
  let pv3 := upd pv2 i j
  { nx := nx3, pv := pv3 }

theorem revTail_adj {m : M2} {l : Hd} {A B : List Nat} {i j : Nat} (h : IsDL m l (A ++ i :: j :: B)) :
    IsDL (revTailMem m i j) l (A ++ j :: i :: B)
    ∧ (∀ x, x ∉ l.h :: (A ++ i :: j :: B) →
        (revTailMem m i j).nx x = m.nx x ∧ (revTailMem m i j).pv x = m.pv x) := by
  obtain ⟨a, ha⟩ : ∃ a, a = lastOr l.h A := ⟨_, rfl⟩
  obtain ⟨d, hd⟩ : ∃ d, d = headOr l.h B := ⟨_, rfl⟩
  obtain ⟨e_pvi, e_nxj, sepA, sepD, out⟩ := IsDL.ends (M := []) h
  simp only [← ha, ← hd] at e_pvi e_nxj sepA sepD out
  have i_j : i ≠ j := (nodup_parts (M := []) h.nodup).1
  have a_i := sepA.1
  have a_j := sepA.2.1
  have e_nx : (revTailMem m i j).nx = upd (upd (upd m.nx a j) i d) j i := by
    show upd (upd (upd m.nx (m.pv i) j) i (upd m.nx (m.pv i) j j)) j i = _
    rw [e_pvi, upd_other _ _ _ _ a_j.symm, e_nxj]
  have e_pv : (revTailMem m i j).pv = upd (upd (upd m.pv d i) j a) i j := by
    show upd (upd (upd m.pv (upd m.nx (m.pv i) j j) i) j (upd m.pv (upd m.nx (m.pv i) j j) i i)) i j = _
    rw [e_pvi, upd_other _ _ _ _ a_j.symm, e_nxj, upd_other _ _ _ _ sepD.1.symm, e_pvi]
  have no : ∀ x, x ≠ a → x ≠ j → x ≠ i → (revTailMem m i j).nx x = m.nx x := fun x x_a x_j x_i => by
    rw [e_nx, upd_other _ _ _ _ x_j, upd_other _ _ _ _ x_i, upd_other _ _ _ _ x_a]
  have po : ∀ x, x ≠ d → x ≠ i → x ≠ j → (revTailMem m i j).pv x = m.pv x := fun x x_d x_i x_j => by
    rw [e_pv, upd_other _ _ _ _ x_i, upd_other _ _ _ _ x_j, upd_other _ _ _ _ x_d]
  have n2 : (revTailMem m i j).nx j = i := by rw [e_nx, upd_same]
  have p2 : (revTailMem m i j).pv i = j := by rw [e_pv, upd_same]
  refine ⟨IsDL.exchange (M := []) h ?_ n2 n2 ?_ (fun x x_a x_j _ x_i => no x (ha ▸ x_a) x_j x_i) ?_ p2 p2 ?_
    (fun x x_d x_i _ x_j => po x (hd ▸ x_d) x_i x_j), ?_⟩
  · rw [← ha, e_nx, upd_other _ _ _ _ a_j, upd_other _ _ _ _ a_i, upd_same]
  · rw [← hd, e_nx, upd_other _ _ _ _ i_j, upd_same]
  · rw [← hd, e_pv, upd_other _ _ _ _ sepD.1, upd_other _ _ _ _ sepD.2.1, upd_same]
  · rw [← ha, e_pv, upd_other _ _ _ _ i_j.symm, upd_same]
  · intro x hx
    obtain ⟨x_a, x_d, x_i, x_j⟩ := out x hx
    exact ⟨no x x_a x_j x_i, po x x_d x_i x_j⟩

/-- **reverse**: the loop finishes (never `none`), and afterwards the forward
traversal is the mirror image of the old one and the backward traversal the
old forward one; nothing outside the list is written. -/
theorem reverse_spec {m : M2} {l : Hd} {xs : List Nat} (h : IsDL m l xs) :
    ∃ m', reverse m l = some m' ∧ IsDL m' l xs.reverse
      ∧ (∀ x, x ∉ l.h :: xs → m'.nx x = m.nx x ∧ m'.pv x = m.pv x) := by
  match xs with
  | [] =>
    -- the loop exits at once with `i = j = l.h`, and `reverse` runs its adjacent-pair epilogue on that pair
    have hn : m.nx l.h = l.h := h.fwd
    have hp : m.pv l.h = l.h := by simpa using h.bwd
    have e1 : revLoop (l.size + 1) m (m.nx l.h) (m.pv l.h) = some (m, l.h, l.h) := by
      rw [hn, hp]; exact revLoop_exit _ _ _ _ (by simp)
    refine ⟨_, by simp only [reverse, e1]; rw [if_pos hn], ⟨?_, ?_, by simp, h.hnz, h.size⟩, ?_⟩
    · show upd _ l.h l.h l.h = l.h
      exact upd_same _ _ _
    · show upd _ l.h l.h l.h = l.h
      exact upd_same _ _ _
    · intro x hx
      have hxh : x ≠ l.h := by simpa using hx
      simp only [hp, upd_same]
      constructor
      · rw [upd_other _ _ _ _ hxh, upd_other _ _ _ _ hxh, upd_other _ _ _ _ hxh]
      · rw [upd_other _ _ _ _ hxh, upd_other _ _ _ _ hxh, upd_other _ _ _ _ hxh]
  | i :: Y =>
    obtain ⟨m', A', i', Y', B', r1, r2, r3, r4, r5⟩ :=
      revLoop_spec (l := l) (l.size + 1) (A := []) (B := []) (by simpa using h) (by rw [h.size]; simp; omega)
    have r4' : A' ++ (i' :: Y').reverse ++ B' = (i :: Y).reverse := by simpa using r4
    have r5' : ∀ x, x ∉ l.h :: i :: Y → m'.nx x = m.nx x ∧ m'.pv x = m.pv x := fun x hx => r5 x (by simpa using hx)
    have e : revLoop (l.size + 1) m (m.nx l.h) (m.pv l.h) = some (m', i', lastOr i' Y') := by
      rw [h.head_links.1, h.head_links.2]; exact r1
    match Y', r3 with
    | [], _ =>
      have h' : IsDL m' l (A' ++ i' :: B') := by simpa using r2
      have hne : m'.nx i' ≠ i' := fun e =>
        (nodup_remove_mid h'.nodup).2 (mem_cons_append_right (e ▸ h'.links.1 ▸ headOr_mem l.h B'))
      exact ⟨m', by simp [reverse, e, hne], by rw [← r4']; simpa using r2, r5'⟩
    | [j], _ =>
      have h' : IsDL m' l (A' ++ i' :: j :: B') := by simpa using r2
      have he : m'.nx i' = j := h'.links.1
      obtain ⟨t1, t2⟩ := revTail_adj h'
      refine ⟨revTailMem m' i' j, ?_, ?_, fun x hx => ?_⟩
      · simp only [reverse, e, lastOr_cons, lastOr_nil, he, if_true]; rfl
      · rw [← r4']; simpa using t1
      · have hx2 : x ∉ l.h :: (A' ++ i' :: j :: B') := fun hm => hx (by
          have : x ∈ l.h :: (i :: Y).reverse := by
            rw [← r4']; simpa using (perm_exchange l.h i' j A' [] B').mem_iff.mpr hm
          simpa [or_comm] using this)
        exact ⟨(t2 x hx2).1.trans (r5' x hx).1, (t2 x hx2).2.trans (r5' x hx).2⟩

end Cstl.DList
