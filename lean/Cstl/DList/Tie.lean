import Cstl.Gen.DListC
import Cstl.DList.Model
/-
Translator tie for dlist: `Cstl/Gen/DListC.lean` is regenerated from /repo's
src/dlist.c by tools/c2lean.py on every check run; these fixed theorems state,
function by function, that the hand-written model is that translation (some
under a condition the statement names: the clear loop has to finish, `front`
and `back` need a non-empty list; `cstl_dlist_clear` itself, a bare wrapper of
its loop, and this translator's `cstl_dlist_swap` have no theorem here; swap
is tied in `Tie2.lean`).
-/
namespace Cstl.DList.Tie
open Cstl.SList (Mem upd)
open Cstl.DList Cstl.Gen.DListC

theorem insert_tie (m : M2) (l : Hd) (p n : Nat) :
    c_priv_cstl_dlist_insert m.nx m.pv l p n = ((insert m l p n).1.nx, (insert m l p n).1.pv, (insert m l p n).2) := rfl

theorem erase_tie (m : M2) (l : Hd) (n : Nat) :
    c_priv_cstl_dlist_erase m.nx m.pv l n = ((erase m l n).1.nx, (erase m l n).1.pv, (erase m l n).2, n) := rfl

theorem insert_public_tie (m : M2) (l : Hd) (p n : Nat) :
    c_cstl_dlist_insert m.nx m.pv l p n = ((insert m l p n).1.nx, (insert m l p n).1.pv, (insert m l p n).2) := rfl

theorem erase_public_tie (m : M2) (l : Hd) (n : Nat) :
    c_cstl_dlist_erase m.nx m.pv l n = ((erase m l n).1.nx, (erase m l n).1.pv, (erase m l n).2) := rfl

theorem front_tie (m : M2) (l : Hd) :
    front m l = if l.size > 0 then some (c_cstl_dlist_front m.nx m.pv l).2.2.2 else none := by
  simp only [front, c_cstl_dlist_front]; split <;> rfl

theorem back_tie (m : M2) (l : Hd) :
    back m l = if l.size > 0 then some (c_cstl_dlist_back m.nx m.pv l).2.2.2 else none := by
  simp only [back, c_cstl_dlist_back]; split <;> rfl

theorem pushFront_tie (m : M2) (l : Hd) (e : Nat) :
    c_cstl_dlist_push_front m.nx m.pv l e
      = ((pushFront m l e).1.nx, (pushFront m l e).1.pv, (pushFront m l e).2) := rfl

theorem pushBack_tie (m : M2) (l : Hd) (e : Nat) :
    c_cstl_dlist_push_back m.nx m.pv l e
      = ((pushBack m l e).1.nx, (pushBack m l e).1.pv, (pushBack m l e).2) := rfl

theorem popFront_tie (m : M2) (l : Hd) :
    c_cstl_dlist_pop_front m.nx m.pv l
      = ((popFront m l).1.nx, (popFront m l).1.pv, (popFront m l).2.1, ((popFront m l).2.2).getD 0) := by
  simp only [c_cstl_dlist_pop_front, popFront]; split <;> rfl

theorem popBack_tie (m : M2) (l : Hd) :
    c_cstl_dlist_pop_back m.nx m.pv l
      = ((popBack m l).1.nx, (popBack m l).1.pv, (popBack m l).2.1, ((popBack m l).2.2).getD 0) := by
  simp only [c_cstl_dlist_pop_back, popBack]; split <;> rfl

theorem pop_none_iff (m : M2) (l : Hd) :
    ((popFront m l).2.2 = none ↔ ¬ l.size > 0) ∧ ((popBack m l).2.2 = none ↔ ¬ l.size > 0) := by
  simp only [popFront, popBack]; constructor <;> split <;> simp_all

theorem concat_tie (m : M2) (d s : Hd) :
    c_cstl_dlist_concat m.nx m.pv d s
      = ((concat m d s).1.nx, (concat m d s).1.pv, (concat m d s).2.1, (concat m d s).2.2) := by
  simp only [c_cstl_dlist_concat, concat]
  split <;> split <;> simp_all

/-- the main loop of `cstl_dlist_reverse` (the scratch variable `k` is dropped) -/
theorem revLoop_tie (fuel : Nat) (m : M2) (l : Hd) (i j k : Nat) :
    (c_cstl_dlist_reverse_loop1 fuel m.nx m.pv l i j k).map (fun r => (r.1, r.2.1, r.2.2.1, r.2.2.2.1, r.2.2.2.2.1))
      = (revLoop fuel m i j).map (fun r => (r.1.nx, r.1.pv, l, r.2.1, r.2.2)) := by
  induction fuel generalizing m i j k with
  | zero =>
    simp only [c_cstl_dlist_reverse_loop1, revLoop]
    split <;> simp_all
  | succ f ih =>
    simp only [c_cstl_dlist_reverse_loop1, revLoop]
    split
    · exact ih ⟨_, _⟩ _ _ _
    · simp_all

theorem reverse_tie (m : M2) (l : Hd) :
    c_cstl_dlist_reverse (l.size + 1) m.nx m.pv l = (reverse m l).map (fun m' => (m'.nx, m'.pv, l)) := by
  have h := revLoop_tie (l.size + 1) m l (m.nx l.h) (m.pv l.h) 0
  simp only [c_cstl_dlist_reverse, reverse]
  cases hr : revLoop (l.size + 1) m (m.nx l.h) (m.pv l.h) with
  | none =>
    rw [hr, Option.map_none, Option.map_eq_none_iff] at h
    rw [h]; rfl
  | some r =>
    rw [hr] at h
    obtain ⟨⟨gnx, gpv, gl, gi, gj, gk⟩, hg, e⟩ := Option.map_eq_some_iff.mp h
    obtain ⟨rm, ri, rj⟩ := r
    simp only [Prod.mk.injEq] at e
    obtain ⟨e1, e2, e3, e4, e5⟩ := e
    subst e1 e2 e3 e4 e5
    rw [hg]
    simp only
    split <;> rfl

/-- the loop of `cstl_dlist_clear` with a callback that overwrites both links -/
theorem clearLoop_tie (poison : Nat → Nat) (fuel : Nat) (m : M2) (l : Hd) (acc : List Nat)
    (r : Mem × Mem × Hd)
    (hr : c_cstl_dlist_clear_loop1 (fun nx pv c => (upd nx c (poison c), upd pv c (poison c))) fuel m.nx m.pv l = some r) :
    r.1 = (clearLoop poison fuel m l acc).1.nx ∧ r.2.1 = (clearLoop poison fuel m l acc).1.pv
    ∧ r.2.2 = (clearLoop poison fuel m l acc).2.1 := by
  induction fuel generalizing m l acc with
  | zero =>
    simp only [c_cstl_dlist_clear_loop1] at hr
    split at hr
    · cases hr
    · cases hr; simp [clearLoop]
  | succ f ih =>
    simp only [c_cstl_dlist_clear_loop1] at hr
    split at hr
    · rename_i hs
      have := ih ({ nx := upd (erase m l (m.nx l.h)).1.nx (m.nx l.h) (poison (m.nx l.h)),
                    pv := upd (erase m l (m.nx l.h)).1.pv (m.nx l.h) (poison (m.nx l.h)) })
        (erase m l (m.nx l.h)).2 (m.nx l.h :: acc) hr
      simpa [clearLoop, hs] using this
    · rename_i hs
      cases hr; simp [clearLoop, hs]

end Cstl.DList.Tie
