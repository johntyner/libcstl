import Cstl.SList.Lemmas
import Cstl.DList.Model
/-
A circular doubly-linked list is two `Seg` chains (see SList/Lemmas): the `n`
links lead from the head node through `xs` back to the head node, the `p`
links through `xs.reverse`.
-/
namespace Cstl.DList
open Cstl.SList

def headOr (a : Nat) : List Nat → Nat
  | [] => a
  | x :: _ => x

@[simp] theorem headOr_nil (a : Nat) : headOr a [] = a := rfl
@[simp] theorem headOr_cons (a x : Nat) (xs : List Nat) : headOr a (x :: xs) = x := rfl

theorem lastOr_reverse (a : Nat) (xs : List Nat) : lastOr a xs.reverse = headOr a xs := by
  cases xs with
  | nil => rfl
  | cons x xs => simp [lastOr_append_singleton]

theorem headOr_reverse (a : Nat) (xs : List Nat) : headOr a xs.reverse = lastOr a xs := by
  have := lastOr_reverse a xs.reverse
  simpa using this.symm

theorem headOr_append_cons (a y : Nat) (xs ys : List Nat) : headOr a (xs ++ y :: ys) = headOr y xs := by
  cases xs <;> rfl

theorem headOr_mem (a : Nat) (xs : List Nat) : headOr a xs ∈ a :: xs := by
  cases xs <;> simp

theorem headOr_of_ne_nil (a b : Nat) {xs : List Nat} (h : xs ≠ []) : headOr a xs = headOr b xs := by
  cases xs with
  | nil => exact absurd rfl h
  | cons x xs => rfl

theorem headOr_append_of_ne_nil {a : Nat} {xs ys : List Nat} (h : xs ≠ []) :
    headOr a (xs ++ ys) = headOr a xs := by
  cases xs with
  | nil => exact absurd rfl h
  | cons x xs => rfl

theorem headOr_mem_of_ne_nil (a : Nat) {xs : List Nat} (h : xs ≠ []) : headOr a xs ∈ xs := by
  cases xs with
  | nil => exact absurd rfl h
  | cons x xs => exact List.mem_cons_self

theorem Seg_at {f : Mem} {h z : Nat} {pre post : List Nat} (hs : Seg f h (pre ++ post) z) :
    f (lastOr h pre) = headOr z post := by
  rw [Seg_append_last] at hs
  cases post with
  | nil => simpa using hs.2
  | cons y ys => exact hs.2.1

theorem Seg_link {f : Mem} {h n z : Nat} {pre post : List Nat} (hs : Seg f h (pre ++ n :: post) z) :
    f n = headOr z post ∧ f (lastOr h pre) = n := by
  have h1 := Seg_at (pre := pre ++ [n]) (post := post) (by simpa using hs)
  rw [lastOr_append_singleton] at h1
  exact ⟨h1, Seg_at hs⟩

/-- Abstraction: header `l` in memory `m` represents the sequence `xs` (both
directions). -/
structure IsDL (m : M2) (l : Hd) (xs : List Nat) : Prop where
  fwd : Seg m.nx l.h xs l.h
  bwd : Seg m.pv l.h xs.reverse l.h
  nodup : (l.h :: xs).Nodup
  hnz : l.h ≠ 0
  size : l.size = xs.length

theorem IsDL.frame {m m' : M2} {l : Hd} {xs : List Nat} (h : IsDL m l xs)
    (hm : ∀ a ∈ l.h :: xs, m'.nx a = m.nx a ∧ m'.pv a = m.pv a) : IsDL m' l xs :=
  { h with
    fwd := Seg_congr h.fwd fun a ha => (hm a ha).1
    bwd := Seg_congr h.bwd fun a ha => (hm a (by simpa using ha)).2 }

/-- what a memory holds at an address: both links (`IsDL` in the vocabulary of the list interface of
`Cstl.ListG`, `SList/SortG.lean`) -/
def rd (m : M2) (a : Nat) : Nat × Nat := (m.nx a, m.pv a)

theorem rd_eq {m m' : M2} {a : Nat} : rd m' a = rd m a ↔ m'.nx a = m.nx a ∧ m'.pv a = m.pv a :=
  Iff.of_eq (Prod.mk.injEq ..)

theorem IsDL.frame_rd {m m' : M2} {l : Hd} {xs : List Nat} (h : IsDL m l xs)
    (hm : ∀ z ∈ l.h :: xs, rd m' z = rd m z) : IsDL m' l xs :=
  h.frame fun z hz => rd_eq.mp (hm z hz)

theorem IsDL.unique {m m' : M2} {l l' : Hd} {xs : List Nat} (h : IsDL m l xs) (h' : IsDL m' l' xs)
    (hh : l'.h = l.h) : l' = l ∧ ∀ a ∈ l.h :: xs, m'.nx a = m.nx a ∧ m'.pv a = m.pv a := by
  obtain ⟨h1, c1⟩ := l
  obtain ⟨h2, c2⟩ := l'
  cases hh
  exact ⟨by rw [show c2 = _ from h'.size, show c1 = _ from h.size],
    fun a ha => ⟨Seg_unique h.fwd h'.fwd a ha, Seg_unique h.bwd h'.bwd a (by simpa using ha)⟩⟩

theorem nodup_reverse_cons {h : Nat} {xs : List Nat} (hnd : (h :: xs).Nodup) : (h :: xs.reverse).Nodup :=
  ((List.reverse_perm xs).cons h).nodup_iff.mpr hnd

theorem IsDL_init (m : M2) (h : Nat) (hnz : h ≠ 0) : IsDL (init m h).1 (init m h).2 [] :=
  { fwd := by simp [init], bwd := by simp [init], nodup := by simp [init],
    hnz := by simpa [init] using hnz, size := by simp [init] }

theorem IsDL.size_pos_iff {m : M2} {l : Hd} {xs : List Nat} (h : IsDL m l xs) : l.size > 0 ↔ xs ≠ [] := by
  rw [h.size]; exact List.length_pos_iff

theorem IsDL.links {m : M2} {l : Hd} {pre post : List Nat} {n : Nat} (h : IsDL m l (pre ++ n :: post)) :
    m.nx n = headOr l.h post ∧ m.pv n = lastOr l.h pre
    ∧ m.nx (lastOr l.h pre) = n ∧ m.pv (headOr l.h post) = n := by
  have h1 := Seg_link h.fwd
  have hb : Seg m.pv l.h (post.reverse ++ n :: pre.reverse) l.h := by
    have := h.bwd; simpa using this
  have h2 := Seg_link hb
  refine ⟨h1.1, ?_, h1.2, ?_⟩
  · rw [h2.1, headOr_reverse]
  · rw [← lastOr_reverse]; exact h2.2

theorem IsDL.head_links {m : M2} {l : Hd} {xs : List Nat} (h : IsDL m l xs) :
    m.nx l.h = headOr l.h xs ∧ m.pv l.h = lastOr l.h xs := by
  constructor
  · cases xs with
    | nil => simpa using h.fwd
    | cons x xs => exact h.fwd.1
  · have hb := h.bwd
    rw [← headOr_reverse]
    cases hr : xs.reverse with
    | nil => rw [hr] at hb; simpa using hb
    | cons y ys => rw [hr] at hb; exact hb.1

/-- a stretch `ys` of doubly-linked nodes that hangs between `s` and `z` in `m`, closed on the head node of
`t`: `m'` links that node with the two ends of the stretch (`m.nx s` is its first node, `m.pv z` its last) and
agrees with `m` on the other links inside it -/
theorem IsDL.of_stretch {m m' : M2} {s z : Nat} {t : Hd} {ys : List Nat}
    (hf : Seg m.nx s ys z) (hb : Seg m.pv z ys.reverse s) (hne : ys ≠ []) (hty : t.h ∉ ys) (hndy : ys.Nodup)
    (htz : t.h ≠ 0) (hsz : t.size = ys.length)
    (n1 : m'.nx t.h = m.nx s) (n2 : m'.nx (m.pv z) = t.h) (no : ∀ a ∈ ys, a ≠ m.pv z → m'.nx a = m.nx a)
    (p1 : m'.pv t.h = m.pv z) (p2 : m'.pv (m.nx s) = t.h) (po : ∀ a ∈ ys, a ≠ m.nx s → m'.pv a = m.pv a) :
    IsDL m' t ys := by
  have hl : lastOr s ys = m.pv z := by rw [← headOr_reverse]; exact (Seg_at (pre := []) hb).symm
  have hh : lastOr z ys.reverse = m.nx s := by rw [lastOr_reverse]; exact (Seg_at (pre := []) hf).symm
  exact ⟨Seg_reroute hf hne hndy n1 (hl ▸ n2) fun a ha hal => no a ha (hl ▸ hal),
    Seg_reroute hb (by simpa using hne) ((List.reverse_perm _).nodup_iff.mpr hndy) p1 (hh ▸ p2)
      fun a ha hal => po a (List.mem_reverse.mp ha) (hh ▸ hal), List.nodup_cons.mpr ⟨hty, hndy⟩, htz, hsz⟩

theorem IsDL.nonzero {m : M2} {l : Hd} {xs : List Nat} (h : IsDL m l xs) : ∀ x ∈ xs, x ≠ 0 :=
  Seg_nonzero h.fwd

end Cstl.DList
