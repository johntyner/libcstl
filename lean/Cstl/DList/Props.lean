import Cstl.DList.Lemmas
import Cstl.DList.Reverse
import Cstl.DList.Run
import Cstl.SList.Props
/-
Property theorems for the doubly-linked list (C12; the dlist part of C15).
-/
namespace Cstl.DList
open Cstl.SList

/-- insert after position `pre` (after the head node when `pre = []`) -/
theorem insert_spec {m : M2} {l : Hd} {pre post : List Nat} {p n : Nat}
    (h : IsDL m l (pre ++ post)) (hp : p = lastOr l.h pre)
    (hn : n ∉ l.h :: (pre ++ post)) (hnz : n ≠ 0) :
    IsDL (insert m l p n).1 (insert m l p n).2 (pre ++ n :: post)
    ∧ (∀ a, a ≠ p → a ≠ n → (insert m l p n).1.nx a = m.nx a)
    ∧ (∀ a, a ≠ headOr l.h post → a ≠ n → (insert m l p n).1.pv a = m.pv a) := by
  have hnx : m.nx p = headOr l.h post := hp ▸ Seg_at h.fwd
  have hbw : Seg m.pv l.h (post.reverse ++ pre.reverse) l.h := by simpa using h.bwd
  have hpv : m.pv (headOr l.h post) = p := by
    have := Seg_at hbw
    rw [lastOr_reverse, headOr_reverse] at this
    rw [this, hp]
  have e1 : (insert m l p n).1.nx = upd (upd m.nx n (m.nx p)) p n := rfl
  have e2 : (insert m l p n).1.pv = upd (upd m.pv n p) (headOr l.h post) n := by
    show upd (upd m.pv n p) (upd m.nx n (m.nx p) n) n = _
    rw [upd_same, hnx]
  refine ⟨⟨?_, ?_, ?_, h.hnz, ?_⟩, ?_, ?_⟩
  · rw [e1, hp]; exact Seg_insert h.fwd h.nodup hn hnz
  · rw [e2]
    have hnd' : (l.h :: (post.reverse ++ pre.reverse)).Nodup := by
      have := nodup_reverse_cons h.nodup; simpa using this
    have hn' : n ∉ l.h :: (post.reverse ++ pre.reverse) := by
      intro hm; apply hn
      simp only [List.mem_cons, List.mem_append, List.mem_reverse] at hm ⊢
      grind
    have := Seg_insert hbw hnd' hn' hnz
    rw [lastOr_reverse, hpv] at this
    show Seg (upd (upd m.pv n p) (headOr l.h post) n) l.h (pre ++ n :: post).reverse l.h
    simpa using this
  · exact (List.pairwise_middle (l₁ := l.h :: pre) fun e => Ne.symm e).mpr (List.nodup_cons.mpr ⟨hn, h.nodup⟩)
  · show l.size + 1 = (pre ++ n :: post).length
    have := h.size; simp at this ⊢; omega
  · intro a h1 h2; rw [e1, upd_other _ _ _ _ h1, upd_other _ _ _ _ h2]
  · intro a h1 h2; rw [e2, upd_other _ _ _ _ h1, upd_other _ _ _ _ h2]

/-- unlink `n`: both directions represent the sequence without it; only the
links of its two neighbours are written (the node itself is not touched) -/
theorem erase_spec {m : M2} {l : Hd} {pre post : List Nat} {n : Nat}
    (h : IsDL m l (pre ++ n :: post)) :
    IsDL (erase m l n).1 (erase m l n).2 (pre ++ post)
    ∧ (∀ a, a ≠ lastOr l.h pre → (erase m l n).1.nx a = m.nx a)
    ∧ (∀ a, a ≠ headOr l.h post → (erase m l n).1.pv a = m.pv a) := by
  obtain ⟨l1, l2, _, _⟩ := h.links
  have hbw : Seg m.pv l.h (post.reverse ++ n :: pre.reverse) l.h := by simpa using h.bwd
  have hnd' : (l.h :: (post.reverse ++ n :: pre.reverse)).Nodup := by
    have := nodup_reverse_cons h.nodup; simpa using this
  have hne : headOr l.h post ≠ n := by
    have := h.nodup
    intro e
    have hm := headOr_mem l.h post
    rw [e] at hm
    have h2 := (nodup_remove_mid this).2
    apply h2
    rcases List.mem_cons.mp hm with h1 | h1
    · simp [h1]
    · simp [h1]
  have e2 : (erase m l n).1.pv = upd m.pv (headOr l.h post) (m.pv n) := by
    show upd m.pv (m.nx n) (m.pv n) = _
    rw [l1]
  have e1 : (erase m l n).1.nx = upd m.nx (lastOr l.h pre) (m.nx n) := by
    show upd m.nx (upd m.pv (m.nx n) (m.pv n) n) (m.nx n) = _
    rw [l1, upd_other _ _ _ _ (Ne.symm hne), l2]
  refine ⟨⟨?_, ?_, (nodup_remove_mid h.nodup).1, h.hnz, ?_⟩, ?_, ?_⟩
  · rw [e1]; exact Seg_erase h.fwd h.nodup
  · rw [e2]
    have := Seg_erase hbw hnd'
    rw [lastOr_reverse] at this
    show Seg (upd m.pv (headOr l.h post) (m.pv n)) l.h (pre ++ post).reverse l.h
    simpa using this
  · show l.size - 1 = (pre ++ post).length
    have := h.size; simp at this ⊢; omega
  · intro a h1; rw [e1, upd_other _ _ _ _ h1]
  · intro a h1; rw [e2, upd_other _ _ _ _ h1]

theorem insert_frame {m : M2} {l : Hd} {pre post : List Nat} {p n : Nat}
    (h : IsDL m l (pre ++ post)) (hp : p = lastOr l.h pre)
    (hn : n ∉ l.h :: (pre ++ post)) (hnz : n ≠ 0) :
    IsDL (insert m l p n).1 (insert m l p n).2 (pre ++ n :: post)
    ∧ ∀ a, a ∉ l.h :: (pre ++ post) → a ≠ n →
        (insert m l p n).1.nx a = m.nx a ∧ (insert m l p n).1.pv a = m.pv a := by
  obtain ⟨h1, h2, h3⟩ := insert_spec h hp hn hnz
  exact ⟨h1, fun a ha han => ⟨h2 a (fun e => ha (e ▸ hp ▸ mem_cons_append_left (lastOr_mem _ _))) han,
    h3 a (fun e => ha (e ▸ mem_cons_append_right (headOr_mem _ _))) han⟩⟩

theorem erase_frame {m : M2} {l : Hd} {pre post : List Nat} {n : Nat}
    (h : IsDL m l (pre ++ n :: post)) :
    IsDL (erase m l n).1 (erase m l n).2 (pre ++ post)
    ∧ ∀ a, a ∉ l.h :: (pre ++ n :: post) → (erase m l n).1.nx a = m.nx a ∧ (erase m l n).1.pv a = m.pv a := by
  obtain ⟨h1, h2, h3⟩ := erase_spec h
  exact ⟨h1, fun a ha => ⟨h2 a fun e => ha (e ▸ mem_cons_append_left (lastOr_mem _ _)),
    h3 a fun e => ha (e ▸ mem_cons_append_right (mem_cons_skip (headOr_mem _ _)))⟩⟩

/-- `Run.lean` repeats slist's definition, so `SList.insAfterL_spec` serves -/
theorem insAfterL_eq (b e : Nat) (xs : List Nat) : insAfterL b e xs = SList.insAfterL b e xs := by
  induction xs with
  | nil => rfl
  | cons x xs ih => simp only [insAfterL, SList.insAfterL, ih]

theorem insert_of_mem {m : M2} {l : Hd} {xs : List Nat} {b e : Nat} (h : IsDL m l xs) (hb : b ∈ xs)
    (he : e ∉ l.h :: xs) (hez : e ≠ 0) :
    IsDL (insert m l b e).1 (insert m l b e).2 (insAfterL b e xs)
    ∧ ∀ a, a ∉ l.h :: xs → a ≠ e → (insert m l b e).1.nx a = m.nx a ∧ (insert m l b e).1.pv a = m.pv a := by
  obtain ⟨pre, post, rfl, hbpre⟩ := List.eq_append_cons_of_mem hb
  rw [insAfterL_eq, SList.insAfterL_spec b e pre post hbpre]
  simpa using insert_frame (pre := pre ++ [b]) (post := post) (p := b) (by simpa using h)
    (by rw [lastOr_append_singleton]) (by simpa using he) hez

theorem erase_of_mem {m : M2} {l : Hd} {xs : List Nat} {e : Nat} (h : IsDL m l xs) (he : e ∈ xs) :
    IsDL (erase m l e).1 (erase m l e).2 (xs.erase e)
    ∧ ∀ a, a ∉ l.h :: xs → (erase m l e).1.nx a = m.nx a ∧ (erase m l e).1.pv a = m.pv a := by
  obtain ⟨pre, post, rfl, hepre⟩ := List.eq_append_cons_of_mem he
  rw [List.erase_append_right _ hepre, List.erase_cons_head]
  exact erase_frame h

theorem pushFront_spec {m : M2} {l : Hd} {xs : List Nat} {e : Nat}
    (h : IsDL m l xs) (he : e ∉ l.h :: xs) (hnz : e ≠ 0) :
    IsDL (pushFront m l e).1 (pushFront m l e).2 (e :: xs)
    ∧ ∀ a, a ∉ l.h :: xs → a ≠ e → (pushFront m l e).1.nx a = m.nx a ∧ (pushFront m l e).1.pv a = m.pv a :=
  insert_frame (pre := []) (post := xs) h rfl he hnz

theorem pushBack_spec {m : M2} {l : Hd} {xs : List Nat} {e : Nat}
    (h : IsDL m l xs) (he : e ∉ l.h :: xs) (hnz : e ≠ 0) :
    IsDL (pushBack m l e).1 (pushBack m l e).2 (xs ++ [e])
    ∧ ∀ a, a ∉ l.h :: xs → a ≠ e → (pushBack m l e).1.nx a = m.nx a ∧ (pushBack m l e).1.pv a = m.pv a := by
  have h' : IsDL m l (xs ++ []) := by simpa using h
  have := insert_frame (pre := xs) (post := []) (p := m.pv l.h) (n := e) h' h.head_links.2 (by simpa using he) hnz
  simpa [pushBack] using this

theorem popFront_spec {m : M2} {l : Hd} {x : Nat} {xs : List Nat} (h : IsDL m l (x :: xs)) :
    popFront m l = ((erase m l x).1, (erase m l x).2, some x)
    ∧ IsDL (erase m l x).1 (erase m l x).2 xs
    ∧ ∀ a, a ∉ l.h :: x :: xs → (erase m l x).1.nx a = m.nx a ∧ (erase m l x).1.pv a = m.pv a := by
  have hs : l.size > 0 := h.size_pos_iff.mpr (by simp)
  have hx : m.nx l.h = x := h.fwd.1
  exact ⟨by simp [popFront, hs, hx], erase_frame (pre := []) (post := xs) h⟩

theorem popBack_spec {m : M2} {l : Hd} {y : Nat} {ini : List Nat} (h : IsDL m l (ini ++ [y])) :
    popBack m l = ((erase m l y).1, (erase m l y).2, some y)
    ∧ IsDL (erase m l y).1 (erase m l y).2 ini
    ∧ ∀ a, a ∉ l.h :: (ini ++ [y]) → (erase m l y).1.nx a = m.nx a ∧ (erase m l y).1.pv a = m.pv a := by
  have hs : l.size > 0 := h.size_pos_iff.mpr (by simp)
  have hy : m.pv l.h = y := by rw [h.head_links.2, lastOr_append_singleton]
  refine ⟨by simp [popBack, hs, hy], ?_⟩
  simpa using erase_frame (pre := ini) (post := []) h

theorem pop_empty {m : M2} {l : Hd} (h : IsDL m l []) :
    popFront m l = (m, l, none) ∧ popBack m l = (m, l, none) := by
  simp [popFront, popBack, h.size_pos_iff]

theorem front_spec {m : M2} {l : Hd} {xs : List Nat} (h : IsDL m l xs) : front m l = xs.head? := by
  cases xs with
  | nil => simp [front, h.size_pos_iff]
  | cons x xs => simp [front, h.size_pos_iff, h.fwd.1]

theorem back_spec {m : M2} {l : Hd} {xs : List Nat} (h : IsDL m l xs) : back m l = xs.getLast? := by
  rw [lastOr_eq_getLast? l.h xs]
  by_cases hx : xs = [] <;> simp [back, h.size_pos_iff, hx, h.head_links.2]

theorem clearLoop_spec (poison : Nat → Nat) {m : M2} {l : Hd} {xs : List Nat} (fuel : Nat) (acc : List Nat)
    (h : IsDL m l xs) (hf : xs.length ≤ fuel) :
    let r := clearLoop poison fuel m l acc
    r.2.2 = acc.reverse ++ xs ∧ IsDL r.1 r.2.1 [] ∧ r.2.1.h = l.h
    ∧ (∀ e ∈ xs, r.1.nx e = poison e ∧ r.1.pv e = poison e)
    ∧ (∀ a, a ∉ l.h :: xs → r.1.nx a = m.nx a ∧ r.1.pv a = m.pv a) := by
  induction xs generalizing m l fuel acc with
  | nil =>
    have hs : ¬ l.size > 0 := fun hp => h.size_pos_iff.mp hp rfl
    cases fuel <;> simp [clearLoop, hs, h]
  | cons x xs ih =>
    have hs : l.size > 0 := h.size_pos_iff.mpr (by simp)
    cases fuel with
    | zero => simp at hf
    | succ f =>
      have hx : m.nx l.h = x := h.fwd.1
      obtain ⟨e1, e2⟩ := popFront_spec h |>.2
      have hxn : x ∉ l.h :: xs := (nodup_remove_mid (pre := []) h.nodup).2
      let m' : M2 := { nx := upd (erase m l x).1.nx x (poison x), pv := upd (erase m l x).1.pv x (poison x) }
      have h' : IsDL m' (erase m l x).2 xs := e1.frame fun a ha =>
        ⟨upd_other _ _ _ _ fun e => hxn (e ▸ ha), upd_other _ _ _ _ fun e => hxn (e ▸ ha)⟩
      obtain ⟨i1, i2, i3, i4, i5⟩ := ih (m := m') (l := (erase m l x).2) f (x :: acc) h' (by simpa using hf)
      have hstep : clearLoop poison (f + 1) m l acc = clearLoop poison f m' (erase m l x).2 (x :: acc) := by
        rw [clearLoop, if_pos hs, hx]
      simp only [hstep]
      refine ⟨by simp [i1], i2, i3, ?_, ?_⟩
      · intro e he
        rcases List.mem_cons.mp he with rfl | he
        · rw [(i5 e hxn).1, (i5 e hxn).2]; simp [m']
        · exact i4 e he
      · intro a ha
        have hax : a ≠ x := fun e => ha (by simp [e])
        rw [(i5 a fun hm => ha (mem_cons_skip hm)).1, (i5 a fun hm => ha (mem_cons_skip hm)).2]
        exact ⟨(upd_other _ _ _ _ hax).trans (e2 a ha).1, (upd_other _ _ _ _ hax).trans (e2 a ha).2⟩

/-- `clear`: every element is unlinked and then handed to the callback exactly
once, in list order, whatever the callback does to it (`poison` arbitrary);
it is never read or written afterwards; the list ends empty. -/
theorem clear_spec {m : M2} {l : Hd} {xs : List Nat} (h : IsDL m l xs) (poison : Nat → Nat) :
    let r := clear m l poison
    r.2.2 = xs ∧ IsDL r.1 r.2.1 [] ∧ r.2.1.h = l.h
    ∧ (∀ e ∈ xs, r.1.nx e = poison e ∧ r.1.pv e = poison e)
    ∧ (∀ a, a ∉ l.h :: xs → r.1.nx a = m.nx a ∧ r.1.pv a = m.pv a) := by
  have := clearLoop_spec poison l.size [] h (by rw [h.size]; exact Nat.le_refl _)
  simpa [clear] using this

theorem refForeach_sub (visit : Nat → Nat → Int × Bool) (xs : List Nat) (k : Nat) :
    ∀ a ∈ (refForeach visit xs k).2.2, a ∈ xs := by
  induction xs generalizing k with
  | nil => simp [refForeach]
  | cons x xs ih =>
    intro a ha
    simp only [refForeach] at ha
    split at ha
    · split at ha
      · exact List.mem_cons_of_mem _ ha
      · exact ha
    · split at ha
      · exact List.mem_cons_of_mem _ (ih _ a ha)
      · rcases List.mem_cons.mp ha with rfl | ha
        · simp
        · exact List.mem_cons_of_mem _ (ih _ a ha)

theorem eraseP_spec (poison : Nat → Nat) {m : M2} {l : Hd} {pre post : List Nat} {n : Nat}
    (h : IsDL m l (pre ++ n :: post)) :
    IsDL (eraseP poison m l n).1 (eraseP poison m l n).2 (pre ++ post)
    ∧ (∀ a, a ∉ l.h :: (pre ++ n :: post) →
        (eraseP poison m l n).1.nx a = m.nx a ∧ (eraseP poison m l n).1.pv a = m.pv a) := by
  obtain ⟨e1, e2⟩ := erase_frame h
  have hn : n ∉ l.h :: (pre ++ post) := (nodup_remove_mid h.nodup).2
  refine ⟨e1.frame fun a ha => ⟨upd_other _ _ _ _ fun e => hn (e ▸ ha), upd_other _ _ _ _ fun e => hn (e ▸ ha)⟩,
    fun a ha => ?_⟩
  have han : a ≠ n := fun e => ha (by simp [e])
  exact ⟨(upd_other _ _ _ _ han).trans (e2 a ha).1, (upd_other _ _ _ _ han).trans (e2 a ha).2⟩

/-- a sequence in the order in which a traversal in direction `fwd` meets it -/
def dirL (fwd : Bool) (xs : List Nat) : List Nat := if fwd then xs else xs.reverse

@[simp] theorem dirL_true (xs : List Nat) : dirL true xs = xs := rfl
@[simp] theorem dirL_false (xs : List Nat) : dirL false xs = xs.reverse := rfl

theorem IsDL.dir_next {fwd : Bool} {m : M2} {l : Hd} {D rs : List Nat} {c : Nat}
    (h : IsDL m l (dirL fwd (D ++ c :: rs))) : (if fwd then m.nx c else m.pv c) = headOr l.h rs := by
  cases fwd with
  | true => exact h.links.1
  | false =>
    have h' : IsDL m l (rs.reverse ++ c :: D.reverse) := by simpa using h
    exact h'.links.2.1.trans (lastOr_reverse _ _)

theorem eraseP_dir (poison : Nat → Nat) {fwd : Bool} {m : M2} {l : Hd} {D rs : List Nat} {c : Nat}
    (h : IsDL m l (dirL fwd (D ++ c :: rs))) :
    IsDL (eraseP poison m l c).1 (eraseP poison m l c).2 (dirL fwd (D ++ rs))
    ∧ (∀ a, a ∉ l.h :: (D ++ c :: rs) →
        (eraseP poison m l c).1.nx a = m.nx a ∧ (eraseP poison m l c).1.pv a = m.pv a) := by
  cases fwd with
  | true => exact eraseP_spec poison h
  | false =>
    have h' : IsDL m l (rs.reverse ++ c :: D.reverse) := by simpa using h
    obtain ⟨e1, e2⟩ := eraseP_spec poison h'
    refine ⟨by simpa using e1, fun a ha => e2 a ?_⟩
    simp only [List.mem_cons, List.mem_append, List.mem_reverse] at ha ⊢
    grind

/-- what one visit leaves: the visited element stays (it joins the part `D` already
passed) or is unlinked (`eraseP`) -/
theorem IsDL.after_visit (poison : Nat → Nat) {fwd : Bool} {m : M2} {l : Hd} {D rs : List Nat} {c : Nat} (b : Bool)
    (h : IsDL m l (dirL fwd (D ++ c :: rs))) :
    let ml := if b then eraseP poison m l c else (m, l)
    IsDL ml.1 ml.2 (dirL fwd ((if b then D else D ++ [c]) ++ rs)) ∧ ml.2.h = l.h
    ∧ ∀ a, a ∉ l.h :: (D ++ c :: rs) → ml.1.nx a = m.nx a ∧ ml.1.pv a = m.pv a := by
  cases b with
  | true => exact ⟨(eraseP_dir poison h).1, rfl, (eraseP_dir poison h).2⟩
  | false => exact ⟨by simpa using h, rfl, fun _ _ => ⟨rfl, rfl⟩⟩

/-- loop invariant of `foreach` in either direction.  In traversal order the
list stands as `D ++ rest`, `c` is the first node of `rest` (or the head
node), `n` its saved successor. -/
theorem foreachLoop_spec (poison : Nat → Nat) (fwd : Bool) (visit : Nat → Nat → Int × Bool) {m : M2} {l : Hd}
    {D rest : List Nat} (fuel k : Nat) (acc : List Nat) (c n : Nat)
    (h : IsDL m l (dirL fwd (D ++ rest))) (hc : c = headOr l.h rest)
    (hn : n = if fwd then m.nx c else m.pv c) (hf : rest.length < fuel) :
    let r := foreachLoop poison fwd visit fuel m l c n k acc
    let ref := refForeach visit rest k
    r.2.2.1 = acc.reverse ++ ref.1 ∧ r.2.2.2 = ref.2.1 ∧ IsDL r.1 r.2.1 (dirL fwd (D ++ ref.2.2)) ∧ r.2.1.h = l.h
    ∧ (∀ a, a ∉ l.h :: (D ++ rest) → r.1.nx a = m.nx a ∧ r.1.pv a = m.pv a) := by
  induction rest generalizing m l D fuel k acc c n with
  | nil =>
    subst hc
    rw [List.append_nil] at h
    cases fuel <;> simp [foreachLoop, refForeach, h]
  | cons x rs ih =>
    simp only [headOr_cons] at hc
    subst hc
    cases fuel with
    | zero => simp at hf
    | succ f =>
      have hcl : c ≠ l.h := fun e => (List.nodup_cons.mp h.nodup).1 (by cases fwd <;> simp [e])
      have hn' : n = headOr l.h rs := hn.trans h.dir_next
      -- the state after the visit: `c` has joined `D`, or is unlinked
      obtain ⟨ml, hml⟩ : ∃ ml, ml = if (visit k c).2 then eraseP poison m l c else (m, l) := ⟨_, rfl⟩
      obtain ⟨D', hD'⟩ : ∃ D', D' = if (visit k c).2 then D else D ++ [c] := ⟨_, rfl⟩
      obtain ⟨e1, hh, hfr⟩ : IsDL ml.1 ml.2 (dirL fwd (D' ++ rs)) ∧ ml.2.h = l.h
          ∧ ∀ a, a ∉ l.h :: (D ++ c :: rs) → ml.1.nx a = m.nx a ∧ ml.1.pv a = m.pv a := by
        rw [hml, hD']; exact IsDL.after_visit poison (visit k c).2 h
      have hD : ∀ R, D ++ (if (visit k c).2 then R else c :: R) = D' ++ R := fun R => by
        rw [hD']; split <;> simp
      by_cases hr : (visit k c).1 = 0
      · have hstep : foreachLoop poison fwd visit (f + 1) m l c n k acc
            = foreachLoop poison fwd visit f ml.1 ml.2 n (if fwd then ml.1.nx n else ml.1.pv n) (k + 1) (c :: acc) := by
          rw [foreachLoop, if_neg hcl, hml]; simp [hr]
        obtain ⟨i1, i2, i3, i4, i5⟩ := ih (D := D') f (k + 1) (c :: acc) n _ e1 (hh ▸ hn') rfl (by simpa using hf)
        simp only [hstep, refForeach, hr, ne_eq, not_true_eq_false, if_false, hD]
        refine ⟨by simp [i1], i2, i3, i4.trans hh, fun a ha => ?_⟩
        have g := i5 a fun hm => ha (by
          rw [hh, hD'] at hm; split at hm
          · exact (((List.Sublist.refl _).middle c).cons_cons l.h).subset hm
          · simpa using hm)
        exact ⟨g.1.trans (hfr a ha).1, g.2.trans (hfr a ha).2⟩
      · have hstep : foreachLoop poison fwd visit (f + 1) m l c n k acc
            = (ml.1, ml.2, (c :: acc).reverse, (visit k c).1) := by
          rw [foreachLoop, if_neg hcl, hml]; simp [hr]
        simp only [hstep, refForeach, hr, ne_eq, not_false_eq_true, if_true, hD]
        exact ⟨by simp, trivial, e1, hh, hfr⟩

/-- **foreach, both directions.**  A forward traversal presents the reference
sequence, a backward traversal its mirror image; it stops at, and returns, the
first non-zero visit result; the visit function may unlink the visited
element, and the list then represents the sequence without the unlinked
elements. -/
theorem foreach_spec {m : M2} {l : Hd} {xs : List Nat} (h : IsDL m l xs) (fwd : Bool)
    (visit : Nat → Nat → Int × Bool) (poison : Nat → Nat := fun _ => 0) :
    let r := foreach m l fwd visit poison
    let ref := refForeach visit (if fwd then xs else xs.reverse) 0
    r.2.2.1 = ref.1 ∧ r.2.2.2 = ref.2.1
    ∧ IsDL r.1 r.2.1 (if fwd then ref.2.2 else ref.2.2.reverse) ∧ r.2.1.h = l.h
    ∧ (∀ a, a ∉ l.h :: xs → r.1.nx a = m.nx a ∧ r.1.pv a = m.pv a) := by
  obtain ⟨c0, hc0⟩ : ∃ c, c = if fwd then m.nx l.h else m.pv l.h := ⟨_, rfl⟩
  obtain ⟨n0, hn0⟩ : ∃ n, n = if fwd then m.nx c0 else m.pv c0 := ⟨_, rfl⟩
  have hstart : IsDL m l (dirL fwd ([] ++ dirL fwd xs)) := by cases fwd <;> simpa using h
  have hfirst : c0 = headOr l.h (dirL fwd xs) := by
    rw [hc0]; cases fwd <;> simp [h.head_links.1, h.head_links.2, headOr_reverse]
  have := foreachLoop_spec poison fwd visit (l.size + 1) 0 [] c0 n0 hstart hfirst hn0
    (by cases fwd <;> simp [h.size])
  rw [hn0, hc0] at this
  cases fwd <;> simpa [foreach] using this

/-- the visit function `cstl_dlist_find` hands to `foreach` -/
def findVisit (key : Nat → Int) (probe : Int) : Nat → Nat → Int × Bool :=
  fun _ e => (if key e = probe then 1 else 0, false)

theorem refForeach_find (key : Nat → Int) (probe : Int) (ys : List Nat) (k : Nat) :
    let r := refForeach (findVisit key probe) ys k
    (r.2.1 = 0 ∨ r.2.1 = 1)
    ∧ (r.2.1 = 1 → r.1 ≠ [] ∧ r.1.getLast? = ys.find? (fun e => key e = probe))
    ∧ (r.2.1 = 0 → ys.find? (fun e => key e = probe) = none) := by
  induction ys generalizing k with
  | nil => simp [refForeach]
  | cons x ys ih =>
    obtain ⟨i1, i2, i3⟩ := ih (k + 1)
    by_cases hk : key x = probe
    · simp [refForeach, findVisit, hk]
    · simp only [refForeach, findVisit, hk, if_false, ne_eq, not_true_eq_false, Bool.false_eq_true]
      refine ⟨i1, ?_, ?_⟩
      · intro h1
        obtain ⟨j1, j2⟩ := i2 h1
        refine ⟨by simp, ?_⟩
        rw [List.getLast?_cons_of_ne_nil j1] at *
        simp [List.find?, hk]
        exact j2
      · intro h0
        simp [List.find?, hk]
        simpa using i3 h0

/-- `find` returns the first element, in the chosen direction, whose key
equals the probe, or NULL -/
theorem find_spec {m : M2} {l : Hd} {xs : List Nat} (h : IsDL m l xs) (fwd : Bool)
    (key : Nat → Int) (probe : Int) :
    find m l fwd key probe = (if fwd then xs else xs.reverse).find? (fun e => key e = probe) := by
  obtain ⟨f1, f2, _, _, _⟩ := foreach_spec h fwd (findVisit key probe)
  obtain ⟨r1, r2, r3⟩ := refForeach_find key probe (if fwd then xs else xs.reverse) 0
  have e : find m l fwd key probe
      = if (foreach m l fwd (findVisit key probe)).2.2.2 > 0
        then (foreach m l fwd (findVisit key probe)).2.2.1.getLast? else none := rfl
  rw [e, f1, f2]
  rcases r1 with h0 | h1
  · rw [h0]; simp [r3 h0]
  · rw [h1]; simp [(r2 h1).2]

theorem relinkFrom_spec (m : M2) (h a : Nat) (ys : List Nat) (hnd : (a :: ys).Nodup) (hh : h ∉ ys)
    (hnz : ∀ y ∈ ys, y ≠ 0) :
    Seg (relinkFrom m h a ys).nx a ys h ∧ Seg (relinkFrom m h a ys).pv h ys.reverse a
    ∧ (∀ x, x ∉ a :: ys → (relinkFrom m h a ys).nx x = m.nx x)
    ∧ (∀ x, x ∉ h :: ys → (relinkFrom m h a ys).pv x = m.pv x) := by
  induction ys generalizing m a with
  | nil =>
    refine ⟨by simp [relinkFrom], by simp [relinkFrom], ?_, ?_⟩
    · intro x hx; exact upd_other _ _ _ _ (by simpa using hx)
    · intro x hx; exact upd_other _ _ _ _ (by simpa using hx)
  | cons y ys ih =>
    have hnd' := (List.nodup_cons.mp hnd).2
    have hay : a ∉ y :: ys := (List.nodup_cons.mp hnd).1
    have hyh : y ≠ h := fun e => hh (by simp [e])
    have hyys : y ∉ ys := (List.nodup_cons.mp hnd').1
    obtain ⟨i1, i2, i3, i4⟩ := ih { nx := upd m.nx a y, pv := upd m.pv y a } y hnd'
      (fun hm => hh (by simp [hm])) (fun z hz => hnz z (by simp [hz]))
    refine ⟨⟨?_, hnz y (by simp), i1⟩, ?_, ?_, ?_⟩
    · show (relinkFrom _ h y ys).nx a = y
      rw [i3 a hay]; simp
    · show Seg (relinkFrom _ h y ys).pv h (y :: ys).reverse a
      rw [List.reverse_cons, Seg_append]
      refine ⟨i2, hnz y (by simp), ?_⟩
      show (relinkFrom _ h y ys).pv y = a
      rw [i4 y (by simp [hyh, hyys])]; simp
    · intro x hx
      show (relinkFrom _ h y ys).nx x = m.nx x
      rw [i3 x (fun hm => hx (by simp [hm]))]
      exact upd_other _ _ _ _ (fun e => hx (by simp [e]))
    · intro x hx
      show (relinkFrom _ h y ys).pv x = m.pv x
      rw [i4 x (fun hm => hx (by
        rcases List.mem_cons.mp hm with h1 | h1
        · simp [h1]
        · simp [h1]))]
      exact upd_other _ _ _ _ (fun e => hx (by simp [e]))

theorem walk_until_of_Seg {f : Mem} {h a : Nat} {xs : List Nat} (hs : Seg f a xs h) (hh : h ∉ xs) (fuel : Nat)
    (hf : xs.length ≤ fuel) : walk f h fuel a = xs := by
  induction xs generalizing a fuel with
  | nil =>
    cases fuel with
    | zero => rfl
    | succ f' => simp only [Seg_nil] at hs; simp [walk, hs]
  | cons x xs ih =>
    obtain ⟨h1, h2, h3⟩ := hs
    cases fuel with
    | zero => simp at hf
    | succ f' =>
      have hx : x ≠ h := fun e => hh (by simp [e])
      simp only [walk, h1, hx, if_false]
      rw [ih h3 (fun hm => hh (by simp [hm])) f' (by simpa using hf)]

/-- the driver's state dump (both walks) reads back the represented sequence -/
theorem walk_spec {m : M2} {l : Hd} {xs : List Nat} (h : IsDL m l xs) (fuel : Nat) (hf : xs.length ≤ fuel) :
    walk m.nx l.h fuel l.h = xs ∧ walk m.pv l.h fuel l.h = xs.reverse := by
  have hh : l.h ∉ xs := (List.nodup_cons.mp h.nodup).1
  exact ⟨walk_until_of_Seg h.fwd hh fuel hf, walk_until_of_Seg h.bwd (by simpa using hh) fuel (by simpa using hf)⟩

theorem sort_hd (m : M2) (l : Hd) (key : Nat → Int) : (sort m l key).2.h = l.h := by
  simp only [sort]; split <;> rfl

/-- `sort` leaves an ordered permutation of the same nodes, linked in both
directions -/
theorem sort_spec {m : M2} {l : Hd} {xs : List Nat} (h : IsDL m l xs) (key : Nat → Int) :
    let ys := if l.size > 1 then msort key xs.length xs else xs
    IsDL (sort m l key).1 (sort m l key).2 ys ∧ ys.Perm xs ∧ SortedBy key ys
    ∧ (∀ a, a ∉ l.h :: xs → (sort m l key).1.nx a = m.nx a ∧ (sort m l key).1.pv a = m.pv a) := by
  intro ys
  have hys : ys = msort key xs.length xs := msort_guard key xs h.size
  have hperm : ys.Perm xs := hys ▸ msort_perm key _ xs
  have hsorted : SortedBy key ys := hys ▸ msort_sorted key _ xs (Nat.le_refl _)
  by_cases hc : l.size > 1
  · have hw : walk m.nx l.h l.size l.h = xs := (walk_spec h _ (by rw [h.size]; omega)).1
    have hnd : (l.h :: ys).Nodup := (hperm.cons l.h).nodup_iff.mpr h.nodup
    have hnz : ∀ y ∈ ys, y ≠ 0 := fun y hy => h.nonzero y (hperm.mem_iff.mp hy)
    obtain ⟨r1, r2, r3, r4⟩ := relinkFrom_spec m l.h l.h ys hnd (List.nodup_cons.mp hnd).1 hnz
    have e : sort m l key = (relinkFrom m l.h l.h ys, l) := by
      simp [sort, hc, hw, hys]
    rw [e]
    have hmem : ∀ a, a ∉ l.h :: xs → a ∉ l.h :: ys := by
      intro a ha hm; apply ha
      rcases List.mem_cons.mp hm with h1 | h1
      · simp [h1]
      · exact List.mem_cons_of_mem _ (hperm.mem_iff.mp h1)
    refine ⟨⟨r1, r2, hnd, h.hnz, ?_⟩, hperm, hsorted, ?_⟩
    · show l.size = ys.length
      rw [h.size, hperm.length_eq]
    · intro a ha
      exact ⟨r3 a (hmem a ha), r4 a (hmem a ha)⟩
  · have hx : ys = xs := by simp [ys, hc]
    have e : sort m l key = (m, l) := by simp [sort, hc]
    rw [e]
    exact ⟨hx ▸ h, hperm, hsorted, fun _ _ => ⟨rfl, rfl⟩⟩

/-- two represented lists do not share nodes -/
def Disjoint (a : Hd) (xs : List Nat) (b : Hd) (ys : List Nat) : Prop :=
  ∀ x ∈ a.h :: xs, x ∉ b.h :: ys

/-- `concat d s`: all elements of `s`, in order, at the end of `d`, in both
directions; `s` empty and usable -/
theorem concat_spec {m : M2} {d s : Hd} {xs ys : List Nat}
    (hd : IsDL m d xs) (hs : IsDL m s ys) (hdis : Disjoint d xs s ys) :
    let r := concat m d s
    IsDL r.1 r.2.1 (xs ++ ys) ∧ IsDL r.1 r.2.2 [] ∧ r.2.1.h = d.h ∧ r.2.2.h = s.h
    ∧ (∀ a, a ∉ d.h :: xs → a ∉ s.h :: ys → r.1.nx a = m.nx a ∧ r.1.pv a = m.pv a) := by
  have hne : d.h ≠ s.h := fun e => hdis d.h (by simp) (by simp [e])
  by_cases hys : ys = []
  · subst hys
    have hs0 : ¬ s.size > 0 := fun hp => hs.size_pos_iff.mp hp rfl
    have e : concat m d s = (m, d, s) := by simp [concat, hs0]
    simp only [e]
    exact ⟨by simpa using hd, hs, trivial, trivial, fun _ _ _ => ⟨trivial, trivial⟩⟩
  · have hs0 : s.size > 0 := hs.size_pos_iff.mpr hys
    obtain ⟨y1, hy1⟩ : ∃ y, y = headOr s.h ys := ⟨_, rfl⟩
    obtain ⟨yl, hyl⟩ : ∃ y, y = lastOr s.h ys := ⟨_, rfl⟩
    obtain ⟨dl, hdl⟩ : ∃ y, y = lastOr d.h xs := ⟨_, rfl⟩
    have my1 : y1 ∈ ys := hy1 ▸ headOr_mem_of_ne_nil s.h hys
    have myl : yl ∈ ys := hyl ▸ lastOr_mem_of_ne_nil s.h hys
    have mdl : dl ∈ d.h :: xs := hdl ▸ lastOr_mem _ _
    have hsn : m.nx s.h = y1 := hs.head_links.1.trans hy1.symm
    have hsp : m.pv s.h = yl := hs.head_links.2.trans hyl.symm
    have hdp : m.pv d.h = dl := hd.head_links.2.trans hdl.symm
    have hsy : ∀ a ∈ ys, a ≠ s.h := fun a ha e => (List.nodup_cons.mp hs.nodup).1 (e ▸ ha)
    have hdy : ∀ a ∈ ys, a ∉ d.h :: xs := fun a ha hm => hdis a hm (by simp [ha])
    have hsd : ∀ a ∈ d.h :: xs, a ≠ s.h := fun a ha e => hdis a ha (by simp [e])
    have hdx : ∀ a ∈ xs, a ≠ d.h := fun a ha e => (List.nodup_cons.mp hd.nodup).1 (e ▸ ha)
    have hy1d : y1 ≠ d.h := fun e => hdy y1 my1 (by simp [e])
    have hyldl : yl ≠ dl := fun e => hdy yl myl (e ▸ mdl)
    obtain ⟨nx3, hnx3⟩ : ∃ f, f = upd (upd (upd m.nx yl d.h) dl y1) s.h s.h := ⟨_, rfl⟩
    obtain ⟨pv3, hpv3⟩ : ∃ f, f = upd (upd (upd m.pv y1 dl) d.h yl) s.h s.h := ⟨_, rfl⟩
    have e : concat m d s =
        ({ nx := nx3, pv := pv3 }, { d with size := d.size + s.size }, { h := s.h, size := 0 }) := by
      have pv1_s : upd m.pv (m.nx s.h) (m.pv d.h) s.h = yl := by
        rw [hsn, upd_other _ _ _ _ (hsy y1 my1).symm, hsp]
      have pv1_d : upd m.pv (m.nx s.h) (m.pv d.h) d.h = dl := by
        rw [hsn, upd_other _ _ _ _ hy1d.symm, hdp]
      have nx1_s : upd m.nx yl d.h s.h = y1 := by
        rw [upd_other _ _ _ _ (hsy yl myl).symm, hsn]
      simp only [concat, hne, hs0, ne_eq, not_false_eq_true, and_self, if_true, init]
      rw [pv1_s, pv1_d, nx1_s, hsn, hdp, hnx3, hpv3]
    have nx3_o : ∀ a, a ≠ yl → a ≠ dl → a ≠ s.h → nx3 a = m.nx a := fun a h1 h2 h3 => by
      rw [hnx3, upd_other _ _ _ _ h3, upd_other _ _ _ _ h2, upd_other _ _ _ _ h1]
    have pv3_o : ∀ a, a ≠ y1 → a ≠ d.h → a ≠ s.h → pv3 a = m.pv a := fun a h1 h2 h3 => by
      rw [hpv3, upd_other _ _ _ _ h3, upd_other _ _ _ _ h2, upd_other _ _ _ _ h1]
    have nx3_dl : nx3 dl = y1 := by rw [hnx3, upd_other _ _ _ _ (hsd dl mdl), upd_same]
    have nx3_yl : nx3 yl = d.h := by
      rw [hnx3, upd_other _ _ _ _ (hsy yl myl), upd_other _ _ _ _ hyldl, upd_same]
    have pv3_y1 : pv3 y1 = dl := by
      rw [hpv3, upd_other _ _ _ _ (hsy y1 my1), upd_other _ _ _ _ hy1d, upd_same]
    have pv3_dh : pv3 d.h = yl := by rw [hpv3, upd_other _ _ _ _ hne, upd_same]
    have hndy : ys.Nodup := (List.nodup_cons.mp hs.nodup).2
    simp only [e]
    refine ⟨⟨?_, ?_, ?_, hd.hnz, ?_⟩, ⟨?_, ?_, by simp, hs.hnz, rfl⟩, trivial, trivial, ?_⟩
    · -- forward: through `xs`, whose last link now leads to `y1`, then through `ys` back to `d`'s head
      refine Seg_append_last.mpr ⟨Seg_relast hd.fwd hd.nodup rfl fun a ha hal => ?_, ?_⟩
      · exact nx3_o a (fun e => hdy yl myl (e ▸ ha)) (hdl ▸ hal) (hsd a ha)
      · rw [← hdl]
        refine Seg_reroute hs.fwd hys hndy (nx3_dl.trans hsn.symm) (hyl ▸ nx3_yl) fun a ha hal => ?_
        exact nx3_o a (hyl ▸ hal) (fun e => hdy a ha (e ▸ mdl)) (hsy a ha)
    · -- backward: from `d`'s head through `ys` to `y1`, then through `xs`
      show Seg pv3 d.h (xs ++ ys).reverse d.h
      rw [List.reverse_append]
      have hl : lastOr s.h ys.reverse = y1 := (lastOr_reverse _ _).trans hy1.symm
      refine Seg_append_last.mpr ⟨?_, ?_⟩
      · rw [lastOr_reverse, headOr_of_ne_nil d.h s.h hys, ← hy1]
        refine Seg_reroute hs.bwd (by simpa using hys) ((List.reverse_perm _).nodup_iff.mpr hndy)
          (pv3_dh.trans hsp.symm) (by rw [hl]) fun a ha hal => ?_
        have ha' := List.mem_reverse.mp ha
        exact pv3_o a (hl ▸ hal) (fun e => hdy a ha' (by simp [e])) (hsy a ha')
      · rw [lastOr_reverse, headOr_of_ne_nil d.h s.h hys, ← hy1]
        refine Seg_transfer hd.bwd (pv3_y1.trans hdp.symm) fun a ha => ?_
        have ha' := List.mem_reverse.mp ha
        exact pv3_o a (fun e => hdy y1 my1 (by simp [← e, ha'])) (hdx a ha') (hsd a (by simp [ha']))
    · show (d.h :: (xs ++ ys)).Nodup
      have : ((d.h :: xs) ++ ys).Nodup :=
        List.nodup_append.mpr ⟨hd.nodup, hndy, fun a ha b hb e => hdy b hb (e ▸ ha)⟩
      exact this
    · show d.size + s.size = (xs ++ ys).length
      rw [hd.size, hs.size, List.length_append]
    · show nx3 s.h = s.h
      rw [hnx3, upd_same]
    · show pv3 s.h = s.h
      rw [hpv3, upd_same]
    · intro a ha1 ha2
      exact ⟨nx3_o a (fun e => ha2 (by simp [e, myl])) (fun e => ha1 (e ▸ mdl)) (fun e => ha2 (by simp [e])),
        pv3_o a (fun e => ha2 (by simp [e, my1])) (fun e => ha1 (by simp [e])) (fun e => ha2 (by simp [e]))⟩

/-- The fix-up of `cstl_dlist_swap`: a ring `ys` that used to hang on head `s`
and whose end links were copied into a new head node `t` is closed on `t`
(an empty ring is re-anchored on `t` itself).  Only `t` and the two end
nodes of `ys` are written. -/
theorem swapFix_rehead {m m' : M2} {s : Hd} {ys : List Nat} {t : Nat}
    (hs : IsDL m s ys) (hty : t ∉ ys) (htz : t ≠ 0)
    (hn : m'.nx t = m.nx s.h) (hp : m'.pv t = m.pv s.h)
    (hon : ∀ a ∈ ys, m'.nx a = m.nx a) (hop : ∀ a ∈ ys, m'.pv a = m.pv a) :
    let r := swapFix m' { h := t, size := ys.length }
    IsDL r { h := t, size := ys.length } ys
    ∧ (∀ a, a ∉ t :: ys → r.nx a = m'.nx a ∧ r.pv a = m'.pv a) := by
  cases ys with
  | nil =>
    simp only [swapFix, List.length_nil, if_true]
    refine ⟨⟨by simp, by simp, by simp, htz, rfl⟩, ?_⟩
    intro a ha
    have : a ≠ t := by simpa using ha
    exact ⟨upd_other _ _ _ _ this, upd_other _ _ _ _ this⟩
  | cons y1 ys' =>
    obtain ⟨yl, hyl⟩ : ∃ z, z = lastOr y1 ys' := ⟨_, rfl⟩
    have hyl_mem : yl ∈ y1 :: ys' := hyl ▸ lastOr_mem _ _
    have hnds := hs.nodup
    have hnd1 : (y1 :: ys').Nodup := (List.nodup_cons.mp hnds).2
    have hsn : m.nx s.h = y1 := hs.fwd.1
    have hsp : m.pv s.h = yl := by rw [hyl]; exact hs.head_links.2
    have hty1 : t ≠ y1 := fun e => hty (by simp [e])
    have htyl : t ≠ yl := fun e => hty (e ▸ hyl_mem)
    have e : swapFix m' { h := t, size := (y1 :: ys').length }
        = { nx := upd m'.nx yl t, pv := upd m'.pv y1 t } := by
      have pv1_t : upd m'.pv (m'.nx t) t t = yl := by
        rw [hn, hsn, upd_other _ _ _ _ hty1, hp, hsp]
      simp only [swapFix, List.length_cons, Nat.add_one_ne_zero, if_false]
      rw [pv1_t, hn, hsn]
    simp only [e]
    refine ⟨IsDL.of_stretch (m' := { nx := upd m'.nx yl t, pv := upd m'.pv y1 t }) hs.fwd hs.bwd (by simp)
      hty hnd1 htz rfl ((upd_other _ _ _ _ htyl).trans hn) (by rw [hsp]; exact upd_same _ _ _)
      (fun a ha hal => (upd_other _ _ _ _ (hsp ▸ hal)).trans (hon a ha))
      ((upd_other _ _ _ _ hty1).trans hp) (by rw [hsn]; exact upd_same _ _ _)
      (fun a ha hal => (upd_other _ _ _ _ (hsn ▸ hal)).trans (hop a ha)), ?_⟩
    intro a ha
    exact ⟨upd_other _ _ _ _ (fun e => ha (by rw [e]; exact List.mem_cons_of_mem _ hyl_mem)),
      upd_other _ _ _ _ (fun e => ha (by simp [e]))⟩

/-- `swap` exchanges the two sequences (both directions); an empty result is
re-anchored on its own head node -/
theorem swap_spec {m : M2} {a b : Hd} {xs ys : List Nat}
    (ha : IsDL m a xs) (hb : IsDL m b ys) (hdis : Disjoint a xs b ys) :
    let r := swap m a b
    IsDL r.1 r.2.1 ys ∧ IsDL r.1 r.2.2 xs ∧ r.2.1.h = a.h ∧ r.2.2.h = b.h
    ∧ (∀ x, x ∉ a.h :: xs → x ∉ b.h :: ys → r.1.nx x = m.nx x ∧ r.1.pv x = m.pv x) := by
  have hab : a.h ≠ b.h := fun e => hdis a.h (by simp) (by simp [e])
  have ha_xs : a.h ∉ xs := (List.nodup_cons.mp ha.nodup).1
  have hb_ys : b.h ∉ ys := (List.nodup_cons.mp hb.nodup).1
  have hxb : ∀ x ∈ xs, x ≠ a.h ∧ x ≠ b.h ∧ x ∉ ys := fun x hx =>
    ⟨fun e => ha_xs (e ▸ hx), fun e => hdis x (by simp [hx]) (by simp [e]),
      fun hm => hdis x (by simp [hx]) (by simp [hm])⟩
  have hya : ∀ y ∈ ys, y ≠ a.h ∧ y ≠ b.h ∧ y ∉ xs := fun y hy =>
    ⟨fun e => hdis a.h (by simp) (by simp [← e, hy]), fun e => hb_ys (e ▸ hy),
      fun hm => hdis y (by simp [hm]) (by simp [hy])⟩
  let m1 : M2 := { nx := upd (upd m.nx a.h (m.nx b.h)) b.h (m.nx a.h),
                   pv := upd (upd m.pv a.h (m.pv b.h)) b.h (m.pv a.h) }
  have m1_o : ∀ x, x ≠ a.h → x ≠ b.h → m1.nx x = m.nx x ∧ m1.pv x = m.pv x := fun x h1 h2 =>
    ⟨(upd_other _ _ _ _ h2).trans (upd_other _ _ _ _ h1), (upd_other _ _ _ _ h2).trans (upd_other _ _ _ _ h1)⟩
  have m1_a : m1.nx a.h = m.nx b.h ∧ m1.pv a.h = m.pv b.h :=
    ⟨(upd_other _ _ _ _ hab).trans (upd_same _ _ _), (upd_other _ _ _ _ hab).trans (upd_same _ _ _)⟩
  have m1_b : m1.nx b.h = m.nx a.h ∧ m1.pv b.h = m.pv a.h := ⟨upd_same _ _ _, upd_same _ _ _⟩
  -- first fix-up: list a now carries ys
  obtain ⟨f1, f1o⟩ := swapFix_rehead (m' := m1) (t := a.h) hb (fun hm => (hya _ hm).1 rfl) ha.hnz m1_a.1 m1_a.2
    (fun y hy => (m1_o y (hya y hy).1 (hya y hy).2.1).1) (fun y hy => (m1_o y (hya y hy).1 (hya y hy).2.1).2)
  let m2 := swapFix m1 { h := a.h, size := ys.length }
  have m2_b : m2.nx b.h = m.nx a.h ∧ m2.pv b.h = m.pv a.h :=
    have g := f1o b.h fun hm => (List.mem_cons.mp hm).elim (fun e => hab e.symm) hb_ys
    ⟨g.1.trans m1_b.1, g.2.trans m1_b.2⟩
  have m2_x : ∀ x ∈ xs, m2.nx x = m.nx x ∧ m2.pv x = m.pv x := fun x hx =>
    have g := f1o x fun hm => (List.mem_cons.mp hm).elim (hxb x hx).1 (hxb x hx).2.2
    have o := m1_o x (hxb x hx).1 (hxb x hx).2.1
    ⟨g.1.trans o.1, g.2.trans o.2⟩
  -- second fix-up: list b now carries xs
  obtain ⟨f2, f2o⟩ := swapFix_rehead (m' := m2) (t := b.h) ha (fun hm => (hxb _ hm).2.1 rfl) hb.hnz
    m2_b.1 m2_b.2 (fun x hx => (m2_x x hx).1) (fun x hx => (m2_x x hx).2)
  have e : swap m a b = (swapFix m2 { h := b.h, size := xs.length },
      { h := a.h, size := ys.length }, { h := b.h, size := xs.length }) := by
    simp only [swap, hb.size, ha.size]; rfl
  simp only [e]
  refine ⟨f1.frame fun x hx => f2o x fun hm => ?_, f2, trivial, trivial, fun x hx1 hx2 => ?_⟩
  · rcases List.mem_cons.mp (show x ∈ a.h :: ys from hx) with h1 | h1
    · exact (List.mem_cons.mp (h1 ▸ hm)).elim hab ha_xs
    · exact (List.mem_cons.mp hm).elim (hya x h1).2.1 (hya x h1).2.2
  · have hxa : x ≠ a.h := fun e => hx1 (by simp [e])
    have hxbh : x ≠ b.h := fun e => hx2 (by simp [e])
    have o2 := f2o x fun hm => (List.mem_cons.mp hm).elim hxbh fun h1 => hx1 (by simp [h1])
    have o1 := f1o x fun hm => (List.mem_cons.mp hm).elim hxa fun h1 => hx2 (by simp [h1])
    have o0 := m1_o x hxa hxbh
    exact ⟨o2.1.trans (o1.1.trans o0.1), o2.2.trans (o1.2.trans o0.2)⟩

/-- the link-level state `s` represents the reference state `q` (lists
`0 … n-1`, head nodes at `ha i`), and no node is shared between lists -/
structure Abs (n : Nat) (ha : Nat → Nat) (s : St) (q : Nat → List Nat) : Prop where
  sl : ∀ i, i < n → IsDL s.m (s.hd i) (q i)
  hh : ∀ i, i < n → (s.hd i).h = ha i
  dis : ∀ i j, i < n → j < n → i ≠ j → ∀ x ∈ ha i :: q i, x ∉ ha j :: q j

/-- `hnew` is what `Enabled` says of a new node -/
theorem Abs.update1 {n : Nat} {ha : Nat → Nat} {s : St} {q : Nat → List Nat} (A : Abs n ha s q)
    {l : Nat} (hl : l < n) {new : Nat → Prop} (hnew : ∀ e, new e → ∀ j, j < n → e ≠ ha j ∧ e ∉ q j)
    {m' : M2} {h' : Hd} {xs' : List Nat} (hsl : IsDL m' h' xs') (hh : h'.h = (s.hd l).h)
    (hfr : ∀ a, a ∉ (s.hd l).h :: q l → ¬ new a → m'.nx a = s.m.nx a ∧ m'.pv a = s.m.pv a)
    (hsub : ∀ x ∈ xs', x ∈ q l ∨ new x) :
    Abs n ha { m := m', hd := setHd s.hd l h' } (setSeq q l xs') := by
  have hnew' : ∀ x, new x → ∀ j, j < n → x ∉ ha j :: q j := fun x hx j hj hm =>
    (List.mem_cons.mp hm).elim (hnew x hx j hj).1 (hnew x hx j hj).2
  refine ⟨?_, ?_, dis_update1 (l := l) A.dis (fun i e => by simp [setSeq, e]) ?_⟩
  · intro i hi
    by_cases e : i = l
    · subst e; simpa [setHd, setSeq] using hsl
    · simp only [setHd, setSeq, e, if_false]
      refine (A.sl i hi).frame fun a ha' => hfr a (fun hm => ?_) fun hf => hnew' a hf i hi (A.hh i hi ▸ ha')
      exact A.dis i l hi hl e a (A.hh i hi ▸ ha') (A.hh l hl ▸ hm)
  · intro i hi
    by_cases e : i = l
    · subst e; simpa [setHd] using hh.trans (A.hh i hi)
    · simpa [setHd, e] using A.hh i hi
  · intro j hj hjl x hx hm
    rw [setSeq, if_pos rfl] at hx
    rcases hsub x hx with h | h
    · exact A.dis l j hl hj (Ne.symm hjl) x (List.mem_cons_of_mem _ h) hm
    · exact hnew' x h j hj hm

theorem Abs.keep1 {n : Nat} {ha : Nat → Nat} {s : St} {q : Nat → List Nat} (A : Abs n ha s q)
    {l : Nat} (hl : l < n) {m' : M2} {h' : Hd} {xs' : List Nat} (hsl : IsDL m' h' xs') (hh : h'.h = (s.hd l).h)
    (hfr : ∀ a, a ∉ (s.hd l).h :: q l → m'.nx a = s.m.nx a ∧ m'.pv a = s.m.pv a)
    (hsub : ∀ x ∈ xs', x ∈ q l) :
    Abs n ha { m := m', hd := setHd s.hd l h' } (setSeq q l xs') :=
  A.update1 hl (new := fun _ => False) (fun _ h => h.elim) hsl hh (fun a hn _ => hfr a hn) fun x hx => Or.inl (hsub x hx)

theorem Abs.notin {n : Nat} {ha : Nat → Nat} {s : St} {q : Nat → List Nat} (A : Abs n ha s q) {l e : Nat}
    (hl : l < n) (hnew : ∀ j, j < n → e ≠ ha j ∧ e ∉ q j) : e ∉ (s.hd l).h :: q l :=
  fun hm => (List.mem_cons.mp (A.hh l hl ▸ hm)).elim (hnew l hl).1 (hnew l hl).2

theorem Abs.disjoint {n : Nat} {ha : Nat → Nat} {s : St} {q : Nat → List Nat} (A : Abs n ha s q)
    {a b : Nat} (hla : a < n) (hlb : b < n) (hab : a ≠ b) : Disjoint (s.hd a) (q a) (s.hd b) (q b) := by
  intro x hx
  rw [A.hh a hla] at hx; rw [A.hh b hlb]
  exact A.dis a b hla hlb hab x hx

theorem Abs.update2 {n : Nat} {ha : Nat → Nat} {s : St} {q : Nat → List Nat} (A : Abs n ha s q)
    {a b : Nat} (hla : a < n) (hlb : b < n) (hab : a ≠ b) {m' : M2} {ha' hb' : Hd} {xs' ys' : List Nat}
    (hsa : IsDL m' ha' xs') (hsb : IsDL m' hb' ys') (hha : ha'.h = (s.hd a).h) (hhb : hb'.h = (s.hd b).h)
    (hfr : ∀ x, x ∉ (s.hd a).h :: q a → x ∉ (s.hd b).h :: q b → m'.nx x = s.m.nx x ∧ m'.pv x = s.m.pv x)
    (hsub : ∀ x, x ∈ xs' ++ ys' → x ∈ q a ++ q b)
    (hxy : ∀ x ∈ xs', x ∉ ys') :
    Abs n ha { m := m', hd := setHd (setHd s.hd a ha') b hb' } (setSeq (setSeq q a xs') b ys') := by
  have hself : ∀ i, i < n → ha i ∉ q i := fun i hi =>
    (List.nodup_cons.mp (A.hh i hi ▸ (A.sl i hi).nodup)).1
  refine ⟨?_, ?_, dis_update2 A.dis hself hla hlb hab (fun i ea eb => by simp [setSeq, ea, eb])
    (by simpa [setSeq, hab] using hsub) (by simpa [setSeq, hab] using hxy)⟩
  · intro i hi
    by_cases eb : i = b
    · subst eb; simpa [setHd, setSeq] using hsb
    · by_cases ea : i = a
      · subst ea; simpa [setHd, setSeq, eb] using hsa
      · simp only [setHd, setSeq, ea, eb, if_false]
        exact (A.sl i hi).frame fun x hx => hfr x ((A.disjoint hi hla ea) x hx) ((A.disjoint hi hlb eb) x hx)
  · intro i hi
    by_cases eb : i = b
    · subst eb; simpa [setHd] using hhb.trans (A.hh i hi)
    · by_cases ea : i = a
      · subst ea; simpa [setHd, eb] using hha.trans (A.hh i hi)
      · simpa [setHd, ea, eb] using A.hh i hi

/-- every operation inside its documented domain refines the reference step -/
theorem step_refines {n : Nat} {ha : Nat → Nat} {s : St} {q : Nat → List Nat} (A : Abs n ha s q)
    (op : Op) (hen : Enabled n ha q op) :
    ∃ s', step s op = some (s', (refStep q op).2) ∧ Abs n ha s' (refStep q op).1 := by
  have same_hd : ∀ l, setHd s.hd l (s.hd l) = s.hd := fun l => by
    funext j; simp only [setHd]; split <;> simp_all
  cases op with
  | pushFront l e =>
    obtain ⟨hl, hez, hnew⟩ := hen
    obtain ⟨h1, h2⟩ := pushFront_spec (A.sl l hl) (A.notin hl hnew) hez
    exact ⟨_, rfl, A.update1 hl (new := (· = e)) (fun _ h => h ▸ hnew) h1 rfl h2 (by simp [or_comm])⟩
  | pushBack l e =>
    obtain ⟨hl, hez, hnew⟩ := hen
    obtain ⟨h1, h2⟩ := pushBack_spec (A.sl l hl) (A.notin hl hnew) hez
    exact ⟨_, rfl, A.update1 hl (new := (· = e)) (fun _ h => h ▸ hnew) h1 rfl h2 (by simp)⟩
  | insert l b e =>
    obtain ⟨hl, hb, hez, hnew⟩ := hen
    obtain ⟨h1, h2⟩ := insert_of_mem (A.sl l hl) hb (A.notin hl hnew) hez
    exact ⟨_, rfl, A.update1 hl (new := (· = e)) (fun _ h => h ▸ hnew) h1 rfl h2 fun x hx =>
      SList.mem_insAfterL hb (insAfterL_eq .. ▸ hx)⟩
  | erase l e =>
    obtain ⟨hl, he⟩ := hen
    obtain ⟨h1, h2⟩ := erase_of_mem (A.sl l hl) he
    exact ⟨_, rfl, A.keep1 hl h1 rfl h2 fun x => List.mem_of_mem_erase⟩
  | popFront l =>
    have hl : l < n := hen
    have hsl := A.sl l hl
    cases hq : q l with
    | nil =>
      rw [hq] at hsl
      have href : refStep q (Op.popFront l) = (q, Res.ptr none) := by simp [refStep, hq]
      rw [href]
      exact ⟨{ m := s.m, hd := setHd s.hd l (s.hd l) }, by simp [step, (pop_empty hsl).1], by rw [same_hd]; exact A⟩
    | cons x xs =>
      rw [hq] at hsl
      obtain ⟨h0, h1, h2⟩ := popFront_spec hsl
      have href : refStep q (Op.popFront l) = (setSeq q l xs, Res.ptr (some x)) := by simp [refStep, hq]
      rw [href]
      exact ⟨_, by simp [step, h0], A.keep1 hl h1 rfl (hq ▸ h2) fun y hy => by simp [hq, hy]⟩
  | popBack l =>
    have hl : l < n := hen
    have hsl := A.sl l hl
    rcases List.eq_nil_or_concat (q l) with hq | ⟨ini, y, hq'⟩
    · rw [hq] at hsl
      have href : refStep q (Op.popBack l) = (q, Res.ptr none) := by simp [refStep, hq]
      rw [href]
      exact ⟨{ m := s.m, hd := setHd s.hd l (s.hd l) }, by simp [step, (pop_empty hsl).2], by rw [same_hd]; exact A⟩
    · rw [List.concat_eq_append] at hq'
      rw [hq'] at hsl
      obtain ⟨h0, h1, h2⟩ := popBack_spec hsl
      have href : refStep q (Op.popBack l) = (setSeq q l ini, Res.ptr (some y)) := by simp [refStep, hq']
      rw [href]
      exact ⟨_, by simp [step, h0], A.keep1 hl h1 rfl (hq' ▸ h2) fun z hz => by simp [hq', hz]⟩
  | reverse l =>
    have hl : l < n := hen
    obtain ⟨m', h0, h1, h2⟩ := reverse_spec (A.sl l hl)
    have := A.keep1 hl h1 rfl h2 fun y => List.mem_reverse.mp
    rw [same_hd] at this
    exact ⟨_, by simp [step, h0, refStep], this⟩
  | sort l key =>
    have hl : l < n := hen
    have hsl := A.sl l hl
    obtain ⟨h1, hperm, _, h2⟩ := sort_spec hsl key
    have href : refStep q (Op.sort l key)
        = (setSeq q l (if (s.hd l).size > 1 then msort key (q l).length (q l) else q l), Res.unit) := by
      simp [refStep, hsl.size]
    rw [href]
    exact ⟨_, rfl, A.keep1 hl h1 (sort_hd _ _ _) h2 fun y => hperm.mem_iff.mp⟩
  | concat d sr =>
    obtain ⟨hd, hs, hne⟩ := hen
    obtain ⟨h1, h2, hh1, hh2, h3⟩ := concat_spec (A.sl d hd) (A.sl sr hs) (A.disjoint hd hs hne)
    exact ⟨_, rfl, A.update2 hd hs hne h1 h2 hh1 hh2 h3 (fun x hx => by simpa using hx) (by simp)⟩
  | swap a b =>
    obtain ⟨hla, hlb, hne⟩ := hen
    obtain ⟨h1, h2, hh1, hh2, h3⟩ := swap_spec (A.sl a hla) (A.sl b hlb) (A.disjoint hla hlb hne)
    exact ⟨_, rfl, A.update2 hla hlb hne h1 h2 hh1 hh2 h3
      (fun x hx => List.mem_append.mpr (List.mem_append.mp hx).symm)
      (fun x hx hm => A.dis a b hla hlb hne x (by simp [hm]) (by simp [hx]))⟩
  | clear l poison =>
    have hl : l < n := hen
    obtain ⟨h0, h1, hh, _, h3⟩ := clear_spec (A.sl l hl) poison
    exact ⟨_, by simp [step, refStep, h0], A.keep1 hl h1 hh h3 (by simp)⟩
  | front l =>
    have hl : l < n := hen
    exact ⟨s, by simp [step, refStep, front_spec (A.sl l hl)], A⟩
  | back l =>
    have hl : l < n := hen
    exact ⟨s, by simp [step, refStep, back_spec (A.sl l hl)], A⟩
  | foreach l fwd visit poison =>
    have hl : l < n := hen
    obtain ⟨f1, f2, f3, f4, f5⟩ := foreach_spec (A.sl l hl) fwd visit poison
    refine ⟨_, by simp [step, refStep, f1, f2], A.keep1 hl f3 f4 f5 fun y hy => ?_⟩
    cases fwd with
    | true => exact refForeach_sub visit _ 0 y (by simpa using hy)
    | false => simpa using refForeach_sub visit (q l).reverse 0 y (by simpa using hy)
  | find l fwd key probe =>
    have hl : l < n := hen
    exact ⟨s, by simp [step, refStep, find_spec (A.sl l hl)], A⟩

/-- **C12, history form.**  Any operation sequence inside the documented
domain over any number of lists: the link-level model returns exactly the
reference results and ends in a state in which every list, read forward, is its
reference sequence and, read backward, the mirror image. -/
theorem run_refines {n : Nat} {ha : Nat → Nat} (ops : List Op) {s : St} {q : Nat → List Nat}
    (A : Abs n ha s q) (hen : EnabledRun n ha q ops) :
    ∃ s', run s ops = some (s', (refRun q ops).2) ∧ Abs n ha s' (refRun q ops).1 := by
  induction ops generalizing s q with
  | nil => exact ⟨s, rfl, A⟩
  | cons op ops ih =>
    obtain ⟨h1, h2⟩ := hen
    obtain ⟨s1, e1, A1⟩ := step_refines A op h1
    obtain ⟨s2, e2, A2⟩ := ih A1 h2
    exact ⟨s2, by simp [run, e1, e2, refRun], A2⟩

theorem Abs_init (n : Nat) (ha : Nat → Nat) (hnz : ∀ i, i < n → ha i ≠ 0)
    (hinj : ∀ i j, i < n → j < n → i ≠ j → ha i ≠ ha j) :
    Abs n ha { m := { nx := fun a => a, pv := fun a => a }, hd := fun i => { h := ha i, size := 0 } }
      (fun _ => []) :=
  ⟨fun i hi => ⟨rfl, rfl, by simp, hnz i hi, rfl⟩, fun _ _ => rfl,
   fun i j hi hj hij x hx hm => by
     simp only [List.mem_cons, List.not_mem_nil, or_false] at hx hm
     exact hinj i j hi hj hij (hx ▸ hm)⟩

/-! Non-vacuity: a concrete three-element list satisfies `IsDL`. -/
example :
    let s0 := init { nx := fun _ => 0, pv := fun _ => 0 } 1
    let s1 := pushBack s0.1 s0.2 10
    let s2 := pushBack s1.1 s1.2 11
    let s3 := pushFront s2.1 s2.2 12
    IsDL s3.1 s3.2 [12, 10, 11] := by
  intro s0 s1 s2 s3
  have h0 : IsDL s0.1 s0.2 [] := IsDL_init _ 1 (by decide)
  have h1 : IsDL s1.1 s1.2 [10] := (pushBack_spec h0 (by simp [s0, init]) (by decide)).1
  have h2 : IsDL s2.1 s2.2 [10, 11] := (pushBack_spec h1 (by simp [s1, s0, init, pushBack, insert]) (by decide)).1
  exact (pushFront_spec h2 (by simp [s2, s1, s0, init, pushBack, insert]) (by decide)).1

end Cstl.DList
