import Cstl.SList.Model
/-
Link-level model of src/dlist.c (circular doubly-linked list with a sentinel
head node).  Memory is the pair of `n` and `p` fields of every node
(address ↦ address); a `struct cstl_dlist` is its head-node address `h` and
`size`.  One `upd` per C assignment, in the C order.  `sort` is modelled on
the sequence read from the links followed by a relink (temporary heads on the
C stack), as for slist.
-/
namespace Cstl.DList
open Cstl.SList (Mem upd)

structure M2 where
  nx : Mem
  pv : Mem

structure Hd where
  h : Nat
  size : Nat
deriving Repr, DecidableEq, Inhabited

/-- `cstl_dlist_init` -/
def init (m : M2) (h : Nat) : M2 × Hd :=
  ({ nx := upd m.nx h h, pv := upd m.pv h h }, { h := h, size := 0 })

/-- `__cstl_dlist_insert(l, p, n)` -/
def insert (m : M2) (l : Hd) (p n : Nat) : M2 × Hd :=
  let nx1 := upd m.nx n (m.nx p)          -- n->n = p->n
  let pv1 := upd m.pv n p                 -- n->p = p
  let pv2 := upd pv1 (nx1 n) n            -- n->n->p = n
  let nx2 := upd nx1 p n                  -- p->n = n
  ({ nx := nx2, pv := pv2 }, { l with size := l.size + 1 })

/-- `__cstl_dlist_erase(l, n)` -/
def erase (m : M2) (l : Hd) (n : Nat) : M2 × Hd :=
  let pv1 := upd m.pv (m.nx n) (m.pv n)   -- n->n->p = n->p
  let nx1 := upd m.nx (pv1 n) (m.nx n)    -- n->p->n = n->n
  ({ nx := nx1, pv := pv1 }, { l with size := l.size - 1 })

def front (m : M2) (l : Hd) : Option Nat := if l.size > 0 then some (m.nx l.h) else none
def back (m : M2) (l : Hd) : Option Nat := if l.size > 0 then some (m.pv l.h) else none
def pushFront (m : M2) (l : Hd) (e : Nat) : M2 × Hd := insert m l l.h e
def pushBack (m : M2) (l : Hd) (e : Nat) : M2 × Hd := insert m l (m.pv l.h) e

def popFront (m : M2) (l : Hd) : M2 × Hd × Option Nat :=
  if l.size > 0 then
    let n := m.nx l.h
    let r := erase m l n
    (r.1, r.2, some n)
  else (m, l, none)

def popBack (m : M2) (l : Hd) : M2 × Hd × Option Nat :=
  if l.size > 0 then
    let n := m.pv l.h
    let r := erase m l n
    (r.1, r.2, some n)
  else (m, l, none)

/-- what a visit function that removes the visited element does: unlink it
(`cstl_dlist_erase(l, c)`) and then do anything to it — it owns the element
now (`poison` overwrites both of its links, as a free or a reuse would) -/
def eraseP (poison : Nat → Nat) (m : M2) (l : Hd) (c : Nat) : M2 × Hd :=
  let r := erase m l c
  ({ nx := upd r.1.nx c (poison c), pv := upd r.1.pv c (poison c) }, r.2)

/-- `cstl_dlist_foreach`: `c = next(h), n = next(c)`; while `res == 0 && c != h`:
visit `c`; `c = n, n = next(c)`.  The visit function returns its result and
whether it removed the visited element (`eraseP`), which the loop tolerates
because the successor was saved first. -/
def foreachLoop (poison : Nat → Nat) (fwd : Bool) (visit : Nat → Nat → Int × Bool) :
    Nat → M2 → Hd → Nat → Nat → Nat → List Nat → M2 × Hd × List Nat × Int
  | 0, m, l, _, _, _, acc => (m, l, acc.reverse, 0)
  | fuel + 1, m, l, c, n, k, acc =>
    if c = l.h then (m, l, acc.reverse, 0)
    else
      let v := visit k c
      let ml := if v.2 then eraseP poison m l c else (m, l)
      if v.1 ≠ 0 then (ml.1, ml.2, (c :: acc).reverse, v.1)
      else
        let c' := n
        let n' := if fwd then ml.1.nx c' else ml.1.pv c'
        foreachLoop poison fwd visit fuel ml.1 ml.2 c' n' (k + 1) (c :: acc)

def foreach (m : M2) (l : Hd) (fwd : Bool) (visit : Nat → Nat → Int × Bool)
    (poison : Nat → Nat := fun _ => 0) : M2 × Hd × List Nat × Int :=
  let c := if fwd then m.nx l.h else m.pv l.h
  let n := if fwd then m.nx c else m.pv c
  foreachLoop poison fwd visit (l.size + 1) m l c n 0 []

/-- `cstl_dlist_find`: first element (in the direction) whose key compares equal -/
def find (m : M2) (l : Hd) (fwd : Bool) (key : Nat → Int) (probe : Int) : Option Nat :=
  let r := foreach m l fwd (fun _ e => (if key e = probe then 1 else 0, false))
  if r.2.2.2 > 0 then r.2.2.1.getLast? else none

/-- the fix-up macro of `cstl_dlist_swap`.

The macro ends in a chained assignment `L->h.n->p = L->h.p->n = &L->h`.  The
convention for this C idiom (the translator `tools/c2lean_lists.py`, and
`splitLinks` in `SortL.lean`) is: the right-hand assignment is performed first
and the left lvalue is evaluated afterwards.  `swapFix` is the one place that
reads the left lvalue `L->h.n` first, from the memory before either write; the
two orders differ only if a link of the head node points to the head node
itself, which the branch `size != 0` excludes on represented lists
(`Tie2.swap_tie_raw`, `Tie2.swap_tie`). -/
def swapFix (m : M2) (l : Hd) : M2 :=
  if l.size = 0 then { nx := upd m.nx l.h l.h, pv := upd m.pv l.h l.h }
  else
    let pv1 := upd m.pv (m.nx l.h) l.h      -- L->h.n->p = &L->h   (left assignment of the chain, `L->h.n` read first)
    let nx1 := upd m.nx (pv1 l.h) l.h       -- L->h.p->n = &L->h
    { nx := nx1, pv := pv1 }

/-- `cstl_dlist_swap(a, b)`: struct contents exchanged, then both fixed up -/
def swap (m : M2) (a b : Hd) : M2 × Hd × Hd :=
  let an := m.nx a.h
  let ap := m.pv a.h
  let bn := m.nx b.h
  let bp := m.pv b.h
  let m1 : M2 := { nx := upd (upd m.nx a.h bn) b.h an, pv := upd (upd m.pv a.h bp) b.h ap }
  let a1 : Hd := { h := a.h, size := b.size }
  let b1 : Hd := { h := b.h, size := a.size }
  let m2 := swapFix m1 a1
  let m3 := swapFix m2 b1
  (m3, a1, b1)

/-- `cstl_dlist_clear`: unlink the first element, then hand it to the callback,
which may do anything to it (`poison` overwrites both of its links). -/
def clearLoop (poison : Nat → Nat) : Nat → M2 → Hd → List Nat → M2 × Hd × List Nat
  | 0, m, l, acc => (m, l, acc.reverse)
  | fuel + 1, m, l, acc =>
    if l.size > 0 then
      let n := m.nx l.h
      let r := erase m l n
      let m' : M2 := { nx := upd r.1.nx n (poison n), pv := upd r.1.pv n (poison n) }
      clearLoop poison fuel m' r.2 (n :: acc)
    else (m, l, acc.reverse)

def clear (m : M2) (l : Hd) (poison : Nat → Nat) : M2 × Hd × List Nat :=
  clearLoop poison l.size m l []

/-- exchange the contents (`n`,`p`) of nodes `i` and `j` (`cstl_swap`) -/
def swapNodes (m : M2) (i j : Nat) : M2 :=
  let inx := m.nx i
  let ipv := m.pv i
  { nx := upd (upd m.nx i (m.nx j)) j inx, pv := upd (upd m.pv i (m.pv j)) j ipv }

/-- the main loop of `cstl_dlist_reverse` -/
def revLoop : Nat → M2 → Nat → Nat → Option (M2 × Nat × Nat)
  | 0, m, i, j => if i ≠ j ∧ m.nx i ≠ j then none else some (m, i, j)
  | fuel + 1, m, i, j =>
    if i ≠ j ∧ m.nx i ≠ j then
      let nx1 := upd m.nx (m.pv i) j          -- i->p->n = j
      let pv1 := upd m.pv (nx1 i) j           -- i->n->p = j
      let pv2 := upd pv1 (nx1 j) i            -- j->n->p = i
      let nx2 := upd nx1 (pv2 j) i            -- j->p->n = i
      let m1 := swapNodes { nx := nx2, pv := pv2 } i j
      let k := m1.pv i                        -- k = i->p
      revLoop fuel m1 (m1.nx j) k             -- i = j->n, j = k
    else some (m, i, j)

def reverse (m : M2) (l : Hd) : Option M2 :=
  match revLoop (l.size + 1) m (m.nx l.h) (m.pv l.h) with
  | none => none
  | some (m, i, j) =>
    if m.nx i = j then
      let nx1 := upd m.nx (m.pv i) j          -- i->p->n = j
      let pv1 := upd m.pv (nx1 j) i           -- j->n->p = i
      let nx2 := upd nx1 i (nx1 j)            -- i->n = j->n
      let nx3 := upd nx2 j i                  -- j->n = i
      let pv2 := upd pv1 j (pv1 i)            -- j->p = i->p
      let pv3 := upd pv2 i j                  -- i->p = j
      some { nx := nx3, pv := pv3 }
    else some m

/-- `cstl_dlist_concat(d, s)` -/
def concat (m : M2) (d s : Hd) : M2 × Hd × Hd :=
  if d.h ≠ s.h ∧ s.size > 0 then
    let pv1 := upd m.pv (m.nx s.h) (m.pv d.h)     -- s->h.n->p = d->h.p
    let nx1 := upd m.nx (pv1 s.h) d.h             -- s->h.p->n = &d->h
    let nx2 := upd nx1 (pv1 d.h) (nx1 s.h)        -- d->h.p->n = s->h.n
    let pv2 := upd pv1 d.h (pv1 s.h)              -- d->h.p = s->h.p
    let r := init { nx := nx2, pv := pv2 } s.h
    (r.1, { d with size := d.size + s.size }, r.2)
  else (m, d, s)

def walk (f : Mem) (h : Nat) : Nat → Nat → List Nat
  | 0, _ => []
  | fuel + 1, a => if f a = h then [] else f a :: walk f h fuel (f a)

/-- write both link fields of the ring `h, xs…` -/
def relinkFrom (m : M2) (h : Nat) : Nat → List Nat → M2
  | a, [] => { nx := upd m.nx a h, pv := upd m.pv h a }
  | a, x :: xs => relinkFrom { nx := upd m.nx a x, pv := upd m.pv x a } h x xs

def sort (m : M2) (l : Hd) (key : Nat → Int) : M2 × Hd :=
  if l.size > 1 then
    let xs := walk m.nx l.h l.size l.h
    let ys := Cstl.SList.msort key xs.length xs
    (relinkFrom m l.h l.h ys, l)
  else (m, l)

end Cstl.DList
