import Cstl.HeapL.Push
/-
The do/while of cstl_heap_pop at link level performs the recursion of
`Cstl.Heap.siftInto`: with the moved node `n` in the hole of a context, one
evaluation of the candidate (`pickChild`, the C tie rules) either ends the loop
or promotes the chosen child above `n` and continues one level further down.
-/
namespace Cstl.HeapL
open Cstl.SList (Mem upd upd_same upd_other)
open Cstl.TreeL
open Cstl.Tree (Color Elem Tree)

/-- the loop after the (possibly skipped) promotion of one iteration -/
def sdRest (fuel : Nat) (m : TM) (h : Hd) (n : Nat) : Option (TM × Hd) :=
  if n ≠ pickChild m n then siftDownLoop fuel m h n (pickChild m n) else some (m, h)

theorem siftDownLoop_null (fuel : Nat) (m : TM) (h : Hd) (n : Nat) :
    siftDownLoop (fuel + 1) m h n 0 = sdRest fuel m h n := by
  simp [siftDownLoop, sdRest]

theorem siftDownLoop_child (fuel : Nat) (m : TM) (h : Hd) (n c : Nat) (hc : c ≠ 0) :
    siftDownLoop (fuel + 1) m h n c = sdRest fuel (promoteChild m h c).1 (promoteChild m h c).2 n := by
  simp [siftDownLoop, sdRest, hc]

/-- the loop `sdRest fuel m h n` finishes in a memory that represents `wrap T'` for a tree `T'`
whose functional image is `goal`; size and keys are as in `m`, `h` -/
def SdOk (fuel : Nat) (m : TM) (h : Hd) (n : Nat) (wrap : Tree → Tree) (goal : Heap.Tree) : Prop :=
  ∃ m' h' T', sdRest fuel m h n = some (m', h') ∧ IsTree m' h'.root 0 (wrap T') ∧ h'.size = h.size ∧
    m'.key = m.key ∧ toH T' = goal

theorem SdOk.mono {fuel : Nat} {m : TM} {h : Hd} {n : Nat} {wrap wrap' : Tree → Tree} {goal goal' : Heap.Tree}
    (ok : SdOk fuel m h n wrap goal) (hw : ∀ T, toH T = goal → ∃ T', wrap T = wrap' T' ∧ toH T' = goal') :
    SdOk fuel m h n wrap' goal' := by
  obtain ⟨m', h', T, hrun, htree, hsize, hkey, hT⟩ := ok
  obtain ⟨T', hwrap, hT'⟩ := hw T hT
  exact ⟨m', h', T', hrun, hwrap ▸ htree, hsize, hkey, hT'⟩

/-- one level down: the candidate is the child `ce`, which is promoted above the moved node; the
moved node is then the focus one frame deeper.  `ih` is the induction hypothesis of `sdRest_spec`,
passed as an argument so that this step is stated once for both sides. -/
theorem sd_descend {fuel : Nat} {m : TM} {h : Hd} {k : Ctx} {n p : Nat} {d : Bool} {cn cc : Color}
    {cl cr ps : Tree} {en ce : Elem}
    (ih : ∀ (k : Ctx) (m : TM) (h : Hd) (n p : Nat) (cn : Color) (l r : Tree) (en : Elem),
      (Tree.node cn l en r).height ≤ fuel + 1 → Zip m h.root k n p (.node cn l en r) →
      SdOk fuel m h n (plug k) (Heap.siftInto (toE en) (toH (.node cn l en r))))
    (hz : Zip m h.root k n p (mkNode d cn (.node cc cl ce cr) en ps))
    (hh : (mkNode d cn (.node cc cl ce cr) en ps).height ≤ fuel + 1 + 1) (hp : pickChild m n = ce.id) :
    SdOk (fuel + 1) m h n (fun T => plug k (mkNode d cc T ce ps))
      (Heap.siftInto (toE en) (.node (toH cl) (toE ce) (toH cr))) := by
  have hne : n ≠ ce.id := by
    cases d <;> exact hz.focus_ne_of_mem (z := ce.id) (by simp)
  have hc0 : ce.id ≠ 0 := by
    have hc := hz.downD.sub
    rw [Shape.id_eq hc]
    simp only [Shape_node] at hc
    exact hc.1
  obtain ⟨hzip, hsize, _, hkey, _⟩ := promoteChild_spec hz
  -- after the promotion the moved node is the child of `ce` on the same side
  have hdown := hzip.downD
  have hnid : chL (promoteChild m h ce.id).1 d ce.id = n := by
    have h1 := Shape.id_eq hdown.sub
    have h2 : en.id = n := Shape.id_eqD hz.sub
    rw [← h1, h2]
  rw [hnid] at hdown
  obtain ⟨m', h', T, hrun, htree, hsize', hkey', hT⟩ := ih _ _ _ n ce.id cn cl cr en
    (by cases d <;> simp only [mkNode_true, mkNode_false, Tree.height] at hh ⊢ <;> omega) hdown
  refine ⟨m', h', T, ?_, by simpa using htree, by rw [hsize', hsize], by rw [hkey', hkey], ?_⟩
  · simp only [sdRest, hp, ne_eq, hne, not_false_eq_true, if_true]
    rw [siftDownLoop_child _ _ _ _ _ hc0]
    exact hrun
  · rw [hT]
    exact siftInto_root _ _ _ _ _

/-- the candidate the C code computes from the link fields is the candidate of the functional model -/
theorem pickChild_shape {m : TM} {n p : Nat} {cn : Color} {l r : Tree} {en : Elem}
    (hs : Shape m n p (.node cn l en r)) :
    pickChild m n = match Heap.cand (toE en) (toH l) (toH r) with
      | none => n
      | some d => if d then m.rt n else m.lf n := by
  have hkeyn := hs.key_eq
  simp only [Shape_node] at hs
  obtain ⟨_, _, _, _, hsl, hsr⟩ := hs
  rcases l with _ | ⟨cl, ll, x, lr⟩ <;> rcases r with _ | ⟨cr, rl, y, rr⟩
  · have hl0 : m.lf n = 0 := hsl
    have hr0 : m.rt n = 0 := hsr
    simp [pickChild, Heap.cand, hl0, hr0]
  · have hl0 : m.lf n = 0 := hsl
    by_cases hy : y.key > en.key <;> simp [pickChild, Heap.cand, hl0, hsr.ne_zero, ← hsr.key_eq, ← hkeyn, hy]
  · have hr0 : m.rt n = 0 := hsr
    by_cases hx : x.key > en.key <;> simp [pickChild, Heap.cand, hsl.ne_zero, hr0, ← hsl.key_eq, ← hkeyn, hx]
  · by_cases hx : x.key > en.key <;> by_cases hy : y.key > x.key <;> by_cases hy' : y.key > en.key <;>
      simp [pickChild, Heap.cand, hsl.ne_zero, hsr.ne_zero, ← hsl.key_eq, ← hsr.key_eq, ← hkeyn, hx, hy, hy'] <;> omega

theorem toH_eq_node {t : Tree} {a b : Heap.Tree} {z : Heap.Elem} (h : toH t = .node a z b) :
    ∃ c l e r, t = .node c l e r ∧ toH l = a ∧ toE e = z ∧ toH r = b := by
  cases t with
  | nil => cases h
  | node c l e r => cases h; exact ⟨c, l, e, r, rfl, rfl, rfl, rfl⟩

theorem sdRest_spec : ∀ (fuel : Nat) (k : Ctx) (m : TM) (h : Hd) (n p : Nat) (cn : Color) (l r : Tree) (en : Elem),
    (Tree.node cn l en r).height ≤ fuel + 1 → Zip m h.root k n p (.node cn l en r) →
    ∃ m' h' T', sdRest fuel m h n = some (m', h') ∧ IsTree m' h'.root 0 (plug k T') ∧ h'.size = h.size ∧
      m'.key = m.key ∧ toH T' = Heap.siftInto (toE en) (toH (.node cn l en r)) := by
  intro fuel
  induction fuel with
  | zero =>
    intro k m h n p cn l r en hh hz
    have hl : l = .nil := by
      cases l with
      | nil => rfl
      | node => simp [Tree.height] at hh
    have hr : r = .nil := by
      cases r with
      | nil => rfl
      | node => simp [Tree.height] at hh
    subst hl hr
    have hs := hz.sub
    simp only [Shape_node, Shape_nil] at hs
    refine ⟨m, h, .node cn .nil en .nil, ?_, hz.isTree, rfl, rfl, by simp [Heap.siftInto]⟩
    simp [sdRest, pickChild, hs.2.2.2.2.1, hs.2.2.2.2.2]
  | succ f ih =>
    intro k m h n p cn l r en hh hz
    have hp := pickChild_shape hz.sub
    have hc := Heap.cand_spec (toE en) (toE en) (toH l) (toH r)
    have hs := hz.sub
    simp only [Shape_node] at hs
    obtain ⟨_, _, _, _, hsl, hsr⟩ := hs
    cases hd : Heap.cand (toE en) (toH l) (toH r) with
    | none =>
      rw [hd] at hp hc
      exact ⟨m, h, _, by simp [sdRest, hp], hz.isTree, rfl, rfl, hc.2.2.symm⟩
    | some d =>
      rw [hd] at hp hc
      obtain ⟨a, z, b, hsub, _, _, he⟩ := hc
      -- the child on side `d` goes up; `mkNode` counts sides the other way round (`true` = left)
      cases d
      · obtain ⟨cc, cl, ce, cr, rfl, rfl, rfl, rfl⟩ := toH_eq_node (t := l) hsub
        exact (sd_descend (d := true) (ps := r) ih hz hh (hp.trans (Shape.id_eq hsl).symm)).mono
          fun T hT => ⟨_, rfl, by rw [toH_node, he, ← hT]; rfl⟩
      · obtain ⟨cc, cl, ce, cr, rfl, rfl, rfl, rfl⟩ := toH_eq_node (t := r) hsub
        exact (sd_descend (d := false) (ps := l) ih hz hh (hp.trans (Shape.id_eq hsr).symm)).mono
          fun T hT => ⟨_, rfl, by rw [toH_node, he, ← hT]; rfl⟩

end Cstl.HeapL
