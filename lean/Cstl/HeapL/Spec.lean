import Cstl.HeapL.Abs
import Cstl.Heap.Spec
/-
Specification vocabulary of the link-level heap theorems (definitions only).
-/
namespace Cstl.HeapL
open Cstl.SList (Mem upd upd_same upd_other)
open Cstl.TreeL
open Cstl.Tree (Color Elem Tree)

/-- the functional operation a link-level operation stands for -/
def toOp : LOp → Heap.Op
  | .push n key => .push { key := key, id := n }
  | .pop => .pop
  | .clear => .clear

/-- a link-level heap represents a functional one -/
def Rep (s : LS) (hp : Heap.Heap) : Prop :=
  ∃ t, IsTree s.m s.h.root 0 t ∧ toH t = hp.t ∧ s.h.size = hp.size

/-- the documented domain: the element handed to push is an object (non-NULL) that is not in the
heap -/
def OpOk (hp : Heap.Heap) : LOp → Prop
  | .push n _ => n ≠ 0 ∧ n ∉ (Heap.Tree.elems hp.t).map (·.id)
  | _ => True

/-- every operation of the history is inside the domain in the state it is applied to -/
def OpsOk : Heap.Heap → List LOp → Prop
  | _, [] => True
  | hp, op :: ops => OpOk hp op ∧ ∀ hp', Heap.step hp (toOp op) = some hp' → OpsOk hp' ops

end Cstl.HeapL
