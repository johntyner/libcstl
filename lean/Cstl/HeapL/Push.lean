import Cstl.HeapL.Find
import Cstl.TreeL.Promote
import Cstl.TreeL.Surgery
/-
cstl_heap_push at link level refines `Cstl.Heap.push`: the sift-up loop
(`while (n->p != NULL && cmp(n, n->p) > 0) promote_child(h, n)`, navigating
through the parent links) performs, frame by frame from the innermost, what
the recursion of `Cstl.Heap.siftUp` performs on its way back up.
-/
namespace Cstl.HeapL
open Cstl.SList (Mem upd upd_same upd_other)
open Cstl.TreeL
open Cstl.Tree (Color Elem Tree)

theorem siftUpLoop_stop {m : TM} {h : Hd} {n : Nat} (hs : ¬ (m.pr n ≠ 0 ∧ m.key n > m.key (m.pr n))) (fuel : Nat) :
    siftUpLoop fuel m h n = some (m, h) := by
  cases fuel <;> simp only [siftUpLoop, if_neg hs]

theorem siftUpLoop_spec : ∀ (k : Ctx) (fuel : Nat) (m : TM) (h : Hd) (n p : Nat) (cn : Color) (l r : Tree) (en : Elem),
    Zip m h.root k n p (.node cn l en r) → k.length ≤ fuel →
    ∃ m' h' T b, siftUpLoop fuel m h n = some (m', h') ∧ IsTree m' h'.root 0 T ∧ h'.size = h.size ∧
      m'.key = m.key ∧ upH k (some (toH (.node cn l en r), true)) = some (toH T, b) := by
  intro k
  induction k with
  | nil =>
    intro fuel m h n p cn l r en hz _
    have hn0 : n ≠ 0 := hz.sub.ne_zero
    have hp : m.pr n = 0 := by rw [hz.pr_focus hn0]; exact hz.slot_nil.1
    refine ⟨m, h, _, true, siftUpLoop_stop (by simp [hp]) fuel, hz.isTree_nil, rfl, rfl, rfl⟩
  | cons f k ih =>
    intro fuel m h n p cn l r en hz hfuel
    obtain ⟨d, cp, pe, ps, rfl⟩ := frame_cases f
    have hs := hz.sub
    simp only [Shape_node] at hs
    obtain ⟨hn0, hen, _, hpn, _, _⟩ := hs
    have henid : en.id = n := by simp [hen]
    -- one level up the parent `p` is the focus, with the new node as its child on the `l`-side for `d`
    have hup := hz.upD
    obtain ⟨hp0, hpe, _⟩ := (Shape_mkNode ..).1 hup.sub
    have hcmp : en.key > pe.key ↔ m.key n > m.key p := by simp [hen, hpe]
    rw [upH_cons, Option.bind_some, stepUp_mkFrame]
    by_cases hgt : m.key n > m.key p
    · obtain ⟨fuel', rfl⟩ : ∃ f', fuel = f' + 1 := ⟨fuel - 1, by simp at hfuel; omega⟩
      obtain ⟨hzip, hsize, _, hkey, _⟩ := promoteChild_spec hup
      rw [henid] at hzip hsize hkey
      obtain ⟨l', r', he⟩ := mkNode_eq_node d cn (.node cp l pe r) ps en
      rw [if_pos (hcmp.2 hgt), he]
      rw [he] at hzip
      obtain ⟨m', h', T, b, hrun, htree, hsize', hkey', hup'⟩ := ih fuel' _ _ n (m.pr p) cn l' r' en hzip
        (by simp at hfuel; omega)
      refine ⟨m', h', T, b, ?_, htree, by rw [hsize', hsize], by rw [hkey', hkey], hup'⟩
      simp only [siftUpLoop]
      rw [if_pos ⟨by rw [hpn]; exact hp0, by rw [hpn]; exact hgt⟩]
      exact hrun
    · rw [if_neg (mt hcmp.1 hgt), upH_stopped, ← plugH_cons, ← toH_plug]
      exact ⟨m, h, _, false, siftUpLoop_stop (by rw [hpn]; exact fun hh => hgt hh.2) fuel, hz.isTree, rfl, rfl, rfl⟩

theorem tree_size_of_complete {t : Tree} {n : Nat} (hc : Heap.Complete (toH t) n) (hlt : n < 2 ^ 64) : t.size = n := by
  rw [size_eq_elems, Heap.complete_length n _ hlt hc]

/-- the three stores to the new node and the store to the parent's child field are the leaf
attach of the bintree insert (in another order) -/
theorem push_attach_eq_L (m : TM) (h : Hd) (n a : Nat) :
    setLf (setP (setRt (setLf m n 0) n 0) n a) a n = (attach m h n a (.lf a)).1 := rfl
theorem push_attach_eq_R (m : TM) (h : Hd) (n a : Nat) :
    setRt (setP (setRt (setLf m n 0) n 0) n a) a n = (attach m h n a (.rt a)).1 := rfl

/-- the same for a direction: which child field of the parent takes the new node -/
theorem push_attach_eq (m : TM) (h : Hd) (n a : Nat) (d : Bool) (c : Color) (e : Elem) (s : Tree) (k : Ctx) :
    (if d = false then setRt (setP (setRt (setLf m n 0) n 0) n a) a n
      else setLf (setP (setRt (setLf m n 0) n 0) n a) a n) =
      (attach m h n a (slot (mkFrame d c e s :: k) a)).1 := by
  cases d
  · exact push_attach_eq_R m h n a
  · exact push_attach_eq_L m h n a

theorem push_refines {m : TM} {h : Hd} {t : Tree} {n : Nat} (ht : IsTree m h.root 0 t)
    (hc : Heap.Complete (toH t) h.size) (hn0 : n ≠ 0) (hnt : n ∉ t.ids) (hlt : h.size + 1 < 2 ^ 64) :
    ∃ m' h' t', push m h n = some (m', h') ∧ IsTree m' h'.root 0 t' ∧
      Heap.push ⟨toH t, h.size⟩ ⟨m.key n, n⟩ = some ⟨toH t', h'.size⟩ ∧ m'.key = m.key := by
  cases t with
  | nil =>
    have hr : h.root = 0 := ht.shape
    refine ⟨setP (setRt (setLf m n 0) n 0) n 0, { root := n, size := h.size + 1 },
      .node (m.cl n) .nil (elemAt m n) .nil, by simp only [push, hr, if_true], ⟨?_, by simp⟩, ?_, rfl⟩
    · simp [Shape_node, hn0, elemAt]
    · simp [Heap.push, Heap.Tree.leaf, toE, elemAt]
  | node c0 l0 e0 r0 =>
    have hr : h.root ≠ 0 := ht.shape.ne_zero
    have hsize := tree_size_of_complete hc (by omega)
    have hsz : h.size ≠ 0 := by rw [← hsize]; simp [Tree.size]
    obtain ⟨k, d, cp, pe, s, htk, hd, hd'⟩ := next_ctx hc (by omega) hlt
    rw [htk] at ht hnt hsize ⊢
    -- the memory after `n->l = NULL; n->r = NULL` still represents the tree: `find` runs there
    have ht2 : IsTree (setRt (setLf m n 0) n 0) h.root 0 (plug k (mkNode d cp .nil pe s)) :=
      ⟨ht.shape.frame (fun z hz => by
          have hzn : z ≠ n := fun e => hnt (e ▸ hz)
          exact (Agree.setLf 0 hzn).trans (Agree.setRt 0 hzn)), ht.nodup⟩
    have hz := Zip.of_plug ht
    generalize hga : rootOf (mkNode d cp .nil pe s) = a', ctxParent k = gp at hz
    have ha0 : a' ≠ 0 := hz.focusD.2
    have hfind : find (setRt (setLf m n 0) n 0) h ((h.size - 1) / 2) = some a' :=
      hga ▸ find_zip (Zip.of_plug ht2) hd (by omega)
    -- the new node goes into the empty hole on the `l`-side for `d` of the parent
    have hzd := hz.downD
    have h0 : chL m d a' = 0 := hzd.sub
    rw [h0] at hzd
    have hnk : n ∉ ctxIds (mkFrame d cp pe s :: k) := fun hm =>
      hnt ((plug_ids_perm _ _).mem_iff.2 (by
        rcases mem_ctxIds_mkFrame.1 hm with h1 | h1 | h1 <;> cases d <;> simp [h1]))
    obtain ⟨hzip, _, _, hkey, _⟩ := attach_spec (h := h) (n := n) hzd hn0 hnk
    rw [attach_root_cons] at hzip
    have hklen : k.length + 1 ≤ h.size := by
      have := plug_size_ge k (mkNode d cp .nil pe s)
      cases d <;> simp only [mkNode_true, mkNode_false, Tree.size] at this hsize <;> omega
    obtain ⟨m', h', T, b, hrun, htree, hsize', hkey', hup⟩ := siftUpLoop_spec (mkFrame d cp pe s :: k) (h.size + 1)
      _ h n a' (m.cl n) .nil .nil (elemAt m n) hzip (by simp; omega)
    have hside : h.size % 2 = 0 ↔ d = false := by cases d <;> simpa using hd'
    refine ⟨m', { h' with size := h'.size + 1 }, T, ?_, htree, ?_, by rw [hkey', hkey]⟩
    · simp only [push, if_neg hr, if_neg hsz, hfind, if_neg ha0, hside, push_attach_eq m h n a' d cp pe s k, hrun]
    · rw [hsize']
      exact push_plug hd hd' hsz hup

end Cstl.HeapL
