import Cstl.HeapL.Abs
import Cstl.Heap.LemmasFls
import Cstl.Heap.LemmasPath
/-
cstl_heap_find at link level: the loop over the mask `b` follows exactly the
directions `Cstl.Heap.path` lists, through the `l`/`r` fields; in a memory that
represents a tree it ends at the address of the node in that position.
-/
namespace Cstl.HeapL
open Cstl.TreeL
open Cstl.Tree (Color Elem Tree)

theorem walkTo_zero (m : TM) (ds : List Bool) : walkTo m 0 ds = 0 := by
  cases ds <;> simp [walkTo]

/-- the loop of `cstl_heap_find` finishes within as many iterations as `b` has bits and returns
the node the directions `pathLoop loc b` lead to (NULL when the walk leaves the tree) -/
theorem findLoop_eq (m : TM) (loc : Nat) : ∀ (fuel a b : Nat), b < 2 ^ fuel →
    findLoop m loc fuel a b = some (walkTo m a (Heap.pathLoop loc b)) := by
  intro fuel
  induction fuel with
  | zero =>
    intro a b hb
    have : b = 0 := by simpa using hb
    subst this
    simp [findLoop, Heap.pathLoop_zero, walkTo]
  | succ f ih =>
    intro a b hb
    by_cases hb0 : b = 0
    · subst hb0
      simp [findLoop, Heap.pathLoop_zero, walkTo]
    · rw [Heap.pathLoop_pos loc hb0]
      by_cases ha : a = 0
      · subst ha
        simp [findLoop, walkTo_zero]
      · have hlt : b >>> 1 < 2 ^ f := by omega
        simp only [findLoop, ha, hb0, ne_eq, not_false_eq_true, and_self, if_true, walkTo, if_false]
        rw [ih _ _ hlt]
        by_cases hz : loc &&& b = 0 <;> simp [hz]

theorem fls_toNat_lt {loc : Nat} (h0 : 0 < loc) (hlt : loc < 2 ^ 64) : (Heap.fls loc).toNat < 64 := by
  unfold Heap.fls
  rw [if_neg (by omega), Heap.flsLoop_eq_log2 h0 hlt]
  have := (Nat.log2_lt (n := loc) (k := 64) (by omega)).2 hlt
  show (Int.ofNat (Nat.log2 loc)).toNat < 64
  exact this

/-- `cstl_heap_find(h, id)` never runs out of fuel: it is the walk along `path (id + 1)` -/
theorem find_eq (m : TM) (h : Hd) (id : Nat) (hlt : id + 1 < 2 ^ 64) :
    find m h id = some (walkTo m h.root (Heap.path (id + 1))) := by
  unfold find Heap.path findFuel
  apply findLoop_eq
  have hs := fls_toNat_lt (loc := id + 1) (by omega) hlt
  have : 2 ^ (Heap.fls (id + 1)).toNat ≤ 2 ^ 63 := Nat.pow_le_pow_right (by decide) (by omega)
  omega

/-- the address a functional pop result stands for -/
def resAddr : Option Heap.Elem → Nat
  | none => 0
  | some e => e.id

theorem walkTo_shape {m : TM} : ∀ (ds : List Bool) {a p : Nat} {t : Tree}, Shape m a p t →
    walkTo m a ds = resAddr (Heap.elemAt (toH t) ds) := by
  intro ds
  induction ds with
  | nil =>
    intro a p t hs
    cases t with
    | nil => exact hs
    | node c l e r => simp [walkTo, Heap.elemAt, resAddr, Shape.id_eq hs]
  | cons d ds ih =>
    intro a p t hs
    cases t with
    | nil =>
      have : a = 0 := hs
      subst this
      simp [walkTo, Heap.elemAt, resAddr]
    | node c l e r =>
      simp only [Shape_node] at hs
      simp only [walkTo, hs.1, if_false, toH_node, Heap.elemAt]
      cases d
      · exact ih hs.2.2.2.2.1
      · exact ih hs.2.2.2.2.2

/-- `cstl_heap_find` reads the tree only: it returns the address at the position `path (id + 1)` -/
theorem find_eq_elemAt {m : TM} {h : Hd} {t : Tree} (ht : IsTree m h.root 0 t) (id : Nat)
    (hlt : id + 1 < 2 ^ 64) :
    find m h id = some (resAddr (Heap.elemAt (toH t) (Heap.path (id + 1)))) := by
  rw [find_eq m h id hlt, walkTo_shape _ ht.shape]

/-- … and when the directions of a context `k` are that path, it is the address of the focus of `k` (NULL for an
empty subtree) -/
theorem find_zip {m : TM} {h : Hd} {k : Ctx} {a p : Nat} {s : Tree} {id : Nat} (hz : Zip m h.root k a p s)
    (hd : dirs k = Heap.path (id + 1)) (hlt : id + 1 < 2 ^ 64) : find m h id = some a := by
  rw [find_eq_elemAt hz.isTree id hlt, toH_plug, ← hd, ← List.append_nil (dirs k), elemAt_plugH]
  cases s with
  | nil => exact congrArg some (Eq.symm hz.sub)
  | node c l e r => exact congrArg some (Shape.id_eq hz.sub)

end Cstl.HeapL
