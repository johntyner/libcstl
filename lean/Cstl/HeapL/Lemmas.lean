import Cstl.HeapL.Spec
/-
Two facts about `Heap.elemAt` under HeapL names (`elemAt_eq_none_iff`, `elemAt_mem`; unqualified `elemAt` in this
namespace is `TreeL.elemAt`), `Rep.init`, and `setKey_agree'` (the name under which `TreeL.setKey_agree` is kept here).
-/
namespace Cstl.HeapL
open Cstl.SList (Mem upd upd_same upd_other)
open Cstl.TreeL
open Cstl.Tree (Color Elem Tree)

theorem elemAt_eq_none_iff {ds : List Bool} {t : Heap.Tree} : Heap.elemAt t ds = none ↔ ¬ Heap.Occ t ds := by
  rw [Heap.elemAt_walk, ← Heap.walk_eq_nil_iff]
  cases Heap.walk t ds <;> simp

theorem elemAt_mem : ∀ {ds : List Bool} {t : Heap.Tree} {e : Heap.Elem}, Heap.elemAt t ds = some e →
    e ∈ Heap.Tree.elems t
  | ds, .nil, _, h => by cases ds <;> cases h
  | [], .node .., _, h => by cases h; simp
  | d :: ds, .node l x r, e, h => by
    have := elemAt_mem (t := Heap.sub d l r) h
    cases d <;> simp [Heap.sub] at this <;> simp [this]

theorem Rep.init (m : TM) : Rep ⟨m, ⟨0, 0⟩⟩ Heap.empty := ⟨.nil, ⟨rfl, by simp⟩, rfl, rfl⟩

theorem setKey_agree' (m : TM) (n : Nat) (key : Int) {z : Nat} (h : z ≠ n) : Agree m (setKey m n key) z :=
  setKey_agree m n key h

end Cstl.HeapL
