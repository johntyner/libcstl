import Cstl.HeapL.Model
import Cstl.TreeL.Dir
import Cstl.Heap.LemmasShape
import Cstl.Heap.LemmasOrder
/-
From the trees the link-level abstraction predicate `IsTree` speaks about
(`Cstl.Tree.Tree`: colour, element with id/key) to the trees of the functional
heap model (`Cstl.Heap.Tree`), and what the recursive functions of
lean/Cstl/Heap/Model.lean that go from the root along a direction list (`attachAt`,
`siftUp`, `removeAt`) do to a tree given as a context around a focus — the form in
which the link-level loops see it; of `siftInto`, which recurses on the tree itself,
only that it does not read the root it replaces (`siftInto_root`).
Pure functional facts; no memory here.
-/
namespace Cstl.HeapL
open Cstl.TreeL
open Cstl.Tree (Color Elem Tree)

/-- forget the colour and the map fields -/
def toE (e : Elem) : Heap.Elem := { key := e.key, id := e.id }

def toH : Tree → Heap.Tree
  | .nil => .nil
  | .node _ l e r => .node (toH l) (toE e) (toH r)

@[simp] theorem toH_nil : toH .nil = .nil := rfl
@[simp] theorem toH_node (c : Color) (l r : Tree) (e : Elem) :
    toH (.node c l e r) = .node (toH l) (toE e) (toH r) := rfl
@[simp] theorem toE_key (e : Elem) : (toE e).key = e.key := rfl
@[simp] theorem toE_id (e : Elem) : (toE e).id = e.id := rfl

theorem toH_eq_nil {t : Tree} : toH t = .nil ↔ t = .nil := by
  cases t <;> simp

theorem toH_mkNode (d : Bool) (c : Color) (l r : Tree) (e : Elem) :
    toH (mkNode d c l e r) = if d then .node (toH l) (toE e) (toH r) else .node (toH r) (toE e) (toH l) := by
  cases d <;> rfl

/-- ids of the functional heap tree (pre-order) are the ids of the link-level tree (in-order) -/
theorem elems_ids_perm (t : Tree) : ((Heap.Tree.elems (toH t)).map (·.id)).Perm t.ids := by
  induction t with
  | nil => simp
  | node c l e r ihl ihr =>
    simp only [toH_node, Heap.elems_node, List.map_cons, List.map_append, toE_id, Cstl.Tree.ids_node]
    exact ((ihl.append ihr).cons _).trans (List.perm_middle).symm

theorem mem_ids_iff {t : Tree} {z : Nat} : z ∈ t.ids ↔ z ∈ (Heap.Tree.elems (toH t)).map (·.id) :=
  (elems_ids_perm t).mem_iff.symm

theorem size_eq_elems (t : Tree) : t.size = (Heap.Tree.elems (toH t)).length := by
  induction t with
  | nil => rfl
  | node c l e r ihl ihr => simp [Tree.size, ihl, ihr]; omega

/-- which child of its parent the hole of a frame is: `true` = right -/
def fdir : Frame → Bool
  | .L .. => false
  | .R .. => true

/-- Two direction conventions meet: positions of the functional heap (`Heap.sub`, `fdir`, `dirs`) count
`true` = right, the `l`/`r` parameters of the tree code (`mkFrame`, `mkNode`, `chL`) count `true` = the `l`-side = left.
`Frame` (`.L` / `.R`) is neutral and the functional definitions here match on it.  The crossings: the equations about
`mkFrame d` (this one, `stepUp_mkFrame` below, `push_attach_eq` in Push), the side `(n % 2 == 0) = !d` of `next_ctx`,
and in SiftDown `pickChild_shape` (`some d` picks `m.rt` for `true`) with the calls `sd_descend (d := true)` for the
left child and `(d := false)` for the right. -/
@[simp] theorem fdir_mkFrame (d : Bool) (c : Color) (e : Elem) (s : Tree) : fdir (mkFrame d c e s) = !d := by
  cases d <;> rfl

/-- directions from the root to the hole (outermost first) -/
def dirs : Ctx → List Bool
  | [] => []
  | f :: k => dirs k ++ [fdir f]

@[simp] theorem dirs_nil : dirs [] = [] := rfl
@[simp] theorem dirs_cons (f : Frame) (k : Ctx) : dirs (f :: k) = dirs k ++ [fdir f] := rfl
theorem dirs_append (k1 k2 : Ctx) : dirs (k1 ++ k2) = dirs k2 ++ dirs k1 := by
  induction k1 with
  | nil => simp
  | cons f k ih => simp [ih]

theorem dirs_length (k : Ctx) : (dirs k).length = k.length := by
  induction k with
  | nil => rfl
  | cons f k ih => simp [ih]

def plugF : Frame → Heap.Tree → Heap.Tree
  | .L _ e r, s => .node s (toE e) (toH r)
  | .R _ l e, s => .node (toH l) (toE e) s

def plugH : Ctx → Heap.Tree → Heap.Tree
  | [], s => s
  | f :: k, s => plugH k (plugF f s)

@[simp] theorem plugH_nil (s : Heap.Tree) : plugH [] s = s := rfl
@[simp] theorem plugH_cons (f : Frame) (k : Ctx) (s : Heap.Tree) : plugH (f :: k) s = plugH k (plugF f s) := rfl

theorem toH_plug (k : Ctx) (t : Tree) : toH (plug k t) = plugH k (toH t) := by
  induction k generalizing t with
  | nil => rfl
  | cons f k ih => cases f <;> simp [ih, plugF]

def felem : Frame → Elem
  | .L _ e _ => e
  | .R _ _ e => e

theorem plug_size_ge (k : Ctx) (t : Tree) : k.length + t.size ≤ (plug k t).size :=
  length_add_size_le_plug k t

theorem occ_plugF (f : Frame) (s : Heap.Tree) (ds : List Bool) :
    Heap.Occ (plugF f s) (fdir f :: ds) ↔ Heap.Occ s ds := by
  cases f <;> simp [plugF, fdir]

theorem occ_plugH (k : Ctx) : ∀ (s : Heap.Tree) (ds : List Bool),
    Heap.Occ (plugH k s) (dirs k ++ ds) ↔ Heap.Occ s ds := by
  induction k with
  | nil => intro s ds; simp
  | cons f k ih =>
    intro s ds
    simp only [plugH_cons, dirs_cons, List.append_assoc, List.singleton_append]
    rw [ih, occ_plugF]

theorem elemAt_plugF (f : Frame) (s : Heap.Tree) (ds : List Bool) :
    Heap.elemAt (plugF f s) (fdir f :: ds) = Heap.elemAt s ds := by
  cases f <;> rfl

theorem elemAt_plugH (k : Ctx) : ∀ (s : Heap.Tree) (ds : List Bool),
    Heap.elemAt (plugH k s) (dirs k ++ ds) = Heap.elemAt s ds := by
  induction k with
  | nil => intro s ds; rfl
  | cons f k ih =>
    intro s ds
    simp only [plugH_cons, dirs_cons, List.append_assoc, List.singleton_append]
    rw [ih, elemAt_plugF]

theorem exists_ctx_of_occ : ∀ (ds : List Bool) (t : Tree), Heap.Occ (toH t) ds →
    ∃ k c l e r, t = plug k (.node c l e r) ∧ dirs k = ds := by
  intro ds
  induction ds with
  | nil =>
    intro t h
    cases t with
    | nil => simp at h
    | node c l e r => exact ⟨[], c, l, e, r, rfl, rfl⟩
  | cons d ds ih =>
    intro t h
    cases t with
    | nil => simp at h
    | node c l e r =>
      cases d with
      | true =>
        obtain ⟨k, c', l', e', r', ht, hd⟩ := ih r (by simpa using h)
        refine ⟨k ++ [.R c l e], c', l', e', r', ?_, ?_⟩
        · rw [plug_append, ← ht]; rfl
        · rw [dirs_append, hd]; rfl
      | false =>
        obtain ⟨k, c', l', e', r', ht, hd⟩ := ih l (by simpa using h)
        refine ⟨k ++ [.L c e r], c', l', e', r', ?_, ?_⟩
        · rw [plug_append, ← ht]; rfl
        · rw [dirs_append, hd]; rfl

theorem attachAt_plugF (f : Frame) (s : Heap.Tree) (ds : List Bool) (side : Bool) (e : Heap.Elem) :
    Heap.attachAt (plugF f s) (fdir f :: ds) side e = (Heap.attachAt s ds side e).map (plugF f) := by
  cases f <;> simp [plugF, fdir, Heap.attachAt] <;> rfl

theorem attachAt_plugH (k : Ctx) : ∀ (s : Heap.Tree) (ds : List Bool) (side : Bool) (e : Heap.Elem),
    Heap.attachAt (plugH k s) (dirs k ++ ds) side e = (Heap.attachAt s ds side e).map (plugH k) := by
  induction k with
  | nil => intro s ds side e; cases h : Heap.attachAt s ds side e <;> simp [h]
  | cons f k ih =>
    intro s ds side e
    simp only [plugH_cons, dirs_cons, List.append_assoc, List.singleton_append]
    rw [ih, attachAt_plugF]
    cases Heap.attachAt s ds side e <;> rfl

theorem removeAt_plugF (f : Frame) (s : Heap.Tree) (ds : List Bool) :
    Heap.removeAt (plugF f s) (fdir f :: ds) = (Heap.removeAt s ds).map (fun p => (plugF f p.1, p.2)) := by
  cases f <;> simp [plugF, fdir, Heap.removeAt] <;> rfl

theorem removeAt_plugH (k : Ctx) : ∀ (s : Heap.Tree) (ds : List Bool),
    Heap.removeAt (plugH k s) (dirs k ++ ds) = (Heap.removeAt s ds).map (fun p => (plugH k p.1, p.2)) := by
  induction k with
  | nil => intro s ds; cases h : Heap.removeAt s ds <;> simp [h]
  | cons f k ih =>
    intro s ds
    simp only [plugH_cons, dirs_cons, List.append_assoc, List.singleton_append]
    rw [ih, removeAt_plugF]
    cases Heap.removeAt s ds <;> rfl

/-- the slot `cstl_heap_push` fills: its parent is the focus of a context whose directions are the parent's path,
and the parent's child on the side the new node takes is missing (`d` counts sides as `mkNode` does) -/
theorem next_ctx {t : Tree} {n : Nat} (hc : Heap.Complete (toH t) n) (hn : 1 ≤ n) (hlt : n + 1 < 2 ^ 64) :
    ∃ k d c e s, t = plug k (mkNode d c .nil e s) ∧ dirs k = Heap.path ((n - 1) / 2 + 1) ∧ (n % 2 == 0) = !d := by
  obtain ⟨hpar, hfree⟩ := hc.next_slot hn hlt
  obtain ⟨k, c, l, e, r, rfl, hd⟩ := exists_ctx_of_occ _ _ hpar
  rw [toH_plug, ← hd, occ_plugH] at hfree
  cases hb : (n % 2 == 0) <;> rw [hb] at hfree
  · cases l with
    | nil => exact ⟨k, true, c, e, r, rfl, hd, rfl⟩
    | node => simp at hfree
  · cases r with
    | nil => exact ⟨k, false, c, e, l, rfl, hd, rfl⟩
    | node => simp at hfree

/-- the node `cstl_heap_pop` unlinks is a leaf in the focus of the context whose directions are the last slot's path -/
theorem last_ctx {t : Tree} {n : Nat} (hc : Heap.Complete (toH t) n) (hn : n ≠ 0) (hlt : n < 2 ^ 64) :
    ∃ k c e, t = plug k (.node c .nil e .nil) ∧ dirs k = Heap.path n := by
  obtain ⟨n, rfl⟩ : ∃ n', n = n' + 1 := ⟨n - 1, by omega⟩
  obtain ⟨hocc, hleaf⟩ := hc.last_slot hlt
  obtain ⟨k, c, l, e, r, rfl, hd⟩ := exists_ctx_of_occ _ _ hocc
  have hkid : ∀ (d : Bool) (s : Tree), Heap.sub d (toH l) (toH r) = toH s → s = .nil := fun d s hs => by
    have := hleaf d
    rw [toH_plug, ← hd, occ_plugH, toH_node, Heap.occ_node_sub, hs] at this
    exact toH_eq_nil.1 (Heap.not_occ_nil_iff.1 this)
  obtain rfl := hkid false l rfl
  obtain rfl := hkid true r rfl
  exact ⟨k, c, e, rfl, hd⟩

/-! ### `siftUp` through a context: the recursion unwinds innermost frame first, like the loop -/

/-- what one level of `siftUp`'s recursion does with the result of the level below -/
def stepUp (f : Frame) : Heap.Tree × Bool → Option (Heap.Tree × Bool)
  | (s, false) => some (plugF f s, false)
  | (.nil, true) => none
  | (.node cl n cr, true) =>
    if n.key > (felem f).key then
      some (match f with
        | .L _ e r => .node (.node cl (toE e) cr) n (toH r)
        | .R _ l e => .node (toH l) n (.node cl (toE e) cr), true)
    else some (plugF f (.node cl n cr), false)

/-- the functional step of `siftUp` at a frame, in the node shapes `promoteChild_spec` speaks of: the focus
either goes above the frame's node or stays below it -/
theorem stepUp_mkFrame (d : Bool) (cp cn : Color) (pe en : Elem) (ps l r : Tree) :
    stepUp (mkFrame d cp pe ps) (toH (.node cn l en r), true) =
      if en.key > pe.key then some (toH (mkNode d cn (.node cp l pe r) en ps), true)
      else some (plugF (mkFrame d cp pe ps) (toH (.node cn l en r)), false) := by
  cases d <;> simp only [stepUp, felem, toH_node, toE_key, mkFrame_true, mkFrame_false, mkNode_true, mkNode_false] <;> rfl

def upH : Ctx → Option (Heap.Tree × Bool) → Option (Heap.Tree × Bool)
  | [], r => r
  | f :: k, r => upH k (r.bind (stepUp f))

@[simp] theorem upH_nil (r : Option (Heap.Tree × Bool)) : upH [] r = r := rfl
@[simp] theorem upH_cons (f : Frame) (k : Ctx) (r : Option (Heap.Tree × Bool)) :
    upH (f :: k) r = upH k (r.bind (stepUp f)) := rfl

/-- `stepUp f` is `Heap.upStep` at the node of the frame `f`, with `s` on the side of the hole -/
theorem bind_stepUp (f : Frame) (s : Heap.Tree) (r : Option (Heap.Tree × Bool)) :
    r.bind (stepUp f) = match f with
      | .L _ e t => Heap.upStep false s (toE e) (toH t) r
      | .R _ l e => Heap.upStep true (toH l) (toE e) s r := by
  cases f <;> rcases r with _ | ⟨_ | _, _ | _⟩ <;> rfl

theorem siftUp_plugF (f : Frame) (s : Heap.Tree) (ds : List Bool) :
    Heap.siftUp (plugF f s) (fdir f :: ds) = (Heap.siftUp s ds).bind (stepUp f) := by
  rw [bind_stepUp f s]
  cases f with
  | L c e r => exact Heap.siftUp_setSub false s (toE e) (toH r) s ds
  | R c l e => exact Heap.siftUp_setSub true (toH l) (toE e) s s ds

theorem siftUp_plugH (k : Ctx) : ∀ (s : Heap.Tree) (ds : List Bool),
    Heap.siftUp (plugH k s) (dirs k ++ ds) = upH k (Heap.siftUp s ds) := by
  induction k with
  | nil => intro s ds; simp
  | cons f k ih =>
    intro s ds
    simp only [plugH_cons, dirs_cons, List.append_assoc, List.singleton_append, upH_cons]
    rw [ih, siftUp_plugF]

theorem upH_stopped (k : Ctx) (s : Heap.Tree) : upH k (some (s, false)) = some (plugH k s, false) := by
  induction k generalizing s with
  | nil => rfl
  | cons f k ih => simp [stepUp, ih]

theorem siftUp_node_nil (l r : Heap.Tree) (e : Heap.Elem) :
    Heap.siftUp (.node l e r) [] = some (.node l e r, true) := by
  simp [Heap.siftUp]

theorem siftInto_root (n a b : Heap.Elem) (l r : Heap.Tree) :
    Heap.siftInto n (.node l a r) = Heap.siftInto n (.node l b r) := by
  simp only [Heap.siftInto]

/-- the functional push on a tree given as a context around the parent of the free slot: the leaf is attached in the
frame of the free side and sifted up through the context -/
theorem push_plug {k : Ctx} {d : Bool} {c : Color} {e : Elem} {s : Tree} {sz : Nat} {x : Heap.Elem}
    {t2 : Heap.Tree} {b : Bool} (hd : dirs k = Heap.path ((sz - 1) / 2 + 1)) (hside : (sz % 2 == 0) = !d)
    (hsz : sz ≠ 0) (hup : upH (mkFrame d c e s :: k) (some (Heap.Tree.leaf x, true)) = some (t2, b)) :
    Heap.push ⟨toH (plug k (mkNode d c .nil e s)), sz⟩ x = some ⟨t2, sz + 1⟩ := by
  refine Heap.push_node hsz (t1 := plugH (mkFrame d c e s :: k) (Heap.Tree.leaf x)) (b := b) ?_ ?_
  · have := attachAt_plugH k (toH (mkNode d c .nil e s)) [] (!d) x
    rw [List.append_nil] at this
    rw [hside, toH_plug, ← hd, this]
    cases d <;> rfl
  · have := siftUp_plugH (mkFrame d c e s :: k) (Heap.Tree.leaf x) []
    simp only [dirs_cons, fdir_mkFrame, List.append_nil] at this
    rw [hside, ← hd, this, Heap.siftUp_leaf]
    exact hup

/-- the functional pop on a tree whose last slot is the focus of `k`: the leaf there is sifted into what is left -/
theorem pop_plug {k : Ctx} {c c0 : Color} {e e0 : Elem} {l0 r0 : Tree} {sz : Nat}
    (htk : Tree.node c0 l0 e0 r0 = plug k (.node c .nil e .nil)) (hd : dirs k = Heap.path sz) (hsz : sz ≠ 0) :
    Heap.pop ⟨toH (.node c0 l0 e0 r0), sz⟩ =
      some (⟨Heap.siftInto (toE e) (toH (plug k .nil)), sz - 1⟩, some (toE e0)) := by
  rw [toH_plug k .nil]
  refine Heap.pop_node hsz ?_
  have := removeAt_plugH k (toH (.node c .nil e .nil)) []
  rw [List.append_nil] at this
  rw [← toH_node, htk, toH_plug, ← hd, this]
  rfl

end Cstl.HeapL
