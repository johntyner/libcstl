import Cstl.Gen.HeapC
import Cstl.HeapL.Model
import Cstl.Heap.LemmasFls
/-
Translator ties for src/heap.c and `cstl_fls` (src/common.c): `Cstl/Gen/HeapC.lean` is regenerated
from the C AST of the current source by tools/c2lean_heap.py on every check run; the theorems below
(hand-written, fixed) state that the hand-written models — `Cstl.Heap.fls`/`flsLoop` (the function
`fls_spec` is about), and `find`, `push`, `get`, `pop` of Cstl/HeapL/Model.lean (the functions
Props.lean proves to refine the functional heap) — are exactly those translations.  A change to one
of these C functions that alters its translation makes the corresponding equality fail.

`fu k` is the fuel of loop `k` of the generated module (0 cstl_fls, 1 cstl_heap_find, 2 the sift-up
loop of push, 3 the do/while of pop).  Where the model reports a NULL dereference or the undefined
shift of `size - 1 = -1` as `none`, the tie says so explicitly: the translation carries no such
checks (C gives these executions no meaning).
-/
-- this text is also checked against a freshly generated translation, where a `simp` set written
-- for the committed one may have an argument too many
set_option linter.unusedSimpArgs false
namespace Cstl.HeapL.Tie
open Cstl.TreeL Cstl.HeapL Cstl.Gen.HeapC
open Cstl.Heap (fls flsLoop flsStep)

@[simp] theorem toNat_ofNat (n : Nat) : (Int.ofNat n).toNat = n := rfl

/-- the `for` loop of `cstl_fls` is `flsLoop` (same mask, same halving) and ends with `b = 0` -/
theorem fls_loop_tie (x : Nat) : ∀ (fuel i b : Nat), b < 2 ^ fuel →
    c_cstl_fls_loop1 x fuel (Int.ofNat i) b = some (Int.ofNat (flsLoop x i b), 0) := by
  intro fuel
  induction fuel with
  | zero =>
    intro i b hb
    have : b = 0 := by simpa using hb
    subst this
    simp [c_cstl_fls_loop1, Cstl.Heap.flsLoop_zero]
  | succ f ih =>
    intro i b hb
    by_cases hb0 : b = 0
    · subst hb0
      simp [c_cstl_fls_loop1, Cstl.Heap.flsLoop_zero]
    · rw [Cstl.Heap.flsLoop_pos x i hb0]
      have hlt : b / 2 < 2 ^ f := by rw [Nat.pow_succ] at hb; omega
      have hstep : (if ¬ x &&& (18446744073709551615 <<< (b + i)) % 2 ^ 64 = 0 then Int.ofNat (b + i) else Int.ofNat i)
          = Int.ofNat (flsStep x i b) := by
        simp only [flsStep]
        split <;> rfl
      simp only [c_cstl_fls_loop1, ne_eq, hb0, not_false_eq_true, if_true, toNat_ofNat]
      rw [hstep]
      exact ih _ _ hlt

/-- `cstl_fls` is `Cstl.Heap.fls` (given fuel for its six iterations) -/
theorem fls_tie (fu : Nat → Nat) (x : Nat) (hfu : 6 ≤ fu 0) : c_cstl_fls fu x = some (fls x) := by
  have h32 : (32 : Nat) < 2 ^ fu 0 := Nat.lt_of_lt_of_le (by decide : (32 : Nat) < 2 ^ 6) (Nat.pow_le_pow_right (by decide) hfu)
  have := fls_loop_tie x (fu 0) 0 32 h32
  simp only [c_cstl_fls, fls]
  by_cases hx : x = 0
  · simp [hx]
  · simp only [ne_eq, hx, not_false_eq_true, if_true, if_false]
    have e : (8 * 8 / 2 : Nat) = 32 := by decide
    rw [e]
    have e0 : (0 : Int) = Int.ofNat 0 := rfl
    rw [e0, this]

theorem find_loop_tie (m : TM) (loc : Nat) : ∀ (fuel p b : Nat),
    (c_cstl_heap_find_loop1 m loc fuel p b).map (·.1) = findLoop m loc fuel p b := by
  intro fuel
  induction fuel with
  | zero =>
    intro p b
    simp only [c_cstl_heap_find_loop1, findLoop]
    split <;> rfl
  | succ f ih =>
    intro p b
    simp only [c_cstl_heap_find_loop1, findLoop]
    split
    · rw [← ih]
    · rfl

/-- `cstl_heap_find` is the model's `find` (same start mask from `cstl_fls`, same loop) -/
theorem find_tie (fu : Nat → Nat) (m : TM) (h : Hd) (id : Nat) (hfu0 : 6 ≤ fu 0) (hfu1 : fu 1 = findFuel) :
    c_cstl_heap_find fu m h id = find m h id := by
  simp only [c_cstl_heap_find, find, fls_tie fu (id + 1) hfu0, hfu1, toNat_ofNat]
  rw [← find_loop_tie]
  cases c_cstl_heap_find_loop1 m (id + 1) findFuel h.root ((1 <<< (fls (id + 1)).toNat) >>> 1) with
  | none => rfl
  | some r => rfl

theorem promote_tie (m : TM) (h : Hd) (c : Nat) : c_cstl_heap_promote_child m h c = promoteChild m h c := by
  simp only [promoteChild, c_cstl_heap_promote_child]

theorem get_tie (m : TM) (h : Hd) : c_cstl_heap_get m h = get h := rfl

theorem cmpKey_pos (m : TM) (a b : Nat) : cmpKey m a b > 0 ↔ m.key a > m.key b := by
  unfold cmpKey
  split
  · simp [*]
  · split <;> simp [*]

theorem push_loop_tie (n : Nat) : ∀ (fuel : Nat) (m : TM) (h : Hd),
    c_cstl_heap_push_loop1 n fuel m h = siftUpLoop fuel m h n := by
  intro fuel
  induction fuel with
  | zero => intro m h; simp only [c_cstl_heap_push_loop1, siftUpLoop, cmpKey_pos]
  | succ f ih => intro m h; simp only [c_cstl_heap_push_loop1, siftUpLoop, cmpKey_pos, promote_tie, ih]

/-- `cstl_heap_push`: the model is the translation, plus `none` where the C code would shift by
`cstl_fls(0) = -1` (non-empty heap with `size = 0`) or store through the NULL `cstl_heap_find`
returned -/
theorem push_tie (fu : Nat → Nat) (m : TM) (h : Hd) (n : Nat) (hfu0 : 6 ≤ fu 0) (hfu1 : fu 1 = findFuel)
    (hfu2 : fu 2 = h.size + 1) :
    push m h n =
      if h.root ≠ 0 ∧ (h.size = 0 ∨ find (setRt (setLf m n 0) n 0) h ((h.size - 1) / 2) = some 0) then none
      else c_cstl_heap_push fu m h n := by
  simp only [push, c_cstl_heap_push, find_tie fu _ h _ hfu0 hfu1, push_loop_tie, hfu2]
  by_cases hr : h.root = 0
  · simp [hr]
  · by_cases hs : h.size = 0
    · simp [hr, hs]
    · simp only [hr, hs, if_false, ne_eq, not_false_eq_true, true_and, false_or]
      cases hf : find (setRt (setLf m n 0) n 0) h ((h.size - 1) / 2) with
      | none => simp
      | some p =>
        by_cases hp : p = 0
        · simp [hp]
        · simp only [hp, if_false, Option.some.injEq]
          have e : (setP (setRt (setLf m n 0) n 0) n p).pr n = p := by simp [setP, Cstl.SList.upd]
          rw [e]
          by_cases hm : h.size % 2 = 0 <;> simp only [hm, if_true, if_false] <;>
            cases siftUpLoop (h.size + 1) _ h n <;> rfl

theorem pickChild_tie (m : TM) (n : Nat) :
    (if (m.rt n ≠ 0 ∧ cmpKey m (m.rt n) (if (m.lf n ≠ 0 ∧ cmpKey m (m.lf n) n > 0) then m.lf n else n) > 0)
      then m.rt n else (if (m.lf n ≠ 0 ∧ cmpKey m (m.lf n) n > 0) then m.lf n else n)) = pickChild m n := by
  simp only [pickChild, cmpKey_pos]

/-- the `do … while` of `cstl_heap_pop` (the final candidate `c` is dropped) -/
theorem pop_loop_tie (n : Nat) : ∀ (fuel : Nat) (m : TM) (h : Hd) (c : Nat),
    (c_cstl_heap_pop_loop1 n fuel m h c).map (fun r => (r.1, r.2.1)) = siftDownLoop fuel m h n c := by
  intro fuel
  induction fuel with
  | zero => intro m h c; rfl
  | succ f ih =>
    intro m h c
    simp only [c_cstl_heap_pop_loop1, siftDownLoop, promote_tie]
    by_cases hc : c = 0
    · simp only [hc, ne_eq, not_true_eq_false, if_false, pickChild_tie]
      split
      · rw [← ih]
      · rfl
    · simp only [hc, ne_eq, not_false_eq_true, if_true, pickChild_tie]
      split
      · rw [← ih]
      · rfl

/-- `cstl_heap_pop`: the model is the translation, plus `none` where the C code would shift by
`cstl_fls(0) = -1` (non-empty heap with `size = 0`) or read `n->p` through the NULL
`cstl_heap_find` returned -/
theorem pop_tie (fu : Nat → Nat) (m : TM) (h : Hd) (hfu0 : 6 ≤ fu 0) (hfu1 : fu 1 = findFuel)
    (hfu3 : fu 3 = h.size + 1) :
    pop m h =
      if h.root ≠ 0 ∧ (h.size = 0 ∨ find m h (h.size - 1) = some 0) then none
      else c_cstl_heap_pop fu m h := by
  simp only [pop, c_cstl_heap_pop, find_tie fu _ h _ hfu0 hfu1, get_tie, hfu3]
  by_cases hr : h.root = 0
  · simp [get, hr]
  · have hg : get h = h.root := by simp [get, hr]
    by_cases hs : h.size = 0
    · simp [hg, hr, hs]
    · simp only [hg, hr, hs, if_false, ne_eq, not_false_eq_true, true_and, false_or]
      cases hf : find m h (h.size - 1) with
      | none => simp
      | some n =>
        by_cases hn : n = 0
        · simp [hn]
        · simp only [hn, if_false, Option.some.injEq]
          by_cases hp : m.pr n = 0
          · simp only [unlinkLast, moveToRoot, hp, if_true, ne_eq, not_true_eq_false, if_false]
          · have hl := pop_loop_tie n (h.size + 1)
            by_cases hq : m.lf (m.pr n) = n
            · simp only [unlinkLast, hp, hq, if_true, if_false, hr, ne_eq, not_false_eq_true]
              rw [← hl]
              simp only [moveToRoot]
              cases c_cstl_heap_pop_loop1 n (h.size + 1) _ _ 0 <;> rfl
            · simp only [unlinkLast, hp, hq, if_true, if_false, hr, ne_eq, not_false_eq_true]
              rw [← hl]
              simp only [moveToRoot]
              cases c_cstl_heap_pop_loop1 n (h.size + 1) _ _ 0 <;> rfl

end Cstl.HeapL.Tie
