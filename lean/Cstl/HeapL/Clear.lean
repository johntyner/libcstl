import Cstl.HeapL.Pop
/-
cstl_heap_clear = cstl_bintree_clear at link level: the recursive traversal
reads a node's child pointers once, at entry, hands the node to the callback
after both subtrees (LEAF visit of a leaf, POST visit otherwise) and never
touches it again — for a callback that overwrites every link field of the
element it is given.
-/
namespace Cstl.HeapL
open Cstl.SList (Mem upd upd_same upd_other)
open Cstl.TreeL
open Cstl.Tree (Color Elem Tree)

/-- callback order of the functional model, as addresses -/
def postIds (t : Tree) : List Nat := (Heap.clearOrder (toH t)).map (·.id)

@[simp] theorem postIds_nil : postIds .nil = [] := rfl
@[simp] theorem postIds_node (c : Color) (l r : Tree) (e : Elem) :
    postIds (.node c l e r) = postIds l ++ postIds r ++ [e.id] := by
  simp [postIds, Heap.clearOrder]

theorem poison_agree (pv : Nat) (m : TM) {a z : Nat} (h : z ≠ a) : Agree m (poison pv m a) z :=
  ((Agree.setP pv h).trans (Agree.setLf pv h)).trans (Agree.setRt pv h)

/-- the guarded recursive call `if (bn != NULL) foreach(bn)` on a subtree `t` at `a`: the callbacks
of `t` are added (last first), only nodes of `t` are written -/
theorem clearWalk_spec (pv : Nat) : ∀ (t : Tree) (fuel : Nat) (m : TM) (a p : Nat) (acc : List Nat),
    Shape m a p t → t.ids.Nodup → t.height ≤ fuel →
    ∃ m', (if a ≠ 0 then clearWalk pv fuel m a acc else some (m, acc)) = some (m', (postIds t).reverse ++ acc) ∧
      ∀ z, z ∉ t.ids → Agree m m' z := by
  intro t
  induction t with
  | nil =>
    intro fuel m a p acc hs _ _
    have : a = 0 := hs
    exact ⟨m, by simp [this], fun z _ => Agree.rfl' m z⟩
  | node c l e r ihl ihr =>
    intro fuel m a p acc hs hnd hh
    simp only [Shape_node] at hs
    obtain ⟨ha0, he, _, _, hsl, hsr⟩ := hs
    have heid : e.id = a := by simp [he]
    obtain ⟨hndl, hndr, _, _, hdisj⟩ := Cstl.Tree.nodup_ids_node hnd
    obtain ⟨f, rfl⟩ : ∃ f, fuel = f + 1 := ⟨fuel - 1, by simp only [Tree.height] at hh; omega⟩
    obtain ⟨m1, gl1, gl2⟩ := ihl f m (m.lf a) a acc hsl hndl (by simp only [Tree.height] at hh; omega)
    have hsr1 : Shape m1 (m.rt a) a r := hsr.frame (fun z hz => gl2 z (fun hzl => hdisj z hzl hz))
    obtain ⟨m3, g1, g2⟩ := ihr f m1 (m.rt a) a ((postIds l).reverse ++ acc) hsr1 hndr
      (by simp only [Tree.height] at hh; omega)
    refine ⟨poison pv m3 a, ?_, fun z hz => ?_⟩
    · rw [if_pos ha0]
      simp only [clearWalk]
      rw [gl1]
      by_cases leaf : m.lf a = 0 ∧ m.rt a = 0
      · -- a leaf: the callback comes before the (skipped) walk to the right
        have hl : l = .nil := by cases l with | nil => rfl | node => simp [Shape_node, leaf.1] at hsl
        have hr : r = .nil := by cases r with | nil => rfl | node => simp [Shape_node, leaf.2] at hsr
        subst hl hr
        simp only [leaf.2, ne_eq, not_true_eq_false, if_false, Option.some.injEq, Prod.mk.injEq] at g1
        simp [leaf, heid, ← g1.1]
      · simp [leaf, g1, heid]
    · rw [Cstl.Tree.ids_node] at hz
      simp only [List.mem_append, List.mem_cons, not_or, heid] at hz
      exact ((gl2 z hz.1).trans (g2 z hz.2.2)).trans (poison_agree pv m3 hz.2.1)

theorem clear_refines (pv : Nat) {m : TM} {h : Hd} {t : Tree} (ht : IsTree m h.root 0 t) (hsz : t.size ≤ h.size) :
    ∃ m' h', clear pv m h = some (m', h', ((Heap.clear ⟨toH t, h.size⟩).2).map (·.id)) ∧
      IsTree m' h'.root 0 .nil ∧ (Heap.clear ⟨toH t, h.size⟩).1 = ⟨.nil, h'.size⟩ := by
  cases t with
  | nil =>
    have hr : h.root = 0 := ht.shape
    exact ⟨m, h, by simp [clear, hr, Heap.clear], ht, rfl⟩
  | node c l e r =>
    have hr0 : h.root ≠ 0 := ht.shape.ne_zero
    obtain ⟨m', g1, g2⟩ := clearWalk_spec pv (.node c l e r) (h.size + 1) m h.root 0 [] ht.shape ht.nodup
      (by have := height_le_size (.node c l e r); omega)
    rw [if_pos hr0] at g1
    refine ⟨m', ⟨0, 0⟩, ?_, ⟨rfl, by simp⟩, rfl⟩
    simp only [clear, ne_eq, hr0, not_false_eq_true, if_true, g1, List.append_nil, List.reverse_reverse]
    rfl

end Cstl.HeapL
