import Cstl.HeapL.SiftDown
import Cstl.TreeL.Surgery
/-
cstl_heap_pop at link level refines `Cstl.Heap.pop`: find the last slot, unlink
it (`removeAt`), copy the root's link set into it and point the root's children
at it (`*n = *root; n->l->p = n; n->r->p = n; root = n`: the last node takes the
root position), then the sift-down loop (`siftInto`).
-/
namespace Cstl.HeapL
open Cstl.SList (Mem upd upd_same upd_other)
open Cstl.TreeL
open Cstl.Tree (Color Elem Tree)

/-- unlinking a leaf is the first half of `__cstl_bintree_erase` (`TreeL.unlink`) with no child to move up -/
theorem unlinkLast_eq_unlink {m : TM} (h : Hd) {n : Nat} (hl : m.lf n = 0) (hr : m.rt n = 0) :
    unlinkLast m h n = unlink m h n := by
  simp [unlinkLast, unlink, replaceChild, hl, hr, eq_comm]

theorem unlinkLast_spec {m : TM} {h : Hd} {k : Ctx} {n p : Nat} {cn : Color} {en : Elem}
    (hz : Zip m h.root k n p (.node cn .nil en .nil)) :
    IsTree (unlinkLast m h n).1 (unlinkLast m h n).2.root 0 (plug k .nil) ∧
      (unlinkLast m h n).2.size = h.size ∧ (unlinkLast m h n).1.key = m.key := by
  have hs := hz.sub
  simp only [Shape_node, Shape_nil] at hs
  rw [unlinkLast_eq_unlink h hs.2.2.2.2.1 hs.2.2.2.2.2]
  obtain ⟨_, _, hzip, hsize, _, hkey, _⟩ := unlink_spec hz
  exact ⟨hzip.isTree, hsize, hkey⟩

/-- the memory after `*n = *root; n->l->p = n; n->r->p = n`, field by field -/
theorem moveToRoot_fst (m : TM) (h : Hd) (n : Nat) :
    (moveToRoot m h n).1 = { m with
      pr := fun z => if m.rt h.root ≠ 0 ∧ z = m.rt h.root then n
        else if m.lf h.root ≠ 0 ∧ z = m.lf h.root then n else if z = n then m.pr h.root else m.pr z
      lf := upd m.lf n (m.lf h.root), rt := upd m.rt n (m.rt h.root) } := by
  -- which of the two stores to a child's `p` happen; in each case only `pr` is left to compare
  by_cases h1 : m.lf h.root = 0 <;> by_cases h2 : m.rt h.root = 0
  all_goals
    simp [moveToRoot, setP, setLf, setRt, h1, h2]
    funext z
    simp [upd_apply]

/-- `*n = *root; n->l->p = n; n->r->p = n; root = n` with `n` outside the tree: `n` replaces the
root node (which drops out of the structure, its own links left as they were): the node substitution of
`__cstl_bintree_erase` (`TreeL.Zip.subst`) at the root -/
theorem moveToRoot_spec {m : TM} {h : Hd} {n : Nat} {c : Color} {l r : Tree} {e : Elem}
    (ht : IsTree m h.root 0 (.node c l e r)) (hn0 : n ≠ 0) (hnt : n ∉ (Tree.node c l e r).ids) :
    IsTree (moveToRoot m h n).1 (moveToRoot m h n).2.root 0 (.node (m.cl n) l (elemAt m n) r) ∧
      (moveToRoot m h n).2.size = h.size ∧ (moveToRoot m h n).1.key = m.key := by
  have hs := ht.shape
  simp only [Shape_node] at hs
  obtain ⟨_, _, _, hpr, hsl, hsr⟩ := hs
  have hln : m.lf h.root ≠ 0 → n ≠ m.lf h.root := fun h0 e' =>
    hnt (by rw [e', Cstl.Tree.ids_node]; simp [hsl.root_mem h0])
  have hrn : m.rt h.root ≠ 0 → n ≠ m.rt h.root := fun h0 e' =>
    hnt (by rw [e', Cstl.Tree.ids_node]; simp [hsr.root_mem h0])
  obtain ⟨hz, hsize, _, hkey, _⟩ := (Zip.of_isTree ht).subst (m' := (moveToRoot m h n).1)
    (h' := (moveToRoot m h n).2) hn0 hnt (by simp)
    fun _ hnb _ hbl hbr => by
      rw [moveToRoot_fst]
      refine ⟨rfl, rfl, rfl, by simp [moveToRoot], fun z => ?_, fun z => ?_, fun z => ?_⟩
      -- what is left compares two case lists over addresses known to be distinct
      · simp only [hpr]; grind
      · simp only [upd_apply]; grind
      · simp only [upd_apply]; grind
  exact ⟨hz.isTree_nil, hsize, hkey⟩

theorem pop_refines {m : TM} {h : Hd} {t : Tree} (ht : IsTree m h.root 0 t)
    (hc : Heap.Complete (toH t) h.size) (hlt : h.size < 2 ^ 64) :
    ∃ m' h' t' res, pop m h = some (m', h', resAddr res) ∧ IsTree m' h'.root 0 t' ∧
      Heap.pop ⟨toH t, h.size⟩ = some (⟨toH t', h'.size⟩, res) ∧ m'.key = m.key := by
  cases t with
  | nil =>
    have hr : h.root = 0 := ht.shape
    exact ⟨m, h, .nil, none, by simp [pop, get, hr, resAddr], ht, rfl, rfl⟩
  | node c0 l0 e0 r0 =>
    have hr0 : h.root ≠ 0 := ht.shape.ne_zero
    have hid0 : e0.id = h.root := Shape.id_eq ht.shape
    have hsize := tree_size_of_complete hc hlt
    have hsz : h.size ≠ 0 := by rw [← hsize]; simp [Tree.size]
    obtain ⟨k, cn, en, htk, hd⟩ := last_ctx hc hsz hlt
    have hpopH := pop_plug htk hd hsz
    have hz := Zip.of_plug (htk ▸ ht)
    generalize rootOf (Tree.node cn .nil en .nil) = n, ctxParent k = p at hz
    have hn0 : n ≠ 0 := hz.sub.ne_zero
    have hfind : find m h (h.size - 1) = some n := find_zip hz (by rw [hd]; congr 1; omega) (by omega)
    obtain ⟨hU, hUsize, hUkey⟩ := unlinkLast_spec hz
    have hget : get h = h.root := by simp [get, hr0]
    -- what is left after the unlink: nothing (the last node was the root), or a tree into whose root position
    -- the last node moves
    cases ht1 : plug k .nil with
    | nil =>
      rw [ht1] at hU
      have hUroot : (unlinkLast m h n).2.root = 0 := hU.shape
      refine ⟨(unlinkLast m h n).1, { (unlinkLast m h n).2 with size := (unlinkLast m h n).2.size - 1 }, .nil,
        some (toE e0), ?_, hU, ?_, hUkey⟩
      · simp only [pop, hget, if_neg hr0, if_neg hsz, hfind, if_neg hn0, hUroot, ne_eq, not_true_eq_false, if_false,
          resAddr, toE_id, hid0]
      · rw [hpopH, ht1, hUsize]
        rfl
    | node c1 l1 e1 r1 =>
      rw [ht1] at hU
      have hUroot : (unlinkLast m h n).2.root ≠ 0 := hU.shape.ne_zero
      have hnt1 : n ∉ (Tree.node c1 l1 e1 r1).ids := by
        rw [← ht1, mem_plug_ids]
        simpa using hz.focus_notin_ctx hn0
      have hsz1 : (Tree.node c1 l1 e1 r1).size ≤ h.size := by
        rw [← ht1, ← hsize, htk]
        exact plug_size_mono k (by simp [Tree.size])
      obtain ⟨hM, hMsize, hMkey⟩ := moveToRoot_spec (m := (unlinkLast m h n).1)
        (h := { (unlinkLast m h n).2 with size := (unlinkLast m h n).2.size - 1 }) (n := n) hU hn0 hnt1
      obtain ⟨m', h', T', hrun, htree, hsize', hkey', hT⟩ := sdRest_spec h.size [] _ _ n 0 _ l1 r1 _
        (by
          have := height_le_size (Tree.node ((unlinkLast m h n).1.cl n) l1 (elemAt (unlinkLast m h n).1 n) r1)
          simp only [Tree.size] at this hsz1 ⊢
          omega) (Zip.of_isTree hM)
      refine ⟨m', h', T', some (toE e0), ?_, htree, ?_, by rw [hkey', hMkey, hUkey]⟩
      · simp only [pop, hget, if_neg hsz, hfind, if_neg hn0, hUroot, ne_eq, hr0, not_false_eq_true, if_true,
          siftDownLoop_null, resAddr, toE_id, hid0, hrun, if_false]
      · -- the moved node carries the element of the last slot; `siftInto` does not look at the root it replaces
        have hen : toE (elemAt (unlinkLast m h n).1 n) = toE en := by
          have := hz.sub; simp only [Shape_node] at this
          rw [this.2.1]; simp [toE, elemAt, hUkey]
        rw [hpopH, ht1, hsize', hMsize, hUsize, hT, hen]
        exact congrArg (fun t => some ((⟨t, h.size - 1⟩ : Heap.Heap), some (toE e0))) (siftInto_root ..)

end Cstl.HeapL
