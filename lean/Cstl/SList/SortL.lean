import Cstl.SList.Props
import Cstl.SList.SortG
/-
Link-level model of `cstl_slist_sort` (src/slist.c) and the theorem that it
refines the sequence-level model `msort` of `Model.lean`.

The C function keeps two temporary list heads `_sl[2]` on its stack and calls
itself on them.  Here the two heads of the activation at recursion depth `d`
live at the addresses `(tmp d).1` and `(tmp d).2`; the two recursive calls of
one activation both run at depth `d + 1` and therefore reuse the same pair of
addresses, exactly as the two calls reuse the same stack frame.  The caller of
the theorems only has to provide addresses that are non-NULL, pairwise
different and different from every node of the list (`Fresh`).

One `upd` per C assignment, in the C order; the split loop, the merge loop and
the recursion are fuelled (`none` = did not finish, or a NULL pointer would
have been dereferenced by `__cstl_slist_erase_after`).
-/
namespace Cstl.SList

/-- `for (t = &sl->h; _sl[0].count < sl->count / 2; t = t->n, _sl[0].count++) ;`
state: the counter `_sl[0].count` and the pointer `t`; `half = sl->count / 2`. -/
def splitLoop : Nat → Mem → Nat → Nat → Nat → Option (Nat × Nat)
  | 0, _, half, cnt, t => if cnt < half then none else some (cnt, t)
  | fuel + 1, m, half, cnt, t =>
    if cnt < half then splitLoop fuel m half (cnt + 1) (m t) else some (cnt, t)

/-- the merge loop: while both halves are non-empty, unlink the front node of
the half whose front compares `<= 0` (left on ties) with
`__cstl_slist_erase_after(l, &l->h)` and append it to the output with
`__cstl_slist_insert_after(sl, sl->t, …)`. -/
def mergeLoop (cmp : Nat → Nat → Int) : Nat → Mem → Hd → Hd → Hd → Option (Mem × Hd × Hd × Hd)
  | 0, m, l, a, b => if a.count > 0 ∧ b.count > 0 then none else some (m, l, a, b)
  | fuel + 1, m, l, a, b =>
    if a.count > 0 ∧ b.count > 0 then
      if cmp (m a.h) (m b.h) ≤ 0 then
        match eraseAfter m a a.h with
        | none => none
        | some (m1, a1, n) =>
          let r := insertAfter m1 l l.t n
          mergeLoop cmp fuel r.1 r.2 a1 b
      else
        match eraseAfter m b b.h with
        | none => none
        | some (m1, b1, n) =>
          let r := insertAfter m1 l l.t n
          mergeLoop cmp fuel r.1 r.2 a b1
    else some (m, l, a, b)

/-- the assignments between the split loop and the recursive calls: the two
temporary heads take over the two halves, the list itself is re-initialised.
`a`, `b` are the (initialised) temporary headers, `t` the last node of the
first half. -/
def splitLinks (m : Mem) (l a b : Hd) (t : Nat) : Mem × Hd × Hd × Hd :=
  let m1 := upd m a.h (m l.h)                 -- _sl[0].h.n = sl->h.n
  let a1 := { a with t := t }                 -- _sl[0].t = t
  let m2 := upd m1 b.h (m1 t)                 -- _sl[1].h.n = t->n
  let b1 := { b with t := l.t }               -- _sl[1].t = sl->t
  let m3 := upd m2 t 0                        -- t->n = NULL
  let b2 := { b1 with count := l.count - a1.count }   -- _sl[1].count = sl->count - _sl[0].count
  let r := init m3 l.h                        -- cstl_slist_init(sl, sl->off)
  (r.1, r.2, a1, b2)

/-- `cstl_slist_sort` at link level.  `fuel` bounds the recursion depth and
the iterations of each loop; `d` is the recursion depth (selects the scratch
heads). -/
def sortL (cmp : Nat → Nat → Int) (tmp : Nat → Nat × Nat) : Nat → Nat → Mem → Hd → Option (Mem × Hd)
  | 0, _, _, _ => none
  | fuel + 1, d, m, l =>
    if l.count > 1 then
      let ra := init m (tmp d).1                -- cstl_slist_init(&_sl[0], sl->off)
      let rb := init ra.1 (tmp d).2             -- cstl_slist_init(&_sl[1], sl->off)
      match splitLoop fuel rb.1 (l.count / 2) ra.2.count l.h with
      | none => none
      | some (cnt, t) =>
        let s := splitLinks rb.1 l { ra.2 with count := cnt } rb.2 t
        match sortL cmp tmp fuel (d + 1) s.1 s.2.2.1 with          -- cstl_slist_sort(&_sl[0], …)
        | none => none
        | some (m1, a1) =>
          match sortL cmp tmp fuel (d + 1) m1 s.2.2.2 with         -- cstl_slist_sort(&_sl[1], …)
          | none => none
          | some (m2, b1) =>
            match mergeLoop cmp fuel m2 s.2.1 a1 b1 with
            | none => none
            | some (m3, l3, a3, b3) =>
              if a3.count > 0 then
                let r := concat m3 l3 a3
                some (r.1, r.2.1)
              else
                let r := concat m3 l3 b3
                some (r.1, r.2.1)
    else some (m, l)


theorem splitLoop_spec {m : Mem} {t z : Nat} {ys rest : List Nat} (fuel half cnt : Nat)
    (hs : Seg m t (ys ++ rest) z) (hc : cnt + ys.length = half) (hf : ys.length ≤ fuel) :
    splitLoop fuel m half cnt t = some (half, lastOr t ys) := by
  induction ys generalizing t cnt fuel with
  | nil =>
    have : ¬ cnt < half := by simp at hc; omega
    have e : cnt = half := by simp at hc; omega
    cases fuel <;> simp [splitLoop, e]
  | cons y ys ih =>
    cases fuel with
    | zero => simp at hf
    | succ f =>
      have hlt : cnt < half := by simp at hc; omega
      have hy : m t = y := hs.1
      simp only [splitLoop, hlt, if_true, hy]
      exact ih f (cnt + 1) hs.2.2 (by simp at hc ⊢; omega) (by simpa using hf)

theorem splitLinks_spec {m : Mem} {l a b : Hd} {pre post : List Nat}
    (h : IsSL m l (pre ++ post)) (hpre : pre ≠ []) (hpost : post ≠ [])
    (ha : a.h ∉ l.h :: (pre ++ post)) (hb : b.h ∉ l.h :: (pre ++ post)) (hab : a.h ≠ b.h)
    (haz : a.h ≠ 0) (hbz : b.h ≠ 0) (hac : a.count = pre.length) :
    let r := splitLinks m l a b (lastOr l.h pre)
    IsSL r.1 r.2.1 [] ∧ r.2.1.h = l.h ∧ IsSL r.1 r.2.2.1 pre ∧ r.2.2.1.h = a.h
    ∧ IsSL r.1 r.2.2.2 post ∧ r.2.2.2.h = b.h
    ∧ ∀ x, x ∉ l.h :: (pre ++ post) → x ≠ a.h → x ≠ b.h → r.1 x = m x := by
  obtain ⟨t, ht⟩ : ∃ t, t = lastOr l.h pre := ⟨_, rfl⟩
  obtain ⟨hnd1, hnd2, hdisj⟩ := nodup_split h.nodup
  obtain ⟨sA, sB⟩ := Seg_append_last.mp h.path
  rw [← ht] at sA sB ⊢
  have htm : t ∈ pre := ht ▸ lastOr_mem_of_ne_nil l.h hpre
  have hlpre : l.h ∉ pre := (List.nodup_cons.mp hnd1).1
  have hua : ∀ x, x ∈ l.h :: (pre ++ post) → x ≠ a.h := fun x hx e => ha (e ▸ hx)
  have hub : ∀ x, x ∈ l.h :: (pre ++ post) → x ≠ b.h := fun x hx e => hb (e ▸ hx)
  have hpu : ∀ x, x ∈ pre → x ∈ l.h :: (pre ++ post) := fun x hx => by simp [hx]
  have hqu : ∀ x, x ∈ post → x ∈ l.h :: (pre ++ post) := fun x hx => by simp [hx]
  have htl : t ≠ l.h := fun e => hlpre (e ▸ htm)
  obtain ⟨m', hm'⟩ : ∃ m', m' = upd (upd (upd (upd m a.h (m l.h)) b.h (upd m a.h (m l.h) t)) t 0) l.h 0 :=
    ⟨_, rfl⟩
  have e : splitLinks m l a b t = (m', { h := l.h, t := l.h, count := 0 }, { a with t := t },
      { b with t := l.t, count := l.count - a.count }) := by rw [hm']; rfl
  have m'a : m' a.h = m l.h := by
    rw [hm', upd_other _ _ _ _ (hua _ (by simp)).symm, upd_other _ _ _ _ (hua t (hpu t htm)).symm,
      upd_other _ _ _ _ hab, upd_same]
  have m'b : m' b.h = m t := by
    rw [hm', upd_other _ _ _ _ (hub _ (by simp)).symm, upd_other _ _ _ _ (hub t (hpu t htm)).symm, upd_same,
      upd_other _ _ _ _ (hua t (hpu t htm))]
  have m't : m' t = 0 := by rw [hm', upd_other _ _ _ _ htl, upd_same]
  have m'l : m' l.h = 0 := by rw [hm', upd_same]
  have m'o : ∀ x, x ≠ a.h → x ≠ b.h → x ≠ t → x ≠ l.h → m' x = m x := by
    intro x h1 h2 h3 h4
    rw [hm', upd_other _ _ _ _ h4, upd_other _ _ _ _ h3, upd_other _ _ _ _ h2, upd_other _ _ _ _ h1]
  simp only [e]
  refine ⟨⟨m'l, by simp, h.hnz, rfl, rfl⟩, trivial, .of_path ?_ haz ?_ hac, trivial, .of_path ?_ hbz ?_ ?_,
    trivial, ?_⟩
  · -- first half: the chain from `l.h` through `pre`, cut after `t`, now starts at `a.h`
    refine Seg_reroute sA hpre (List.nodup_cons.mp hnd1).2 m'a (ht ▸ m't) fun x hx h1 => ?_
    exact m'o x (hua x (hpu x hx)) (hub x (hpu x hx)) (ht ▸ h1) fun e => hlpre (e ▸ hx)
  · exact ht.trans (lastOr_of_ne_nil l.h a.h hpre)
  · -- second half: the chain from `t` through `post` now starts at `b.h`
    refine Seg_transfer sB m'b fun x hx => ?_
    exact m'o x (hua x (hqu x hx)) (hub x (hqu x hx)) (fun e => hdisj t (by simp [htm]) (e ▸ hx))
      fun e => hdisj l.h (by simp) (e ▸ hx)
  · exact h.tail.trans (lastOr_append_of_ne_nil l.h b.h pre post hpost)
  · show l.count - a.count = post.length
    rw [h.count, hac, List.length_append]; omega
  · intro x hx h1 h2
    exact m'o x h1 h2 (fun e => hx (e ▸ hpu t htm)) fun e => hx (by simp [e])

/-! The three phases of the sort in the vocabulary of `Cstl.ListG` (`SortG.lean`). -/

/-- `__cstl_slist_insert_after(l, l->t, __cstl_slist_erase_after(a, &a->h))` -/
def move (m : Mem) (l a : Hd) : Option (Mem × Hd × Hd) :=
  match eraseAfter m a a.h with
  | none => none
  | some (m1, a1, n) =>
    let r := insertAfter m1 l l.t n
    some (r.1, r.2, a1)

/-- `cstl_slist_concat(d, s)`, without the emptied source header -/
def cat (m : Mem) (d s : Hd) : Mem × Hd := ((concat m d s).1, (concat m d s).2.1)

/-- the activation at depth `d` up to its first recursive call -/
def split (tmp : Nat → Nat × Nat) (f d : Nat) (m : Mem) (l : Hd) : Option (Mem × Hd × Hd × Hd) :=
  let ra := init m (tmp d).1
  let rb := init ra.1 (tmp d).2
  match splitLoop f rb.1 (l.count / 2) ra.2.count l.h with
  | none => none
  | some (cnt, t) => some (splitLinks rb.1 l { ra.2 with count := cnt } rb.2 t)

theorem move_spec {m : Mem} {l a : Hd} {out as : List Nat} {x : Nat} (hl : IsSL m l out)
    (ha : IsSL m a (x :: as)) (dla : ∀ z ∈ l.h :: out, z ∉ a.h :: x :: as) :
    ∃ m' l' a', move m l a = some (m', l', a') ∧ l'.h = l.h ∧ a'.h = a.h
      ∧ IsSL m' l' (out ++ [x]) ∧ IsSL m' a' as
      ∧ ∀ z, z ∉ l.h :: out → z ∉ a.h :: x :: as → m' z = m z := by
  obtain ⟨m1, a1, e1, a1h, ha1, fr1⟩ := eraseAfter_spec (pre := []) (e := a.h) ha rfl
  have hlt : l.t ∈ l.h :: out := hl.tail_mem
  have hxa : x ∉ a.h :: as := (nodup_remove_mid (pre := []) ha.nodup).2
  have hl1 : IsSL m1 l out := hl.frame fun z hz => fr1 z fun e => dla z hz (by simp [e])
  obtain ⟨hl2, fr2⟩ := pushBack_spec hl1 (fun hm => dla x hm (by simp)) (ha.nonzero x (by simp))
  refine ⟨_, (pushBack m1 l x).2, a1, by rw [move, e1]; rfl, rfl, a1h, hl2, ?_, ?_⟩
  · refine ha1.frame fun z hz => fr2 z (fun e => ?_) (fun e => hxa (a1h ▸ e ▸ hz))
    exact dla l.t hlt (mem_cons_skip (a1h ▸ e ▸ hz))
  · intro z h1 h2
    rw [fr2 z (fun e => h1 (e ▸ hlt)) (fun e => h2 (by simp [e]))]
    exact fr1 z fun e => h2 (by simp [e])

theorem cat_spec {m : Mem} {d s : Hd} {xs ys : List Nat} (hd : IsSL m d xs) (hs : IsSL m s ys)
    (hdis : ∀ z ∈ d.h :: xs, z ∉ s.h :: ys) :
    IsSL (cat m d s).1 (cat m d s).2 (xs ++ ys) ∧ (cat m d s).2.h = d.h
      ∧ ∀ z, z ∉ d.h :: xs → z ∉ s.h :: ys → (cat m d s).1 z = m z := by
  obtain ⟨c1, _, c3⟩ := concat_spec hd hs hdis
  exact ⟨c1, (concat_hd m d s).1, fun z h1 h2 => c3 z (fun e => h1 (e ▸ hd.tail_mem)) fun e => h2 (by simp [e])⟩

theorem split_spec (tmp : Nat → Nat × Nat) {f d : Nat} {m : Mem} {l : Hd} {pre post : List Nat}
    (h : IsSL m l (pre ++ post)) (hpre : pre ≠ []) (hpost : post ≠ [])
    (hk : pre.length = (pre ++ post).length / 2) (hf : (pre ++ post).length ≤ f)
    (hfr : Fresh tmp d (l.h :: (pre ++ post))) :
    ∃ r, split tmp f d m l = some r ∧ IsSL r.1 r.2.1 [] ∧ r.2.1.h = l.h
      ∧ IsSL r.1 r.2.2.1 pre ∧ r.2.2.1.h = (tmp d).1 ∧ IsSL r.1 r.2.2.2 post ∧ r.2.2.2.h = (tmp d).2
      ∧ ∀ z, z ∉ l.h :: (pre ++ post) → z ≠ (tmp d).1 → z ≠ (tmp d).2 → r.1 z = m z := by
  have hz := hfr.nz d (Nat.le_refl d)
  have hs0u := hfr.dis _ (Scratch.here1 tmp d)
  have hs1u := hfr.dis _ (Scratch.here2 tmp d)
  have fr2 : ∀ z, z ≠ (tmp d).1 → z ≠ (tmp d).2 → (init (init m (tmp d).1).1 (tmp d).2).1 z = m z :=
    fun z h0 h1 => (upd_other _ _ _ _ h1).trans (upd_other _ _ _ _ h0)
  have h2 : IsSL (init (init m (tmp d).1).1 (tmp d).2).1 l (pre ++ post) :=
    h.frame fun z hz => fr2 z (fun e => hs0u (e ▸ hz)) (fun e => hs1u (e ▸ hz))
  have e0 : splitLoop f (init (init m (tmp d).1).1 (tmp d).2).1 (l.count / 2) (init m (tmp d).1).2.count l.h
      = some (l.count / 2, lastOr l.h pre) :=
    splitLoop_spec f (l.count / 2) 0 h2.path (by rw [h.count]; omega) (by omega)
  obtain ⟨hL0, hLh, hA0, hAh, hB0, hBh, frS⟩ :=
    splitLinks_spec (a := { (init m (tmp d).1).2 with count := l.count / 2 })
      (b := (init (init m (tmp d).1).1 (tmp d).2).2) h2 hpre hpost hs0u hs1u (hfr.ne d (Nat.le_refl d)) hz.1 hz.2
      (by show l.count / 2 = pre.length; rw [h.count]; omega)
  exact ⟨_, by rw [split, e0], hL0, hLh, hA0, hAh, hB0, hBh,
    fun z hx h0 h1 => (frS z hx h0 h1).trans (fr2 z h0 h1)⟩

theorem mergeLoop_zero (cmp : Nat → Nat → Int) (m : Mem) (l a b : Hd) :
    mergeLoop cmp 0 m l a b = if a.count > 0 ∧ b.count > 0 then none else some (m, l, a, b) := by
  rw [mergeLoop]

theorem mergeLoop_succ (cmp : Nat → Nat → Int) (f : Nat) (m : Mem) (l a b : Hd) :
    mergeLoop cmp (f + 1) m l a b
      = ListG.mergeStep Hd.count (fun m l => m l.h) move cmp (mergeLoop cmp f) m l a b := by
  rw [mergeLoop, ListG.mergeStep, move, move]
  cases eraseAfter m a a.h <;> cases eraseAfter m b b.h <;> rfl

theorem sortL_succ (cmp : Nat → Nat → Int) (tmp : Nat → Nat × Nat) (f d : Nat) (m : Mem) (l : Hd) :
    sortL cmp tmp (f + 1) d m l
      = ListG.sortStep Hd.count (split tmp f) cat (mergeLoop cmp f) (sortL cmp tmp f) d m l := by
  rw [sortL, ListG.sortStep, split]
  dsimp only
  cases splitLoop f _ _ _ _ <;> dsimp only
  cases sortL cmp tmp f (d + 1) _ _ <;> dsimp only
  cases sortL cmp tmp f (d + 1) _ _ <;> dsimp only
  cases mergeLoop cmp f _ _ _ _ <;> rfl

theorem mergeLoop_spec (cmp : Nat → Nat → Int) (key : Nat → Int) (hck : ∀ x y, cmp x y ≤ 0 ↔ key x ≤ key y)
    (fuel : Nat) {m : Mem} {l a b : Hd} {out as bs : List Nat}
    (I : ListG.Merging IsSL Hd.h m l a b out as bs) (hf : as.length + bs.length ≤ fuel) :
    ∃ m' l' a' b' out' as' bs', mergeLoop cmp fuel m l a b = some (m', l', a', b')
      ∧ ListG.Merging IsSL Hd.h m' l' a' b' out' as' bs' ∧ l'.h = l.h ∧ a'.h = a.h ∧ b'.h = b.h
      ∧ (as' = [] ∨ bs' = []) ∧ out' ++ as' ++ bs' = out ++ merge key as bs
      ∧ (∀ x, x ∉ l.h :: out → x ∉ a.h :: as → x ∉ b.h :: bs → m' x = m x) :=
  ListG.mergeLoop_spec (fun m l => m l.h) @IsSL.frame @IsSL.nodup @IsSL.count (fun _ _ _ _ h => h.path.1)
    move @move_spec cmp key hck (mergeLoop cmp) (mergeLoop_zero cmp) (mergeLoop_succ cmp) fuel I hf

/-- **Refinement.**  On a represented list with fresh temporary heads and
enough fuel, the link-level sort finishes (no NULL dereference, loops and
recursion end), keeps the list's head node, and ends in a state that
represents exactly the sequence computed by the sequence-level model `msort`
— tail pointer at the true last node, `count = length`.  It writes only the
list's own nodes and temporary heads of depth `d` or deeper. -/
theorem sortL_refines (cmp : Nat → Nat → Int) (key : Nat → Int) (hck : ∀ x y, cmp x y ≤ 0 ↔ key x ≤ key y)
    (tmp : Nat → Nat × Nat) (fuel d : Nat) {m : Mem} {l : Hd} {xs : List Nat}
    (h : IsSL m l xs) (hfr : Fresh tmp d (l.h :: xs)) (hf : xs.length < fuel) :
    ∃ m' l', sortL cmp tmp fuel d m l = some (m', l') ∧ l'.h = l.h
      ∧ IsSL m' l' (msort key xs.length xs)
      ∧ ∀ x, x ∉ l.h :: xs → ¬ Scratch tmp d x → m' x = m x :=
  ListG.sortL_refines (rd := fun m a => m a) (fun m l => m l.h) @IsSL.frame @IsSL.nodup @IsSL.count
    (fun _ _ _ _ h => h.path.1) tmp (split tmp) (@split_spec tmp) move @move_spec cat @cat_spec cmp key hck
    (mergeLoop cmp) (mergeLoop_zero cmp) (mergeLoop_succ cmp) (sortL cmp tmp) (sortL_succ cmp tmp) fuel d h hfr hf

/-- **C13, sort at link level.**  The conclusion of `sort_spec` holds for the
link-level model of the C function: from any represented list, with fresh
temporary heads, `xs.length + 1` units of fuel are enough; the result
represents an ordered permutation of the same nodes with the tail pointer at
the true last node, and only the list's nodes and the temporary heads are
written. -/
theorem sortL_spec (cmp : Nat → Nat → Int) (key : Nat → Int) (hck : ∀ x y, cmp x y ≤ 0 ↔ key x ≤ key y)
    (tmp : Nat → Nat × Nat) (d : Nat) {m : Mem} {l : Hd} {xs : List Nat}
    (h : IsSL m l xs) (hfr : Fresh tmp d (l.h :: xs)) :
    ∃ m' l', sortL cmp tmp (xs.length + 1) d m l = some (m', l') ∧
      let ys := if l.count > 1 then msort key xs.length xs else xs
      IsSL m' l' ys ∧ ys.Perm xs ∧ SortedBy key ys ∧ l'.h = l.h
      ∧ ∀ a, a ∉ l.h :: xs → ¬ Scratch tmp d a → m' a = m a := by
  obtain ⟨m', l', e, hh, hs, fr⟩ := sortL_refines cmp key hck tmp (xs.length + 1) d h hfr (by omega)
  refine ⟨m', l', e, ?_⟩
  intro ys
  have hys : ys = msort key xs.length xs := msort_guard key xs h.count
  rw [hys]
  exact ⟨hs, msort_perm key _ xs, msort_sorted key _ xs (Nat.le_refl _), hh, fr⟩

/-- **link-level sort = sequence-level model.**  The link-level sort ends with
the same header as the sequence-level model `sort` of `Model.lean` and with
the same memory everywhere except on the temporary heads. -/
theorem sortL_eq_sort (cmp : Nat → Nat → Int) (key : Nat → Int) (hck : ∀ x y, cmp x y ≤ 0 ↔ key x ≤ key y)
    (tmp : Nat → Nat × Nat) (d : Nat) {m : Mem} {l : Hd} {xs : List Nat}
    (h : IsSL m l xs) (hfr : Fresh tmp d (l.h :: xs)) :
    ∃ m' l', sortL cmp tmp (xs.length + 1) d m l = some (m', l') ∧ l' = (sort m l key).2
      ∧ ∀ a, ¬ Scratch tmp d a → m' a = (sort m l key).1 a := by
  obtain ⟨m', l', e, s1, _, _, hh, fr⟩ := sortL_spec cmp key hck tmp d h hfr
  obtain ⟨t1, tp, _, tfr⟩ := sort_spec h key
  -- both represent the same sequence on the head node `l.h`
  obtain ⟨el, em⟩ := t1.unique s1 (hh.trans (sort_hd m l key).symm)
  refine ⟨m', l', e, el, fun a ha => ?_⟩
  by_cases hm : a ∈ l.h :: xs
  · exact em a (sort_hd m l key ▸ ((tp.cons l.h).mem_iff.mpr hm))
  · rw [fr a hm ha, tfr a hm]

/-- the hypotheses are satisfiable: temporary heads at 100, 101, 102, … are
fresh for a list whose nodes lie below 100 -/
theorem fresh_example (used : List Nat) (hu : ∀ x ∈ used, x < 100) :
    Fresh (fun e => (100 + 2 * e, 101 + 2 * e)) 0 used := by
  refine ⟨fun e _ => ⟨by simp, by simp⟩, fun e _ => by simp,
    fun e e' _ _ hne => ⟨by simp; omega, by simp; omega, by simp; omega, by simp; omega⟩, ?_⟩
  rintro a ⟨e, _, h1⟩ hm
  have := hu a hm
  simp at h1; omega

/-- non-vacuity, and the model runs: the four-element list `[12, 10, 13, 11]`
(keys = addresses) is sorted by the link-level function -/
example :
    let s0 := init (fun _ => 0) 1
    let s1 := pushBack s0.1 s0.2 12
    let s2 := pushBack s1.1 s1.2 10
    let s3 := pushBack s2.1 s2.2 13
    let s4 := pushBack s3.1 s3.2 11
    (sortL (fun a b => (a : Int) - b) (fun e => (100 + 2 * e, 101 + 2 * e)) 5 0 s4.1 s4.2).map
        (fun r => (walk r.1 5 r.2.h, r.2.t, r.2.count)) = some ([10, 11, 12, 13], 13, 4) := by
  decide

end Cstl.SList
