import Cstl.SList.Lemmas
/-
The link-level merge sort of `slist.c` and `dlist.c`, proved once
(`Cstl.ListG.sortL_refines`), and what the two instances share besides it: the
bookkeeping of the temporary list heads (`Scratch`, `Fresh`, `Region`).

Both C functions are the same algorithm over the list interface: cut the list
in two behind its middle node into two temporary lists whose heads live in the
activation's stack frame, sort both recursively, then repeatedly move the
smaller front node to the back of the emptied list and finally append the half
that is left.
-/
namespace Cstl.SList

/-- the addresses of the temporary heads used at recursion depth `d` or deeper -/
def Scratch (tmp : Nat → Nat × Nat) (d a : Nat) : Prop :=
  ∃ e, d ≤ e ∧ (a = (tmp e).1 ∨ a = (tmp e).2)

/-- the temporary heads of depth `d` and deeper are non-NULL, pairwise
different, and none of them is in `used` -/
structure Fresh (tmp : Nat → Nat × Nat) (d : Nat) (used : List Nat) : Prop where
  nz : ∀ e, d ≤ e → (tmp e).1 ≠ 0 ∧ (tmp e).2 ≠ 0
  ne : ∀ e, d ≤ e → (tmp e).1 ≠ (tmp e).2
  inj : ∀ e e', d ≤ e → d ≤ e' → e ≠ e' →
    (tmp e).1 ≠ (tmp e').1 ∧ (tmp e).1 ≠ (tmp e').2 ∧ (tmp e).2 ≠ (tmp e').1 ∧ (tmp e).2 ≠ (tmp e').2
  dis : ∀ a, Scratch tmp d a → a ∉ used

theorem Scratch.mono {tmp : Nat → Nat × Nat} {d a : Nat} (h : Scratch tmp (d + 1) a) : Scratch tmp d a := by
  obtain ⟨e, he, h⟩ := h
  exact ⟨e, by omega, h⟩

theorem Scratch.here1 (tmp : Nat → Nat × Nat) (d : Nat) : Scratch tmp d (tmp d).1 := ⟨d, Nat.le_refl _, Or.inl rfl⟩
theorem Scratch.here2 (tmp : Nat → Nat × Nat) (d : Nat) : Scratch tmp d (tmp d).2 := ⟨d, Nat.le_refl _, Or.inr rfl⟩

/-- freshness for a recursive call: its list consists of one of this
activation's temporary heads and some of the nodes -/
theorem Fresh.sub {tmp : Nat → Nat × Nat} {d : Nat} {used used' : List Nat} (h : Fresh tmp d used)
    (hs : ∀ x ∈ used', x ∈ used ∨ x = (tmp d).1 ∨ x = (tmp d).2) : Fresh tmp (d + 1) used' := by
  refine ⟨fun e he => h.nz e (by omega), fun e he => h.ne e (by omega),
    fun e e' he he' hne => h.inj e e' (by omega) (by omega) hne, ?_⟩
  intro a hsc hm
  obtain ⟨e, he, hae⟩ := hsc
  have hi := h.inj e d (by omega) (Nat.le_refl _) (by omega)
  rcases hs a hm with h1 | h1 | h1
  · exact h.dis a ⟨e, by omega, hae⟩ h1
  · rcases hae with h2 | h2
    · exact hi.1 (h2 ▸ h1)
    · exact hi.2.2.1 (h2 ▸ h1)
  · rcases hae with h2 | h2
    · exact hi.2.1 (h2 ▸ h1)
    · exact hi.2.2.2 (h2 ▸ h1)

/-- the addresses an activation at depth `d` on the list `h, xs…` may write:
its nodes and the temporary heads of depth `d` and deeper -/
def Region (tmp : Nat → Nat × Nat) (d h : Nat) (xs : List Nat) (z : Nat) : Prop :=
  z ∈ h :: xs ∨ Scratch tmp d z

/-- the region of the first recursive call lies inside the caller's region and
contains neither the caller's head node nor a node of the second half -/
theorem Fresh.left {tmp : Nat → Nat × Nat} {d h z : Nat} {pre post : List Nat}
    (hfr : Fresh tmp d (h :: (pre ++ post))) (hnd : (h :: (pre ++ post)).Nodup)
    (hz : Region tmp (d + 1) (tmp d).1 pre z) :
    Region tmp d h (pre ++ post) z ∧ z ≠ h ∧ z ∉ (tmp d).2 :: post := by
  have hu0 := hfr.dis _ (Scratch.here1 tmp d)
  have hu1 := hfr.dis _ (Scratch.here2 tmp d)
  rcases hz with hz | ⟨e, he, hz⟩
  · have hd := (List.nodup_append.mp (List.nodup_cons.mp hnd).2).2.2
    have hh := (List.nodup_cons.mp hnd).1
    simp only [List.mem_cons, List.mem_append, not_or] at hz hu0 hu1 hh ⊢
    rcases hz with rfl | hz
    · exact ⟨Or.inr (Scratch.here1 tmp d), hu0.1, hfr.ne d (Nat.le_refl d), hu0.2.2⟩
    · exact ⟨Or.inl (by simp [hz]), fun e => hh.1 (e ▸ hz), fun e => hu1.2.1 (e ▸ hz),
        fun hm => hd z hz z hm rfl⟩
  · have hs : Scratch tmp d z := ⟨e, by omega, hz⟩
    have hi := hfr.inj e d (by omega) (Nat.le_refl d) (by omega)
    have hzu := hfr.dis z hs
    simp only [List.mem_cons, List.mem_append, not_or] at hzu ⊢
    refine ⟨Or.inr hs, hzu.1, ?_, hzu.2.2⟩
    rcases hz with rfl | rfl
    · exact hi.2.1
    · exact hi.2.2.2

theorem Fresh.right {tmp : Nat → Nat × Nat} {d h z : Nat} {pre post : List Nat}
    (hfr : Fresh tmp d (h :: (pre ++ post))) (hnd : (h :: (pre ++ post)).Nodup)
    (hz : Region tmp (d + 1) (tmp d).2 post z) :
    Region tmp d h (pre ++ post) z ∧ z ≠ h ∧ z ∉ (tmp d).1 :: pre := by
  have hu0 := hfr.dis _ (Scratch.here1 tmp d)
  have hu1 := hfr.dis _ (Scratch.here2 tmp d)
  rcases hz with hz | ⟨e, he, hz⟩
  · have hd := (List.nodup_append.mp (List.nodup_cons.mp hnd).2).2.2
    have hh := (List.nodup_cons.mp hnd).1
    simp only [List.mem_cons, List.mem_append, not_or] at hz hu0 hu1 hh ⊢
    rcases hz with rfl | hz
    · exact ⟨Or.inr (Scratch.here2 tmp d), hu1.1, (hfr.ne d (Nat.le_refl d)).symm, hu1.2.1⟩
    · exact ⟨Or.inl (by simp [hz]), fun e => hh.2 (e ▸ hz), fun e => hu0.2.2 (e ▸ hz),
        fun hm => hd z hm z hz rfl⟩
  · have hs : Scratch tmp d z := ⟨e, by omega, hz⟩
    have hi := hfr.inj e d (by omega) (Nat.le_refl d) (by omega)
    have hzu := hfr.dis z hs
    simp only [List.mem_cons, List.mem_append, not_or] at hzu ⊢
    refine ⟨Or.inr hs, hzu.1, ?_, hzu.2.1⟩
    rcases hz with rfl | rfl
    · exact hi.1
    · exact hi.2.2.1
end Cstl.SList

namespace Cstl.ListG
open Cstl.SList (merge msort msort_perm msort_split msort_short Fresh Scratch Region mem_cons_snoc mem_cons_skip
  nodup_remove_mid)

/-- one iteration of the merge loop over the phase `move`, `loop` being the
rest of the loop: while both halves are non-empty, the half whose front node
compares `<= 0` (the left one on ties) gives its front node to the output -/
def mergeStep {M H : Type} (sz : H → Nat) (front : M → H → Nat) (move : M → H → H → Option (M × H × H))
    (cmp : Nat → Nat → Int) (loop : M → H → H → H → Option (M × H × H × H)) (m : M) (l a b : H) :
    Option (M × H × H × H) :=
  if sz a > 0 ∧ sz b > 0 then
    if cmp (front m a) (front m b) ≤ 0 then
      match move m l a with
      | none => none
      | some (m', l', a') => loop m' l' a' b
    else
      match move m l b with
      | none => none
      | some (m', l', b') => loop m' l' a b'
  else some (m, l, a, b)

/-- one activation of the sort over the phases `split` and `cat`, the merge
loop `merge` and the recursive call `rec` (which takes the depth): a list of
more than one element is split, both halves are sorted one level deeper and
merged, and the half that is left is appended -/
def sortStep {M H : Type} (sz : H → Nat) (split : Nat → M → H → Option (M × H × H × H)) (cat : M → H → H → M × H)
    (merge : M → H → H → H → Option (M × H × H × H)) (rec : Nat → M → H → Option (M × H)) (d : Nat) (m : M)
    (l : H) : Option (M × H) :=
  if sz l > 1 then
    match split d m l with
    | none => none
    | some (m0, l0, a0, b0) =>
      match rec (d + 1) m0 a0 with
      | none => none
      | some (m1, a1) =>
        match rec (d + 1) m1 b0 with
        | none => none
        | some (m2, b1) =>
          match merge m2 l0 a1 b1 with
          | none => none
          | some (m3, l3, a3, b3) => if sz a3 > 0 then some (cat m3 l3 a3) else some (cat m3 l3 b3)
  else some (m, l)

section
variable
  -- A list model: memories `M`, headers `H`; `rd m a` is what the memory holds at address `a`, so
  -- "unchanged at `a`" is `rd m' a = rd m a`; `Rep m l xs`: header `l` represents `xs` in `m`;
  -- `hd l` the head-node address, `sz l` the element count, `front m l` the first node.
  {M H V : Type} {rd : M → Nat → V} {Rep : M → H → List Nat → Prop} {hd : H → Nat} {sz : H → Nat}
  (front : M → H → Nat)
  -- `Rep m l xs` reads the memory on `hd l :: xs` only, these are different addresses, and the
  -- header fields say what they should.
  (frame : ∀ ⦃m m' : M⦄ ⦃l : H⦄ ⦃xs : List Nat⦄, Rep m l xs → (∀ z ∈ hd l :: xs, rd m' z = rd m z) → Rep m' l xs)
  (nodup : ∀ ⦃m : M⦄ ⦃l : H⦄ ⦃xs : List Nat⦄, Rep m l xs → (hd l :: xs).Nodup)
  (size : ∀ ⦃m : M⦄ ⦃l : H⦄ ⦃xs : List Nat⦄, Rep m l xs → sz l = xs.length)
  (front_eq : ∀ ⦃m : M⦄ ⦃l : H⦄ ⦃x : Nat⦄ ⦃xs : List Nat⦄, Rep m l (x :: xs) → front m l = x)
  -- The three phases.  `split f d m l = some (m', l', a, b)`: the temporary heads of depth `d` took
  -- over the two halves and `l` is empty.  `move m l a = some (m', l', a')`: the front node of `a`
  -- went to the back of `l`.  `cat m d s = (m', d')`: `s` appended to `d`.  Each writes only the
  -- nodes of the lists it is given (and `split` the two temporary heads).
  (tmp : Nat → Nat × Nat)
  (split : Nat → Nat → M → H → Option (M × H × H × H))
  (split_spec : ∀ ⦃f d : Nat⦄ ⦃m : M⦄ ⦃l : H⦄ ⦃pre post : List Nat⦄, Rep m l (pre ++ post) →
    pre ≠ [] → post ≠ [] → pre.length = (pre ++ post).length / 2 → (pre ++ post).length ≤ f →
    Fresh tmp d (hd l :: (pre ++ post)) →
    ∃ r, split f d m l = some r ∧ Rep r.1 r.2.1 [] ∧ hd r.2.1 = hd l
      ∧ Rep r.1 r.2.2.1 pre ∧ hd r.2.2.1 = (tmp d).1 ∧ Rep r.1 r.2.2.2 post ∧ hd r.2.2.2 = (tmp d).2
      ∧ ∀ z, z ∉ hd l :: (pre ++ post) → z ≠ (tmp d).1 → z ≠ (tmp d).2 → rd r.1 z = rd m z)
  (move : M → H → H → Option (M × H × H))
  (move_spec : ∀ ⦃m : M⦄ ⦃l a : H⦄ ⦃out as : List Nat⦄ ⦃x : Nat⦄, Rep m l out → Rep m a (x :: as) →
    (∀ z ∈ hd l :: out, z ∉ hd a :: x :: as) →
    ∃ m' l' a', move m l a = some (m', l', a') ∧ hd l' = hd l ∧ hd a' = hd a
      ∧ Rep m' l' (out ++ [x]) ∧ Rep m' a' as
      ∧ ∀ z, z ∉ hd l :: out → z ∉ hd a :: x :: as → rd m' z = rd m z)
  (cat : M → H → H → M × H)
  (cat_spec : ∀ ⦃m : M⦄ ⦃d s : H⦄ ⦃xs ys : List Nat⦄, Rep m d xs → Rep m s ys →
    (∀ z ∈ hd d :: xs, z ∉ hd s :: ys) →
    Rep (cat m d s).1 (cat m d s).2 (xs ++ ys) ∧ hd (cat m d s).2 = hd d
      ∧ ∀ z, z ∉ hd d :: xs → z ∉ hd s :: ys → rd (cat m d s).1 z = rd m z)
  (cmp : Nat → Nat → Int) (key : Nat → Int) (hck : ∀ x y, cmp x y ≤ 0 ↔ key x ≤ key y)
  -- The merge loop and the sort itself, through their defining equations (`none` = out of fuel, or
  -- a phase failed).
  (mergeLoop : Nat → M → H → H → H → Option (M × H × H × H))
  (mergeLoop_zero : ∀ m l a b, mergeLoop 0 m l a b = if sz a > 0 ∧ sz b > 0 then none else some (m, l, a, b))
  (mergeLoop_succ : ∀ f m l a b, mergeLoop (f + 1) m l a b = mergeStep sz front move cmp (mergeLoop f) m l a b)
  (sortL : Nat → Nat → M → H → Option (M × H))
  (sortL_succ : ∀ f d m l, sortL (f + 1) d m l = sortStep sz (split f) cat (mergeLoop f) (sortL f) d m l)

variable (rd Rep hd) in
/-- invariant of the merge loop -/
structure Merging (m : M) (l a b : H) (out as bs : List Nat) : Prop where
  hl : Rep m l out
  ha : Rep m a as
  hb : Rep m b bs
  dla : ∀ x ∈ hd l :: out, x ∉ hd a :: as
  dlb : ∀ x ∈ hd l :: out, x ∉ hd b :: bs
  dab : ∀ x ∈ hd a :: as, x ∉ hd b :: bs

theorem Merging.symm {m : M} {l a b : H} {out as bs : List Nat} (I : Merging Rep hd m l a b out as bs) :
    Merging Rep hd m l b a out bs as :=
  ⟨I.hl, I.hb, I.ha, I.dlb, I.dla, fun z hz hm => I.dab z hm hz⟩

include frame nodup move_spec in
theorem Merging.take {m : M} {l a b : H} {out as bs : List Nat} {x : Nat}
    (I : Merging Rep hd m l a b out (x :: as) bs) :
    ∃ m' l' a', move m l a = some (m', l', a') ∧ hd l' = hd l ∧ hd a' = hd a
      ∧ Merging Rep hd m' l' a' b (out ++ [x]) as bs
      ∧ ∀ z, z ∉ hd l :: out → z ∉ hd a :: x :: as → rd m' z = rd m z := by
  obtain ⟨hl, ha, hb, dla, dlb, dab⟩ := I
  have hxa : x ∉ hd a :: as := (nodup_remove_mid (pre := []) (nodup ha)).2
  obtain ⟨m', l', a', e, l'h, a'h, hl', ha', fr⟩ := move_spec hl ha dla
  refine ⟨m', l', a', e, l'h, a'h, ⟨hl', ha', ?_, ?_, ?_, ?_⟩, fr⟩
  · exact frame hb fun z hz => fr z (fun hm => dlb z hm hz) fun hm => dab z hm hz
  · intro z hz hm
    rw [l'h] at hz
    rw [a'h] at hm
    rcases mem_cons_snoc.mp hz with hz | rfl
    · exact dla z hz (mem_cons_skip hm)
    · exact hxa hm
  · intro z hz
    rw [l'h] at hz
    rcases mem_cons_snoc.mp hz with hz | rfl
    · exact dlb z hz
    · exact dab z (by simp)
  · intro z hz
    rw [a'h] at hz
    exact dab z (mem_cons_skip hz)

include frame nodup size front_eq move_spec hck mergeLoop_zero mergeLoop_succ in
/-- the merge loop ends with one half empty; output and rest together are the
merge of the two halves behind what the output held before -/
theorem mergeLoop_spec (fuel : Nat) {m : M} {l a b : H} {out as bs : List Nat}
    (I : Merging Rep hd m l a b out as bs) (hf : as.length + bs.length ≤ fuel) :
    ∃ m' l' a' b' out' as' bs', mergeLoop fuel m l a b = some (m', l', a', b')
      ∧ Merging Rep hd m' l' a' b' out' as' bs' ∧ hd l' = hd l ∧ hd a' = hd a ∧ hd b' = hd b
      ∧ (as' = [] ∨ bs' = []) ∧ out' ++ as' ++ bs' = out ++ merge key as bs
      ∧ (∀ x, x ∉ hd l :: out → x ∉ hd a :: as → x ∉ hd b :: bs → rd m' x = rd m x) := by
  induction fuel generalizing m l a b out as bs with
  | zero =>
    have h1 : as = [] := List.length_eq_zero_iff.mp (by omega)
    subst h1
    have hc : sz a = 0 := size I.ha
    exact ⟨m, l, a, b, out, [], bs, by simp [mergeLoop_zero, hc], I, rfl, rfl, rfl, Or.inl rfl,
      by simp [merge], fun _ _ _ _ => rfl⟩
  | succ f ih =>
    match as, bs with
    | [], bs =>
      have hc : sz a = 0 := size I.ha
      exact ⟨m, l, a, b, out, [], bs, by simp [mergeLoop_succ, mergeStep, hc], I, rfl, rfl, rfl, Or.inl rfl,
        by simp [merge], fun _ _ _ _ => rfl⟩
    | x :: as, [] =>
      have hc : sz b = 0 := size I.hb
      exact ⟨m, l, a, b, out, x :: as, [], by simp [mergeLoop_succ, mergeStep, hc], I, rfl, rfl, rfl, Or.inr rfl,
        by simp [merge], fun _ _ _ _ => rfl⟩
    | x :: as, y :: bs =>
      have hc : sz a > 0 ∧ sz b > 0 := by
        rw [size I.ha, size I.hb]; exact ⟨Nat.succ_pos _, Nat.succ_pos _⟩
      by_cases hle : key x ≤ key y
      · have hcmp : cmp x y ≤ 0 := (hck x y).mpr hle
        obtain ⟨m1, l1, a1, e1, l1h, a1h, I1, fr1⟩ := I.take frame nodup move move_spec
        obtain ⟨m', l', a', b', out', as', bs', e, I', hl', ha', hb', hex, hout, fr⟩ :=
          ih I1 (by simp at hf ⊢; omega)
        refine ⟨m', l', a', b', out', as', bs', ?_, I', hl'.trans l1h, ha'.trans a1h, hb', hex, ?_, ?_⟩
        · rw [mergeLoop_succ, mergeStep, if_pos hc, front_eq I.ha, front_eq I.hb, if_pos hcmp, e1]
          exact e
        · rw [hout]; simp [merge, hle]
        · intro z h1 h2 h3
          exact (fr z (fun hm => (mem_cons_snoc.mp (l1h ▸ hm)).elim h1 fun e => h2 (by simp [e]))
            (fun hm => h2 (mem_cons_skip (a1h ▸ hm))) h3).trans (fr1 z h1 h2)
      · have hcmp : ¬ cmp x y ≤ 0 := fun h => hle ((hck x y).mp h)
        obtain ⟨m1, l1, b1, e1, l1h, b1h, I1, fr1⟩ := I.symm.take frame nodup move move_spec
        obtain ⟨m', l', a', b', out', as', bs', e, I', hl', ha', hb', hex, hout, fr⟩ :=
          ih I1.symm (by simp at hf ⊢; omega)
        refine ⟨m', l', a', b', out', as', bs', ?_, I', hl'.trans l1h, ha', hb'.trans b1h, hex, ?_, ?_⟩
        · rw [mergeLoop_succ, mergeStep, if_pos hc, front_eq I.ha, front_eq I.hb, if_neg hcmp, e1]
          exact e
        · rw [hout]; simp [merge, hle]
        · intro z h1 h2 h3
          exact (fr z (fun hm => (mem_cons_snoc.mp (l1h ▸ hm)).elim h1 fun e => h3 (by simp [e])) h2
            (fun hm => h3 (mem_cons_skip (b1h ▸ hm)))).trans (fr1 z h1 h3)

include size cat_spec in
theorem Merging.finish {m : M} {l a b : H} {out as bs : List Nat} (I : Merging Rep hd m l a b out as bs)
    (hex : as = [] ∨ bs = []) :
    ∃ m' l', (if sz a > 0 then some (cat m l a) else some (cat m l b)) = some (m', l')
      ∧ Rep m' l' (out ++ as ++ bs) ∧ hd l' = hd l
      ∧ ∀ z, z ∉ hd l :: out → z ∉ hd a :: as → z ∉ hd b :: bs → rd m' z = rd m z := by
  by_cases hca : sz a > 0
  · have hbs : bs = [] := hex.resolve_left fun e => by rw [size I.ha, e] at hca; exact Nat.lt_irrefl _ hca
    obtain ⟨c1, c2, c3⟩ := cat_spec I.hl I.ha I.dla
    exact ⟨_, _, if_pos hca, by simpa [hbs] using c1, c2, fun z h1 h2 _ => c3 z h1 h2⟩
  · have has : as = [] := List.eq_nil_of_length_eq_zero (by rw [← size I.ha]; omega)
    obtain ⟨c1, c2, c3⟩ := cat_spec I.hl I.hb I.dlb
    exact ⟨_, _, if_neg hca, by simpa [has] using c1, c2, fun z h1 _ h3 => c3 z h1 h3⟩

include frame nodup size front_eq move_spec cat_spec hck mergeLoop_zero mergeLoop_succ split_spec sortL_succ in
/-- **Refinement, for any list interface.**  On a represented list with fresh
temporary heads and enough fuel the link-level sort finishes, keeps the head
node and ends in a state representing `msort key xs.length xs`; it writes only
the list's nodes and temporary heads of depth `d` or deeper. -/
theorem sortL_refines (fuel d : Nat) {m : M} {l : H} {xs : List Nat}
    (h : Rep m l xs) (hfr : Fresh tmp d (hd l :: xs)) (hf : xs.length < fuel) :
    ∃ m' l', sortL fuel d m l = some (m', l') ∧ hd l' = hd l
      ∧ Rep m' l' (msort key xs.length xs)
      ∧ ∀ x, x ∉ hd l :: xs → ¬ Scratch tmp d x → rd m' x = rd m x := by
  induction fuel generalizing d m l xs with
  | zero => omega
  | succ f ih =>
    by_cases hc : sz l > 1
    · have hn : xs.length > 1 := by rw [← size h]; exact hc
      obtain ⟨pre, post, hxs, hk⟩ : ∃ pre post, xs = pre ++ post ∧ pre.length = xs.length / 2 :=
        ⟨xs.take (xs.length / 2), xs.drop (xs.length / 2), (List.take_append_drop _ _).symm, by simp; omega⟩
      subst hxs
      have hlen : (pre ++ post).length = pre.length + post.length := List.length_append
      have hpre : pre ≠ [] := by intro e; subst e; simp at hk hn; omega
      have hpost : post ≠ [] := by intro e; subst e; simp at hk hn; omega
      have hnd := nodup h
      obtain ⟨r, es, hL0, hLh, hA0, hAh, hB0, hBh, frS⟩ := split_spec h hpre hpost hk (Nat.le_of_lt_succ hf) hfr
      have hL : ∀ z, z ∈ hd r.2.1 :: [] → z = hd l := fun z hz => hLh ▸ List.mem_singleton.mp hz
      have hfA : Fresh tmp (d + 1) (hd r.2.2.1 :: pre) := hAh ▸ hfr.sub fun x hx =>
        (List.mem_cons.mp hx).elim (fun e => Or.inr (Or.inl e)) fun hx => Or.inl (by simp [hx])
      obtain ⟨m3, a1, ea, a1h, hA, frA⟩ := ih (d + 1) hA0 hfA (by omega)
      replace frA : ∀ z, ¬ Region tmp (d + 1) (tmp d).1 pre z → rd m3 z = rd r.1 z :=
        fun z hz => frA z (hAh ▸ fun hm => hz (Or.inl hm)) fun hs => hz (Or.inr hs)
      -- the second half and the emptied list lie outside the first call's region
      have hB3 : Rep m3 r.2.2.2 post :=
        frame hB0 fun z hz => frA z fun hR => (hfr.left hnd hR).2.2 (hBh ▸ hz)
      have hL3 : Rep m3 r.2.1 [] :=
        frame hL0 fun z hz => frA z fun hR => (hfr.left hnd hR).2.1 (hL z hz)
      have hfB : Fresh tmp (d + 1) (hd r.2.2.2 :: post) := hBh ▸ hfr.sub fun x hx =>
        (List.mem_cons.mp hx).elim (fun e => Or.inr (Or.inr e)) fun hx => Or.inl (by simp [hx])
      obtain ⟨m4, b1, eb, b1h, hB, frB⟩ := ih (d + 1) hB3 hfB (by omega)
      replace frB : ∀ z, ¬ Region tmp (d + 1) (tmp d).2 post z → rd m4 z = rd m3 z :=
        fun z hz => frB z (hBh ▸ fun hm => hz (Or.inl hm)) fun hs => hz (Or.inr hs)
      have memA : ∀ z, z ∈ hd a1 :: msort key pre.length pre → z ∈ (tmp d).1 :: pre :=
        fun z hz => ((msort_perm key _ pre).cons _).mem_iff.mp (hAh ▸ a1h ▸ hz)
      have memB : ∀ z, z ∈ hd b1 :: msort key post.length post → z ∈ (tmp d).2 :: post :=
        fun z hz => ((msort_perm key _ post).cons _).mem_iff.mp (hBh ▸ b1h ▸ hz)
      have hA4 : Rep m4 a1 (msort key pre.length pre) :=
        frame hA fun z hz => frB z fun hR => (hfr.right hnd hR).2.2 (memA z hz)
      have hL4 : Rep m4 r.2.1 [] :=
        frame hL3 fun z hz => frB z fun hR => (hfr.right hnd hR).2.1 (hL z hz)
      have I4 : Merging Rep hd m4 r.2.1 a1 b1 [] (msort key pre.length pre) (msort key post.length post) :=
        ⟨hL4, hA4, hB, fun z hz hm => (hfr.left hnd (Or.inl (memA z hm))).2.1 (hL z hz),
          fun z hz hm => (hfr.right hnd (Or.inl (memB z hm))).2.1 (hL z hz),
          fun z hz hm => (hfr.left hnd (Or.inl (memA z hz))).2.2 (memB z hm)⟩
      obtain ⟨m5, l5, a5, b5, out', as', bs', em, I5, l5h, a5h, b5h, hex, hmerge, fr5⟩ :=
        mergeLoop_spec front frame nodup size front_eq move move_spec cmp key hck mergeLoop mergeLoop_zero
          mergeLoop_succ f I4
          (by rw [(msort_perm key _ pre).length_eq, (msort_perm key _ post).length_eq]; omega)
      obtain ⟨m6, l6, e6, hS, l6h, fr6⟩ := I5.finish size cat cat_spec hex
      rw [List.nil_append, ← msort_split key pre post hk hn] at hmerge
      rw [hmerge] at hS
      have hsub : ∀ z, z ∈ out' ++ as' ++ bs' → z ∈ pre ++ post := fun z hz =>
        (msort_perm key (pre ++ post).length (pre ++ post)).mem_iff.mp (hmerge ▸ hz)
      have hcons : ∀ {s z : Nat} {ys : List Nat}, (∀ z, z ∈ ys → z ∈ out' ++ as' ++ bs') → z ∈ s :: ys →
          z = s ∨ z ∈ hd l :: (pre ++ post) := fun hys hz =>
        (List.mem_cons.mp hz).imp_right fun hz => List.mem_cons_of_mem _ (hsub _ (hys _ hz))
      refine ⟨m6, l6, ?_, by rw [l6h, l5h, hLh], hS, ?_⟩
      · simp only [sortL_succ, sortStep, hc, if_true, es, ea, eb, em]
        exact e6
      · intro x hx hsx
        have hRA : ¬ Region tmp (d + 1) (tmp d).1 pre x := fun hR => (hfr.left hnd hR).1.elim hx hsx
        have hRB : ¬ Region tmp (d + 1) (tmp d).2 post x := fun hR => (hfr.right hnd hR).1.elim hx hsx
        have hx0 : x ≠ (tmp d).1 := fun e => hRA (Or.inl (by simp [e]))
        have hx1 : x ≠ (tmp d).2 := fun e => hRB (Or.inl (by simp [e]))
        have g6 := fr6 x
          (fun hm => (hcons (fun z hz => by simp [hz]) hm).elim (fun e => hx (by simp [e, l5h, hLh])) hx)
          (fun hm => (hcons (fun z hz => by simp [hz]) hm).elim (fun e => hx0 (by rw [e, a5h, a1h, hAh])) hx)
          (fun hm => (hcons (fun z hz => by simp [hz]) hm).elim (fun e => hx1 (by rw [e, b5h, b1h, hBh])) hx)
        have g5 := fr5 x (fun hm => hx (by simp [hL x hm])) (fun hm => hRA (Or.inl (memA x hm)))
          (fun hm => hRB (Or.inl (memB x hm)))
        exact g6.trans (g5.trans ((frB x hRB).trans ((frA x hRA).trans (frS x hx hx0 hx1))))
    · have hn : xs.length ≤ 1 := by rw [← size h]; omega
      refine ⟨m, l, by simp only [sortL_succ, sortStep, hc, if_false], rfl, ?_, fun _ _ _ => rfl⟩
      rw [msort_short key xs hn]; exact h

end

end Cstl.ListG
