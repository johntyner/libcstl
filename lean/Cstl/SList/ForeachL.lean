import Cstl.SList.Lemmas
import Cstl.SList.Run
/-
`cstl_slist_foreach` with a visit function that may take the visited element
away (unlink / free / reuse it: its link is overwritten with an arbitrary
`poison` value).  `Model.lean`'s `foreach` has a visit function without
effect on the links; with such a visit function it makes no difference
whether the successor is read before or after the visit.  The C code reads it
*before* (`n = c->n; res = visit(…); c = n;`), and this model is the one in
which that matters: `foreachP_spec` shows that the traversal still presents
the reference sequence whatever the visit function does to the elements it is
handed.  The translator tie `Tie2.foreachLoopP_tie` is stated against this
model, so moving the read after the visit is reported.
-/
namespace Cstl.SList
open Cstl.HashL (Chain)

/-- the loop of `cstl_slist_foreach`; `visit k c` = (result, "the element was
taken away") for the k-th call, on element `c` -/
def foreachLoopP (poison : Nat → Nat) (visit : Nat → Nat → Int × Bool) :
    Nat → Mem → Nat → Nat → List Nat → Mem × List Nat × Int
  | 0, m, _, _, acc => (m, acc.reverse, 0)
  | fuel + 1, m, c, k, acc =>
    if c = 0 then (m, acc.reverse, 0)
    else
      let n := m c                                           -- n = c->n
      let v := visit k c                                     -- res = visit(c, p)
      let m' := if v.2 then upd m c (poison c) else m
      if v.1 ≠ 0 then (m', (c :: acc).reverse, v.1)
      else foreachLoopP poison visit fuel m' n (k + 1) (c :: acc)     -- c = n

def foreachP (m : Mem) (l : Hd) (poison : Nat → Nat) (visit : Nat → Nat → Int × Bool) : Mem × List Nat × Int :=
  foreachLoopP poison visit (l.count + 1) m (m l.h) 0 []

theorem foreachLoopP_pure (poison : Nat → Nat) (visit : Nat → Nat → Int) (fuel : Nat) (m : Mem) (c k : Nat)
    (acc : List Nat) :
    foreachLoopP poison (fun k c => (visit k c, false)) fuel m c k acc = (m, foreachLoop visit fuel m c k acc) := by
  induction fuel generalizing c k acc with
  | zero => simp [foreachLoopP, foreachLoop]
  | succ f ih =>
    simp only [foreachLoopP, foreachLoop]
    split
    · rfl
    · simp only [Bool.false_eq_true, if_false]
      split
      · rfl
      · exact ih _ _ _

theorem foreachLoopP_spec (poison : Nat → Nat) (visit : Nat → Nat → Int × Bool) {m : Mem} {c : Nat} {ys : List Nat}
    (fuel k : Nat) (acc : List Nat) (h : Chain m c ys) (hf : ys.length < fuel) :
    (foreachLoopP poison visit fuel m c k acc).2.1
        = acc.reverse ++ (refForeach (fun k c => (visit k c).1) ys k).1
    ∧ (foreachLoopP poison visit fuel m c k acc).2.2 = (refForeach (fun k c => (visit k c).1) ys k).2
    ∧ ∀ a, a ∉ ys → (foreachLoopP poison visit fuel m c k acc).1 a = m a := by
  induction ys generalizing m c fuel k acc with
  | nil =>
    have : c = 0 := h
    subst this
    cases fuel <;> simp [foreachLoopP, refForeach]
  | cons y ys ih =>
    have hy : y ∉ ys := (List.nodup_cons.mp h.nodup).1
    obtain ⟨h1, h2, h3⟩ := h
    subst h1
    cases fuel with
    | zero => simp at hf
    | succ f =>
      -- the memory after the visit still holds the rest of the chain
      have hm' : ∀ a, a ≠ c → (if (visit k c).2 then upd m c (poison c) else m) a = m a := by
        intro a ha; split
        · exact upd_other _ _ _ _ ha
        · rfl
      have h3' : Chain (if (visit k c).2 then upd m c (poison c) else m) (m c) ys :=
        h3.transfer (fun a ha => hm' a (fun e => hy (e ▸ ha)))
      by_cases hv : (visit k c).1 = 0
      · obtain ⟨i1, i2, i3⟩ := ih (m := if (visit k c).2 then upd m c (poison c) else m) f (k + 1) (c :: acc)
          h3' (by simpa using hf)
        simp only [foreachLoopP, h2, if_false, hv, ne_eq, not_true_eq_false, refForeach]
        refine ⟨by rw [i1]; simp, i2, ?_⟩
        intro a ha
        rw [i3 a (fun hm => ha (by simp [hm]))]
        exact hm' a (fun e => ha (by simp [e]))
      · simp only [foreachLoopP, h2, if_false, hv, ne_eq, not_false_eq_true, if_true, refForeach]
        refine ⟨by simp, trivial, ?_⟩
        intro a ha
        exact hm' a (fun e => ha (by simp [e]))

/-- **foreach with an element-consuming visit function.**  The traversal
presents the reference sequence in order and stops at, and returns, the first
non-zero visit result — whatever the visit function does to the links of the
elements it is handed; no other link is written. -/
theorem foreachP_spec {m : Mem} {l : Hd} {xs : List Nat} (h : IsSL m l xs) (poison : Nat → Nat)
    (visit : Nat → Nat → Int × Bool) :
    (foreachP m l poison visit).2 = refForeach (fun k c => (visit k c).1) xs 0
    ∧ ∀ a, a ∉ xs → (foreachP m l poison visit).1 a = m a := by
  obtain ⟨i1, i2, i3⟩ := foreachLoopP_spec poison visit (l.count + 1) 0 [] (Seg_iff_Chain.mp h.path)
    (by rw [h.count]; omega)
  refine ⟨?_, i3⟩
  have e1 : (foreachP m l poison visit).2.1 = (refForeach (fun k c => (visit k c).1) xs 0).1 := by
    simpa [foreachP] using i1
  exact Prod.ext e1 i2

end Cstl.SList
