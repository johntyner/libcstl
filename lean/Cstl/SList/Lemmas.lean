import Cstl.SList.Model
import Cstl.HashL.Chain
/-
Lemmas under the link-level list models, shared by slist and dlist.  `Chain`
(the traversal view, `Seg_iff_Chain`) is that of `HashL/Chain.lean`.  Also here:
the sequence-level sort (`merge_*`, `SortedBy`, `msort_*`) and `relink_spec`.

"A fact about `m` holds of `m'` if the two agree on the nodes concerned" is
`Seg_congr`, `IsSL.frame` (`IsDL.frame`, `Chain.transfer`) for the same start
address; `Seg_transfer` is more: it hangs the chain on another start address.
-/
namespace Cstl.SList
open Cstl.HashL (Chain)

/-- following the links from `a` visits exactly `xs` (all non-NULL) and the
link of the last visited node (or of `a` itself) is `z` -/
def Seg (m : Mem) : Nat → List Nat → Nat → Prop
  | a, [], z => m a = z
  | a, x :: xs, z => m a = x ∧ x ≠ 0 ∧ Seg m x xs z

@[simp] theorem Seg_nil (m : Mem) (a z : Nat) : Seg m a [] z ↔ m a = z := Iff.rfl
@[simp] theorem Seg_cons (m : Mem) (a x z : Nat) (xs : List Nat) :
    Seg m a (x :: xs) z ↔ m a = x ∧ x ≠ 0 ∧ Seg m x xs z := Iff.rfl

@[simp] theorem lastOr_nil (a : Nat) : lastOr a [] = a := rfl
@[simp] theorem lastOr_cons (a x : Nat) (xs : List Nat) : lastOr a (x :: xs) = lastOr x xs := rfl

theorem lastOr_append_cons (a y : Nat) (xs ys : List Nat) :
    lastOr a (xs ++ y :: ys) = lastOr y ys := by
  induction xs generalizing a with
  | nil => rfl
  | cons x xs ih => simpa using ih x

theorem lastOr_append_singleton (a y : Nat) (xs : List Nat) : lastOr a (xs ++ [y]) = y := by
  simpa using lastOr_append_cons a y xs []

theorem lastOr_mem (a : Nat) (xs : List Nat) : lastOr a xs ∈ a :: xs := by
  induction xs generalizing a with
  | nil => simp
  | cons x xs ih =>
    have := ih x
    simp only [lastOr_cons]
    exact List.mem_cons_of_mem _ this

theorem lastOr_of_ne_nil (a b : Nat) {xs : List Nat} (h : xs ≠ []) : lastOr a xs = lastOr b xs := by
  cases xs with
  | nil => exact absurd rfl h
  | cons x xs => rfl

theorem lastOr_append_of_ne_nil (a b : Nat) (xs ys : List Nat) (h : ys ≠ []) :
    lastOr a (xs ++ ys) = lastOr b ys := by
  cases ys with
  | nil => exact absurd rfl h
  | cons y ys => rw [lastOr_append_cons]; rfl

theorem lastOr_mem_of_ne_nil (a : Nat) {xs : List Nat} (h : xs ≠ []) : lastOr a xs ∈ xs := by
  cases xs with
  | nil => exact absurd rfl h
  | cons x xs => exact lastOr_mem x xs

theorem lastOr_eq_head_iff (a : Nat) (xs : List Nat) (hnd : (a :: xs).Nodup) :
    lastOr a xs = a ↔ xs = [] := by
  constructor
  · intro h
    cases xs with
    | nil => rfl
    | cons x xs =>
      exfalso
      have hm := lastOr_mem x xs
      simp only [lastOr_cons] at h
      rw [h] at hm
      exact (List.nodup_cons.mp hnd).1 hm
  · intro h; subst h; rfl

theorem lastOr_eq_getLast? (a : Nat) (xs : List Nat) : xs.getLast? = if xs = [] then none else some (lastOr a xs) := by
  induction xs generalizing a with
  | nil => simp
  | cons x xs ih =>
    simp only [lastOr_cons]
    cases xs with
    | nil => simp
    | cons y ys =>
      have := ih x
      simp only [List.getLast?_cons_cons] at this ⊢
      simpa using this

theorem Seg_transfer {m m' : Mem} {s s' : Nat} {xs : List Nat} {z : Nat}
    (h : Seg m s xs z) (hs : m' s' = m s) (hx : ∀ a ∈ xs, m' a = m a) : Seg m' s' xs z := by
  induction xs generalizing s s' with
  | nil => simpa [hs] using h
  | cons x xs ih =>
    obtain ⟨h1, h2, h3⟩ := h
    refine ⟨by rw [hs, h1], h2, ?_⟩
    exact ih h3 (hx x (by simp)) (fun a ha => hx a (by simp [ha]))

theorem Seg_congr {m m' : Mem} {s z : Nat} {xs : List Nat} (h : Seg m s xs z)
    (hx : ∀ a ∈ s :: xs, m' a = m a) : Seg m' s xs z :=
  Seg_transfer h (hx s (by simp)) fun a ha => hx a (by simp [ha])

theorem Seg_unique {m m' : Mem} {a z : Nat} {xs : List Nat} (h : Seg m a xs z) (h' : Seg m' a xs z) :
    ∀ x ∈ a :: xs, m' x = m x := by
  induction xs generalizing a with
  | nil =>
    intro x hx
    have : x = a := by simpa using hx
    subst this
    rw [show m' x = z from h', show m x = z from h]
  | cons y ys ih =>
    intro x hx
    rcases List.mem_cons.mp hx with e | hx
    · subst e; rw [h'.1, h.1]
    · exact ih h.2.2 h'.2.2 x hx

theorem Seg_append {m : Mem} {a y z : Nat} {xs ys : List Nat} :
    Seg m a (xs ++ y :: ys) z ↔ Seg m a xs y ∧ y ≠ 0 ∧ Seg m y ys z := by
  induction xs generalizing a with
  | nil => simp
  | cons x xs ih => simp [ih, and_assoc]

theorem Seg_last {m : Mem} {a z : Nat} {xs : List Nat} (h : Seg m a xs z) : m (lastOr a xs) = z := by
  induction xs generalizing a with
  | nil => simpa using h
  | cons x xs ih => exact ih h.2.2

theorem Seg_upd_last {m : Mem} {a z v : Nat} {xs : List Nat} (h : Seg m a xs z)
    (hnd : (a :: xs).Nodup) : Seg (upd m (lastOr a xs) v) a xs v := by
  induction xs generalizing a with
  | nil => simp
  | cons x xs ih =>
    obtain ⟨h1, h2, h3⟩ := h
    have hnd' : (x :: xs).Nodup := (List.nodup_cons.mp hnd).2
    have hne : a ≠ lastOr x xs := by
      intro e
      have := lastOr_mem x xs
      rw [← e] at this
      exact (List.nodup_cons.mp hnd).1 this
    refine ⟨?_, h2, ih h3 hnd'⟩
    simp only [lastOr_cons]
    rw [upd_other _ _ _ _ hne, h1]

theorem Seg_relast {m m' : Mem} {a z v : Nat} {xs : List Nat} (h : Seg m a xs z) (hnd : (a :: xs).Nodup)
    (hl : m' (lastOr a xs) = v) (ho : ∀ x ∈ a :: xs, x ≠ lastOr a xs → m' x = m x) : Seg m' a xs v := by
  refine Seg_congr (Seg_upd_last (v := v) h hnd) fun x hx => ?_
  by_cases e : x = lastOr a xs
  · rw [e, hl, upd_same]
  · rw [upd_other _ _ _ _ e]; exact ho x hx e

theorem Seg_reroute {m m' : Mem} {s s' z v : Nat} {xs : List Nat} (h : Seg m s xs z) (hne : xs ≠ [])
    (hnd : xs.Nodup) (hs : m' s' = m s) (hl : m' (lastOr s xs) = v)
    (ho : ∀ x ∈ xs, x ≠ lastOr s xs → m' x = m x) : Seg m' s' xs v := by
  obtain ⟨x, ys, rfl⟩ := List.exists_cons_of_ne_nil hne
  exact ⟨hs.trans h.1, h.2.1, Seg_relast h.2.2 hnd hl ho⟩

theorem Seg_nonzero {m : Mem} {a z : Nat} {xs : List Nat} (h : Seg m a xs z) : ∀ x ∈ xs, x ≠ 0 := by
  induction xs generalizing a with
  | nil => simp
  | cons x xs ih =>
    intro y hy
    rcases List.mem_cons.mp hy with rfl | hy
    · exact h.2.1
    · exact ih h.2.2 y hy

/-- Abstraction: the list header `l` in memory `m` represents the sequence `xs`. -/
structure IsSL (m : Mem) (l : Hd) (xs : List Nat) : Prop where
  path : Seg m l.h xs 0
  nodup : (l.h :: xs).Nodup
  hnz : l.h ≠ 0
  tail : l.t = lastOr l.h xs
  count : l.count = xs.length

theorem IsSL.frame {m m' : Mem} {l : Hd} {xs : List Nat} (h : IsSL m l xs)
    (hm : ∀ a ∈ l.h :: xs, m' a = m a) : IsSL m' l xs :=
  { h with path := Seg_congr h.path hm }

theorem IsSL.nonzero {m : Mem} {l : Hd} {xs : List Nat} (h : IsSL m l xs) : ∀ x ∈ xs, x ≠ 0 :=
  Seg_nonzero h.path

theorem IsSL.tail_eq_head_iff {m : Mem} {l : Hd} {xs : List Nat} (h : IsSL m l xs) :
    l.t = l.h ↔ xs = [] := by
  rw [h.tail]; exact lastOr_eq_head_iff _ _ h.nodup

theorem IsSL.tail_link {m : Mem} {l : Hd} {xs : List Nat} (h : IsSL m l xs) : m l.t = 0 := by
  rw [h.tail]; exact Seg_last h.path

theorem IsSL.tail_mem {m : Mem} {l : Hd} {xs : List Nat} (h : IsSL m l xs) : l.t ∈ l.h :: xs := by
  rw [h.tail]; exact lastOr_mem _ _

theorem IsSL.unique {m m' : Mem} {l l' : Hd} {xs : List Nat} (h : IsSL m l xs) (h' : IsSL m' l' xs)
    (hh : l'.h = l.h) : l' = l ∧ ∀ a ∈ l.h :: xs, m' a = m a := by
  obtain ⟨h1, t1, c1⟩ := l
  obtain ⟨h2, t2, c2⟩ := l'
  cases hh
  exact ⟨by rw [show t2 = _ from h'.tail, show c2 = _ from h'.count, show t1 = _ from h.tail,
    show c1 = _ from h.count], Seg_unique h.path h'.path⟩

theorem IsSL_init (m : Mem) (h : Nat) (hnz : h ≠ 0) : IsSL (init m h).1 (init m h).2 [] :=
  { path := by simp [init], nodup := by simp [init], hnz := by simpa [init] using hnz,
    tail := by simp [init], count := by simp [init] }

theorem walk_of_Seg {m : Mem} {a : Nat} {xs : List Nat} (h : Seg m a xs 0) (fuel : Nat)
    (hf : xs.length ≤ fuel) : walk m fuel a = xs := by
  induction xs generalizing a fuel with
  | nil =>
    cases fuel with
    | zero => rfl
    | succ f => simp only [Seg_nil] at h; simp [walk, h]
  | cons x xs ih =>
    obtain ⟨h1, h2, h3⟩ := h
    cases fuel with
    | zero => simp at hf
    | succ f =>
      simp only [walk, h1, h2, if_false]
      rw [ih h3 f (by simpa using hf)]

theorem Seg_append_last {m : Mem} {a z : Nat} {xs ys : List Nat} :
    Seg m a (xs ++ ys) z ↔ Seg m a xs (m (lastOr a xs)) ∧ Seg m (lastOr a xs) ys z := by
  induction xs generalizing a with
  | nil => simp
  | cons x xs ih => simp [ih, and_assoc]

theorem nodup_split {h : Nat} {pre post : List Nat} (hnd : (h :: (pre ++ post)).Nodup) :
    (h :: pre).Nodup ∧ post.Nodup ∧ ∀ a ∈ h :: pre, a ∉ post := by
  have : ((h :: pre) ++ post).Nodup := by simpa using hnd
  rw [List.nodup_append] at this
  refine ⟨this.1, this.2.1, ?_⟩
  intro a ha hb
  exact this.2.2 a ha a hb rfl

theorem nodup_remove_mid {h n : Nat} {pre post : List Nat} (hnd : (h :: (pre ++ n :: post)).Nodup) :
    (h :: (pre ++ post)).Nodup ∧ n ∉ h :: (pre ++ post) :=
  (List.nodup_cons.mp ((List.pairwise_middle (l₁ := h :: pre) fun e => Ne.symm e).mp hnd)).symm

theorem mem_cons_snoc {z h x : Nat} {out : List Nat} : z ∈ h :: (out ++ [x]) ↔ z ∈ h :: out ∨ z = x := by
  simp [or_assoc]

theorem mem_cons_append_left {z h : Nat} {A B : List Nat} (hz : z ∈ h :: A) : z ∈ h :: (A ++ B) :=
  List.mem_append_left (as := _ :: _) _ hz

theorem mem_cons_append_right {z h : Nat} {A B : List Nat} (hz : z ∈ h :: B) : z ∈ h :: (A ++ B) :=
  ((List.sublist_append_right A B).cons_cons h).subset hz

theorem mem_cons_skip {z h x : Nat} {as : List Nat} (hz : z ∈ h :: as) : z ∈ h :: x :: as :=
  ((List.sublist_cons_self x as).cons_cons h).subset hz

theorem nodup_parts {h i j : Nat} {A M B : List Nat} (hnd : (h :: (A ++ i :: (M ++ j :: B))).Nodup) :
    i ≠ j ∧ (h :: A).Nodup ∧ (i :: M).Nodup
    ∧ (∀ x ∈ h :: A, x ≠ i ∧ x ≠ j ∧ x ∉ M)
    ∧ (∀ x ∈ M, x ≠ i ∧ x ≠ j)
    ∧ (∀ x ∈ B, x ≠ i ∧ x ≠ j ∧ x ∉ M ∧ x ∉ h :: A) := by
  have h1 : ((h :: A) ++ i :: (M ++ j :: B)).Nodup := hnd
  obtain ⟨nA, n2, dA⟩ := List.nodup_append.mp h1
  obtain ⟨hi, n3⟩ := List.nodup_cons.mp n2
  obtain ⟨nM, n4, dM⟩ := List.nodup_append.mp n3
  have hj := (List.nodup_cons.mp n4).1
  exact ⟨fun e => hi (by simp [e]), nA, List.nodup_cons.mpr ⟨fun hm => hi (by simp [hm]), nM⟩,
    fun x hx => ⟨dA x hx i (by simp), dA x hx j (by simp), fun hm => dA x hx x (by simp [hm]) rfl⟩,
    fun x hx => ⟨fun e => hi (by simp [← e, hx]), dM x hx j (by simp)⟩,
    fun x hx => ⟨fun e => hi (by simp [← e, hx]), fun e => hj (e ▸ hx), fun hm => dM x hm x (by simp [hx]) rfl,
      fun hm => dA x hm x (by simp [hx]) rfl⟩⟩

theorem Seg_insert {f : Mem} {h n z : Nat} {pre post : List Nat}
    (hs : Seg f h (pre ++ post) z) (hnd : (h :: (pre ++ post)).Nodup)
    (hn : n ∉ h :: (pre ++ post)) (hnz : n ≠ 0) :
    Seg (upd (upd f n (f (lastOr h pre))) (lastOr h pre) n) h (pre ++ n :: post) z := by
  obtain ⟨hnd1, _, hdisj⟩ := nodup_split hnd
  have hi_mem : lastOr h pre ∈ h :: pre := lastOr_mem _ _
  have hnn1 : n ∉ h :: pre := fun hc => hn (by
    rcases List.mem_cons.mp hc with rfl | hc
    · simp
    · simp [hc])
  have hnn2 : n ∉ post := fun hc => hn (by simp [hc])
  have hine : lastOr h pre ≠ n := fun e => hnn1 (e ▸ hi_mem)
  rw [Seg_append_last] at hs
  obtain ⟨hp1, hp2⟩ := hs
  rw [Seg_append_last]
  constructor
  · have s1 : Seg (upd f n (f (lastOr h pre))) h pre (f (lastOr h pre)) := by
      refine Seg_transfer hp1 ?_ ?_
      · exact upd_other _ _ _ _ (fun e => hnn1 (by simp [e]))
      · intro a ha; exact upd_other _ _ _ _ (fun e => hnn1 (by simp [← e, ha]))
    have s2 := Seg_upd_last (v := n) s1 hnd1
    simpa using s2
  · refine ⟨by simp, hnz, ?_⟩
    refine Seg_transfer hp2 ?_ ?_
    · rw [upd_other _ _ _ _ (Ne.symm hine)]; simp
    · intro a ha
      have h1 : a ≠ lastOr h pre := fun e => hdisj _ hi_mem (e ▸ ha)
      have h2 : a ≠ n := fun e => hnn2 (e ▸ ha)
      rw [upd_other _ _ _ _ h1, upd_other _ _ _ _ h2]

theorem Seg_erase {f : Mem} {h n z : Nat} {pre post : List Nat}
    (hs : Seg f h (pre ++ n :: post) z) (hnd : (h :: (pre ++ n :: post)).Nodup) :
    Seg (upd f (lastOr h pre) (f n)) h (pre ++ post) z := by
  obtain ⟨hnd', hn_notin⟩ := nodup_remove_mid hnd
  obtain ⟨hnd1, _, hdisj⟩ := nodup_split hnd'
  have he_mem : lastOr h pre ∈ h :: pre := lastOr_mem _ _
  rw [Seg_append_last] at hs
  obtain ⟨hp1, hme, hnz, hp3⟩ := hs
  rw [Seg_append_last]
  constructor
  · have := Seg_upd_last (v := f n) hp1 hnd1
    simpa using this
  · refine Seg_transfer hp3 (by simp) ?_
    intro a ha
    exact upd_other _ _ _ _ (fun e2 => hdisj _ he_mem (e2 ▸ ha))

theorem Seg_iff_Chain {m : Mem} {p : Nat} {ys : List Nat} : Seg m p ys 0 ↔ Chain m (m p) ys := by
  induction ys generalizing p with
  | nil => simp
  | cons y ys ih => simp [ih]

/-- the nodes of a NULL-terminated list are different without saying so: `Chain.nodup` -/
theorem IsSL.of_path {m : Mem} {l : Hd} {xs : List Nat} (hp : Seg m l.h xs 0) (hnz : l.h ≠ 0)
    (ht : l.t = lastOr l.h xs) (hc : l.count = xs.length) : IsSL m l xs :=
  ⟨hp, Chain.nodup (a := l.h) ⟨rfl, hnz, Seg_iff_Chain.mp hp⟩, hnz, ht, hc⟩

/-- `merge` is core's `List.merge` with the comparison `key a ≤ key b` -/
theorem merge_eq (key : Nat → Int) (xs ys : List Nat) :
    merge key xs ys = List.merge xs ys fun a b => decide (key a ≤ key b) := by
  fun_induction merge key xs ys <;> simp_all

theorem merge_perm (key : Nat → Int) (xs ys : List Nat) : (merge key xs ys).Perm (xs ++ ys) :=
  merge_eq key xs ys ▸ List.merge_perm_append _

def SortedBy (key : Nat → Int) (xs : List Nat) : Prop := xs.Pairwise (fun a b => key a ≤ key b)

theorem merge_sorted (key : Nat → Int) (xs ys : List Nat) (hx : SortedBy key xs) (hy : SortedBy key ys) :
    SortedBy key (merge key xs ys) := by
  have := List.pairwise_merge (le := fun a b => decide (key a ≤ key b))
    (fun a b c => by simpa using Int.le_trans) (fun a b => by simpa using Int.le_total _ _) xs ys
    (by simpa [SortedBy] using hx) (by simpa [SortedBy] using hy)
  simpa [SortedBy, merge_eq] using this

theorem msort_perm (key : Nat → Int) (fuel : Nat) (xs : List Nat) : (msort key fuel xs).Perm xs := by
  induction fuel generalizing xs with
  | zero => simp [msort]
  | succ f ih =>
    simp only [msort]
    split
    · refine (merge_perm key _ _).trans ?_
      refine ((ih _).append (ih _)).trans ?_
      rw [List.take_append_drop]
    · exact List.Perm.refl _

theorem msort_sorted (key : Nat → Int) (fuel : Nat) (xs : List Nat) (hf : xs.length ≤ fuel) :
    SortedBy key (msort key fuel xs) := by
  induction fuel generalizing xs with
  | zero =>
    have : xs = [] := List.length_eq_zero_iff.mp (by omega)
    subst this; simp [msort, SortedBy]
  | succ f ih =>
    simp only [msort]
    split
    · refine merge_sorted key _ _ (ih _ ?_) (ih _ ?_)
      · simp; omega
      · simp; omega
    · rename_i hlen
      match xs, hlen with
      | [], _ => simp [SortedBy]
      | [_], _ => simp [SortedBy]
      | _ :: _ :: _, h => simp at h

theorem msort_fuel (key : Nat → Int) : ∀ (f1 f2 : Nat) (xs : List Nat), xs.length ≤ f1 → xs.length ≤ f2 →
    msort key f1 xs = msort key f2 xs := by
  intro f1
  induction f1 with
  | zero =>
    intro f2 xs h1 _
    have : xs = [] := List.length_eq_zero_iff.mp (by omega)
    subst this
    cases f2 <;> simp [msort]
  | succ f ih =>
    intro f2 xs h1 h2
    cases f2 with
    | zero =>
      have : xs = [] := List.length_eq_zero_iff.mp (by omega)
      subst this
      simp [msort]
    | succ g =>
      simp only [msort]
      split
      · rw [ih g (xs.take (xs.length / 2)) (by simp; omega) (by simp; omega),
            ih g (xs.drop (xs.length / 2)) (by simp; omega) (by simp; omega)]
      · rfl

theorem msort_short (key : Nat → Int) (xs : List Nat) (h : xs.length ≤ 1) : msort key xs.length xs = xs := by
  match xs, h with
  | [], _ => simp [msort]
  | [_], _ => simp [msort]

theorem msort_split (key : Nat → Int) (pre post : List Nat)
    (hk : pre.length = (pre ++ post).length / 2) (hn : (pre ++ post).length > 1) :
    msort key (pre ++ post).length (pre ++ post)
      = merge key (msort key pre.length pre) (msort key post.length post) := by
  obtain ⟨n, hn'⟩ : ∃ n, (pre ++ post).length = n + 1 := ⟨(pre ++ post).length - 1, by omega⟩
  have hl : (pre ++ post).length = pre.length + post.length := by simp
  rw [hn']
  simp only [msort, hn, if_true]
  rw [← hk, List.take_left' rfl, List.drop_left' rfl]
  rw [msort_fuel key n pre.length pre (by omega) (Nat.le_refl _),
      msort_fuel key n post.length post (by omega) (Nat.le_refl _)]

/-- the guard `count > 1` of the sort functions changes nothing -/
theorem msort_guard (key : Nat → Int) (xs : List Nat) {n : Nat} (hn : n = xs.length) :
    (if n > 1 then msort key xs.length xs else xs) = msort key xs.length xs := by
  split
  · rfl
  · exact (msort_short key xs (by omega)).symm

theorem relink_spec (m : Mem) (a : Nat) (ys : List Nat) (hnd : (a :: ys).Nodup) (hnz : ∀ y ∈ ys, y ≠ 0) :
    Seg (relink m a ys) a ys 0 ∧ ∀ x, x ∉ a :: ys → relink m a ys x = m x := by
  induction ys generalizing m a with
  | nil => exact ⟨by simp [relink], fun x hx => upd_other _ _ _ _ (by simpa using hx)⟩
  | cons y ys ih =>
    have hnd' := (List.nodup_cons.mp hnd).2
    have hay : a ∉ y :: ys := (List.nodup_cons.mp hnd).1
    obtain ⟨i1, i2⟩ := ih (upd m a y) y hnd' (fun z hz => hnz z (by simp [hz]))
    refine ⟨⟨?_, hnz y (by simp), i1⟩, ?_⟩
    · show relink (upd m a y) y ys a = y
      rw [i2 a hay]; simp
    · intro x hx
      show relink (upd m a y) y ys x = m x
      rw [i2 x (fun hm => hx (by simp [hm]))]
      exact upd_other _ _ _ _ (fun e => hx (by simp [e]))

/-! The node sets `ha i :: q i` of the lists of a reference state are pairwise
disjoint (the `dis` field of `Abs`).  `dis_update1` and `dis_update2` re-establish
this after one or two of the sequences have changed; they speak of sequences
only and serve dlist as well. -/

theorem dis_update1 {n : Nat} {ha : Nat → Nat} {q q' : Nat → List Nat}
    (D : ∀ i j, i < n → j < n → i ≠ j → ∀ x ∈ ha i :: q i, x ∉ ha j :: q j) {l : Nat}
    (hq : ∀ i, i ≠ l → q' i = q i)
    (hdis : ∀ j, j < n → j ≠ l → ∀ x ∈ q' l, x ∉ ha j :: q j) :
    ∀ i j, i < n → j < n → i ≠ j → ∀ x ∈ ha i :: q' i, x ∉ ha j :: q' j := by
  intro i j hi hj hij x hx hm
  by_cases ei : i = l
  · subst ei
    rw [hq j (Ne.symm hij)] at hm
    rcases List.mem_cons.mp hx with rfl | hx
    · exact D i j hi hj hij _ (by simp) hm
    · exact hdis j hj (Ne.symm hij) x hx hm
  · rw [hq i ei] at hx
    by_cases ej : j = l
    · subst ej
      rcases List.mem_cons.mp hm with rfl | hm
      · exact D i j hi hj hij _ hx (by simp)
      · exact hdis i hi ei x hm hx
    · rw [hq j ej] at hm
      exact D i j hi hj hij x hx hm

theorem dis_update2 {n : Nat} {ha : Nat → Nat} {q q' : Nat → List Nat}
    (D : ∀ i j, i < n → j < n → i ≠ j → ∀ x ∈ ha i :: q i, x ∉ ha j :: q j)
    (hself : ∀ i, i < n → ha i ∉ q i) {a b : Nat} (hla : a < n) (hlb : b < n) (hab : a ≠ b)
    (hq : ∀ i, i ≠ a → i ≠ b → q' i = q i)
    (hsub : ∀ x, x ∈ q' a ++ q' b → x ∈ q a ++ q b) (hxy : ∀ x ∈ q' a, x ∉ q' b) :
    ∀ i j, i < n → j < n → i ≠ j → ∀ x ∈ ha i :: q' i, x ∉ ha j :: q' j := by
  -- every node of a new list `k` was a node of an old list `k'`, and `k' = k` unless both are `a` or `b`
  have home : ∀ k x, k < n → x ∈ ha k :: q' k →
      ∃ k', k' < n ∧ x ∈ ha k' :: q k' ∧ (k' = k ∨ ((k = a ∨ k = b) ∧ (k' = a ∨ k' = b))) := by
    intro k x hk hx
    by_cases hkab : k = a ∨ k = b
    · rcases List.mem_cons.mp hx with e | hx
      · exact ⟨k, hk, by simp [e], Or.inl rfl⟩
      · have : x ∈ q' a ++ q' b := by rcases hkab with e | e <;> simp [← e, hx]
        rcases List.mem_append.mp (hsub x this) with h | h
        · exact ⟨a, hla, by simp [h], Or.inr ⟨hkab, Or.inl rfl⟩⟩
        · exact ⟨b, hlb, by simp [h], Or.inr ⟨hkab, Or.inr rfl⟩⟩
    · rw [hq k (fun e => hkab (Or.inl e)) (fun e => hkab (Or.inr e))] at hx
      exact ⟨k, hk, hx, Or.inl rfl⟩
  -- so a node shared by two new lists forces these to be `a` and `b`
  have main : ∀ x, x ∈ ha a :: q' a → x ∉ ha b :: q' b := by
    intro x hx hm
    rcases List.mem_cons.mp hx with ex | hx' <;> rcases List.mem_cons.mp hm with em | hm'
    · exact D a b hla hlb hab x (by simp [ex]) (by simp [em])
    · rcases List.mem_append.mp (hsub x (by simp [hm'])) with h | h
      · exact hself a hla (ex ▸ h)
      · exact D a b hla hlb hab x (by simp [ex]) (by simp [h])
    · rcases List.mem_append.mp (hsub x (by simp [hx'])) with h | h
      · exact D a b hla hlb hab x (by simp [h]) (by simp [em])
      · exact hself b hlb (em ▸ h)
    · exact hxy x hx' hm'
  intro i j hi hj hij x hx hm
  obtain ⟨i', hi', xi, ci⟩ := home i x hi hx
  obtain ⟨j', hj', xj, cj⟩ := home j x hj hm
  have e : i' = j' := Classical.byContradiction fun ne => D i' j' hi' hj' ne x xi xj
  subst e
  have hab' : (i = a ∧ j = b) ∨ (i = b ∧ j = a) := by
    rcases ci with rfl | ⟨ci, ci'⟩ <;> rcases cj with rfl | ⟨cj, cj'⟩
    · exact absurd rfl hij
    all_goals omega
  rcases hab' with ⟨rfl, rfl⟩ | ⟨rfl, rfl⟩
  · exact main x hx hm
  · exact main x hm hx

end Cstl.SList
