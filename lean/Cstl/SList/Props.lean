import Cstl.SList.Lemmas
import Cstl.SList.Run
import Cstl.SList.ForeachL
/-
Property theorems for the singly-linked list (C13; the slist part of C15).
-/
namespace Cstl.SList
open Cstl.HashL (Chain)

/-- insert after position `pre` (after the head node when `pre = []`) -/
theorem insertAfter_spec {m : Mem} {l : Hd} {pre post : List Nat} {i nn : Nat}
    (h : IsSL m l (pre ++ post)) (hi : i = lastOr l.h pre)
    (hnn : nn ∉ l.h :: (pre ++ post)) (hnz : nn ≠ 0) :
    IsSL (insertAfter m l i nn).1 (insertAfter m l i nn).2 (pre ++ nn :: post)
    ∧ ∀ a, a ≠ i → a ≠ nn → (insertAfter m l i nn).1 a = m a := by
  obtain ⟨hp, hnd, hhz, ht, hc⟩ := h
  obtain ⟨_, _, hdisj⟩ := nodup_split hnd
  have hi_mem : i ∈ l.h :: pre := hi ▸ lastOr_mem _ _
  refine ⟨.of_path (hi ▸ Seg_insert hp hnd hnn hnz) hhz ?_ ?_, ?_⟩
  · show (if l.t = i then nn else l.t) = lastOr l.h (pre ++ nn :: post)
    rw [lastOr_append_cons]
    cases post with
    | nil =>
      have : l.t = i := by rw [ht, hi]; simp
      simp [this]
    | cons y ys =>
      have e : l.t = lastOr y ys := by rw [ht, lastOr_append_cons]
      have hne : l.t ≠ i := fun e2 => hdisj i hi_mem (e2 ▸ e ▸ lastOr_mem y ys)
      rw [if_neg hne, e]; rfl
  · show l.count + 1 = (pre ++ nn :: post).length
    simp [hc]; omega
  · intro a h1 h2
    show upd (upd m nn (m i)) i nn a = m a
    rw [upd_other _ _ _ _ h1, upd_other _ _ _ _ h2]

theorem eraseAfter_spec {m : Mem} {l : Hd} {pre post : List Nat} {e n : Nat}
    (h : IsSL m l (pre ++ n :: post)) (he : e = lastOr l.h pre) :
    ∃ m' l', eraseAfter m l e = some (m', l', n) ∧ l'.h = l.h ∧ IsSL m' l' (pre ++ post)
      ∧ ∀ a, a ≠ e → m' a = m a := by
  obtain ⟨hp, hnd, hhz, ht, hc⟩ := h
  obtain ⟨hnd', hn_notin⟩ := nodup_remove_mid hnd
  obtain ⟨hme, hnz, _⟩ := (Seg_append_last.mp hp).2
  rw [← he] at hme
  refine ⟨upd m e (m n), { l with t := if l.t = n then e else l.t, count := l.count - 1 }, ?_, rfl,
    ⟨he ▸ Seg_erase hp hnd, hnd', hhz, ?_, ?_⟩, fun a ha => upd_other _ _ _ _ ha⟩
  · simp [eraseAfter, hme, hnz]
  · show (if l.t = n then e else l.t) = lastOr l.h (pre ++ post)
    rw [lastOr_append_cons] at ht
    cases post with
    | nil => simp [ht, he]
    | cons y ys =>
      have hne : l.t ≠ n := by
        intro e2
        apply hn_notin
        have := lastOr_mem y ys
        rw [lastOr_cons] at ht
        rw [← ht, e2] at this
        simp [this]
      rw [if_neg hne, ht, lastOr_append_cons]; rfl
  · show l.count - 1 = (pre ++ post).length
    simp at hc ⊢; omega

theorem pushFront_spec {m : Mem} {l : Hd} {xs : List Nat} {e : Nat}
    (h : IsSL m l xs) (he : e ∉ l.h :: xs) (hnz : e ≠ 0) :
    IsSL (pushFront m l e).1 (pushFront m l e).2 (e :: xs)
    ∧ ∀ a, a ≠ l.h → a ≠ e → (pushFront m l e).1 a = m a :=
  insertAfter_spec (pre := []) (post := xs) h rfl he hnz

/-- `push_back` appends after the true last element of any represented list -/
theorem pushBack_spec {m : Mem} {l : Hd} {xs : List Nat} {e : Nat}
    (h : IsSL m l xs) (he : e ∉ l.h :: xs) (hnz : e ≠ 0) :
    IsSL (pushBack m l e).1 (pushBack m l e).2 (xs ++ [e])
    ∧ ∀ a, a ≠ l.t → a ≠ e → (pushBack m l e).1 a = m a := by
  have h' : IsSL m l (xs ++ []) := by simpa using h
  have := insertAfter_spec (pre := xs) (post := []) (i := l.t) (nn := e) h' h.tail (by simpa using he) hnz
  simpa [pushBack] using this

theorem popFront_spec {m : Mem} {l : Hd} {x : Nat} {xs : List Nat} (h : IsSL m l (x :: xs)) :
    ∃ m' l', popFront m l = some (m', l', some x) ∧ l'.h = l.h ∧ IsSL m' l' xs
      ∧ ∀ a, a ≠ l.h → m' a = m a := by
  have hne : l.t ≠ l.h := fun e => by simpa using (h.tail_eq_head_iff.mp e)
  obtain ⟨m', l', h1, h2⟩ := eraseAfter_spec (pre := []) (post := xs) (e := l.h) (n := x) h rfl
  exact ⟨m', l', by simp [popFront, hne, h1], h2⟩

theorem popFront_empty {m : Mem} {l : Hd} (h : IsSL m l []) : popFront m l = some (m, l, none) := by
  have : l.t = l.h := h.tail_eq_head_iff.mpr rfl
  simp [popFront, this]

theorem front_spec {m : Mem} {l : Hd} {xs : List Nat} (h : IsSL m l xs) : front m l = xs.head? := by
  cases xs with
  | nil => simp [front, h.tail_eq_head_iff.mpr rfl]
  | cons x xs =>
    have hne : l.t ≠ l.h := fun e => by simpa using (h.tail_eq_head_iff.mp e)
    simp [front, hne, h.path.1]

theorem back_spec {m : Mem} {l : Hd} {xs : List Nat} (h : IsSL m l xs) : back m l = xs.getLast? := by
  rw [lastOr_eq_getLast? l.h xs]
  by_cases hx : xs = []
  · simp [back, h.tail_eq_head_iff.mpr hx, hx]
  · have hne : l.t ≠ l.h := fun e => hx (h.tail_eq_head_iff.mp e)
    simp [back, hne, hx]; exact h.tail

/-- loop invariant of `cstl_slist_reverse`: with the list standing as
`A ++ c :: B`, the loop moves the nodes of `B` one by one to the front. -/
theorem revLoop_spec {m : Mem} {h c : Nat} {A B : List Nat} (fuel : Nat)
    (hp : Seg m h (A ++ c :: B) 0) (hnd : (h :: (A ++ c :: B)).Nodup) (hf : B.length ≤ fuel) :
    ∃ m', revLoop fuel m h c = some m' ∧ Seg m' h (B.reverse ++ A ++ [c]) 0
      ∧ ∀ a, a ∉ h :: (A ++ c :: B) → m' a = m a := by
  induction B generalizing m A fuel with
  | nil =>
    have hc0 : m c = 0 := by
      have := Seg_last hp
      rwa [lastOr_append_cons] at this
    refine ⟨m, ?_, by simpa using hp, fun _ _ => rfl⟩
    cases fuel <;> simp [revLoop, hc0]
  | cons n B ih =>
    cases fuel with
    | zero => simp at hf
    | succ f =>
      rw [Seg_append] at hp
      obtain ⟨hA, hcz, hcn, hnz, hB⟩ := hp
      obtain ⟨hcn', hndA, _, sepA, _, sepB⟩ := nodup_parts (M := []) hnd
      have hp : (h :: ((n :: A) ++ c :: B)).Perm (h :: (A ++ c :: n :: B)) := by
        rw [show A ++ c :: n :: B = (A ++ [c]) ++ n :: B by simp]
        exact (List.perm_middle.trans (by simp)).symm.cons h
      have hnd2 : (h :: ((n :: A) ++ c :: B)).Nodup := hp.nodup_iff.mpr hnd
      have hhc : h ≠ c := (sepA h (by simp)).1
      have hhn : h ≠ n := (sepA h (by simp)).2.1
      obtain ⟨m3, hm3⟩ : ∃ m3, m3 = upd (upd (upd m c (m n)) n (upd m c (m n) h)) h n := ⟨_, rfl⟩
      have e3n : m3 n = m h := by rw [hm3, upd_other _ _ _ _ hhn.symm, upd_same, upd_other _ _ _ _ hhc]
      have e3c : m3 c = m n := by rw [hm3, upd_other _ _ _ _ hhc.symm, upd_other _ _ _ _ hcn', upd_same]
      have e3o : ∀ a, a ≠ h → a ≠ n → a ≠ c → m3 a = m a := fun a h1 h2 h3 => by
        rw [hm3, upd_other _ _ _ _ h1, upd_other _ _ _ _ h2, upd_other _ _ _ _ h3]
      have hp3 : Seg m3 h ((n :: A) ++ c :: B) 0 := by
        refine ⟨by rw [hm3, upd_same], hnz, Seg_append.mpr ⟨?_, hcz, ?_⟩⟩
        · exact Seg_transfer hA e3n fun a ha => e3o a (fun e => (List.nodup_cons.mp hndA).1 (e ▸ ha))
            (sepA a (by simp [ha])).2.1 (sepA a (by simp [ha])).1
        · exact Seg_transfer hB e3c fun a ha => e3o a (fun e => (sepB a ha).2.2.2 (by simp [e]))
            (sepB a ha).2.1 (sepB a ha).1
      obtain ⟨m', hr, hs, hfr⟩ := ih (m := m3) (A := n :: A) f hp3 hnd2 (by simpa using hf)
      refine ⟨m', ?_, by simpa [List.append_assoc] using hs, fun a ha => ?_⟩
      · have hne : m c ≠ 0 := by rw [hcn]; exact hnz
        simp only [revLoop, hne, if_false]
        rw [hcn, ← hm3]
        exact hr
      · rw [hfr a fun hc => ha (hp.mem_iff.mp hc)]
        exact e3o a (fun e => ha (by simp [e])) (fun e => ha (by simp [e])) (fun e => ha (by simp [e]))

theorem reverse_hd {m m' : Mem} {l l' : Hd} (h : reverse m l = some (m', l')) : l'.h = l.h := by
  simp only [reverse] at h
  split at h
  · split at h
    · cases h
    · cases h; rfl
  · cases h; rfl

/-- `reverse` represents the mirrored sequence; the tail is the former first. -/
theorem reverse_spec {m : Mem} {l : Hd} {xs : List Nat} (h : IsSL m l xs) :
    ∃ m' l', reverse m l = some (m', l') ∧ IsSL m' l' xs.reverse
      ∧ ∀ a, a ∉ l.h :: xs → m' a = m a := by
  by_cases hc : l.count > 1
  · cases xs with
    | nil => have := h.count; simp at this; omega
    | cons c B =>
      have hmc : m l.h = c := h.path.1
      obtain ⟨m', hr, hs, hfr⟩ := revLoop_spec (A := []) l.count (by simpa using h.path)
        (by simpa using h.nodup) (by have := h.count; simp at this; omega)
      refine ⟨m', { l with t := c }, ?_, .of_path ?_ h.hnz ?_ ?_, ?_⟩
      · simp [reverse, hc, hmc, hr]
      · simpa using hs
      · show c = lastOr l.h (c :: B).reverse
        rw [List.reverse_cons, lastOr_append_singleton]
      · simpa using h.count
      · intro a ha; exact hfr a (by simpa using ha)
  · refine ⟨m, l, by simp [reverse, hc], ?_, fun _ _ => rfl⟩
    have hl : xs.length ≤ 1 := by have := h.count; omega
    have : xs.reverse = xs := by
      match xs, hl with
      | [], _ => rfl
      | [_], _ => rfl
    rw [this]; exact h

/-- two represented lists do not share nodes -/
def Disjoint (a : Hd) (xs : List Nat) (b : Hd) (ys : List Nat) : Prop :=
  ∀ x ∈ a.h :: xs, x ∉ b.h :: ys

theorem concat_hd (m : Mem) (d s : Hd) : (concat m d s).2.1.h = d.h ∧ (concat m d s).2.2.h = s.h := by
  simp only [concat]; split <;> exact ⟨rfl, rfl⟩

/-- `concat d s`: all elements of `s`, in order, at the end of `d`; `s` empty
and usable; the tail of `d` is the true last. -/
theorem concat_spec {m : Mem} {d s : Hd} {xs ys : List Nat}
    (hd : IsSL m d xs) (hs : IsSL m s ys) (hdis : Disjoint d xs s ys) :
    IsSL (concat m d s).1 (concat m d s).2.1 (xs ++ ys) ∧ IsSL (concat m d s).1 (concat m d s).2.2 []
    ∧ ∀ a, a ≠ d.t → a ≠ s.h → (concat m d s).1 a = m a := by
  by_cases hys : ys = []
  · subst hys
    have e1 : concat m d s = (m, d, s) := by simp [concat, hs.count]
    rw [e1]
    exact ⟨by simpa using hd, hs, fun _ _ _ => rfl⟩
  · have hc : s.count > 0 := by rw [hs.count]; exact List.length_pos_iff.mpr hys
    have hdt : d.t ∈ d.h :: xs := hd.tail_mem
    have hts : d.t ≠ s.h := fun e => hdis _ hdt (by simp [e])
    have hsd : s.h ∉ d.h :: xs := fun hm => hdis _ hm (by simp)
    have e1 : concat m d s = (upd (upd m d.t (m s.h)) s.h 0,
        { d with t := s.t, count := d.count + s.count }, { h := s.h, t := s.h, count := 0 }) := by
      simp [concat, hc, init]
    rw [e1]
    refine ⟨.of_path ?_ hd.hnz ?_ ?_, ⟨by simp, by simp, hs.hnz, rfl, rfl⟩, ?_⟩
    · show Seg (upd (upd m d.t (m s.h)) s.h 0) d.h (xs ++ ys) 0
      rw [Seg_append_last, ← hd.tail]
      constructor
      · refine Seg_relast hd.path hd.nodup (hd.tail ▸ rfl) fun a ha hal => ?_
        have h1 : a ≠ s.h := fun e => hsd (e ▸ ha)
        rw [upd_other _ _ _ _ h1, upd_other _ _ _ _ (hd.tail ▸ hal)]
      · refine Seg_transfer hs.path ?_ ?_
        · rw [upd_other _ _ _ _ hts, upd_same]
        · intro a ha
          have h1 : a ≠ s.h := fun e => by
            have := hs.nodup; rw [← e] at this; exact (List.nodup_cons.mp this).1 ha
          have h2 : a ≠ d.t := fun e => hdis _ hdt (by simp [← e, ha])
          rw [upd_other _ _ _ _ h1, upd_other _ _ _ _ h2]
    · show s.t = lastOr d.h (xs ++ ys)
      rw [lastOr_append_of_ne_nil d.h s.h xs ys hys]; exact hs.tail
    · show d.count + s.count = (xs ++ ys).length
      simp [hd.count, hs.count]
    · intro a h1 h2
      show upd (upd m d.t (m s.h)) s.h 0 a = m a
      rw [upd_other _ _ _ _ h2, upd_other _ _ _ _ h1]

theorem swap_eq (m : Mem) (a b : Hd) :
    swap m a b = (upd (upd m a.h (m b.h)) b.h (m a.h),
      { h := a.h, t := if b.count = 0 then a.h else b.t, count := b.count },
      { h := b.h, t := if a.count = 0 then b.h else a.t, count := a.count }) := by
  simp only [swap]
  split <;> split <;> simp_all

theorem IsSL.rehead {m m' : Mem} {s : Hd} {ys : List Nat} {t : Nat} (hs : IsSL m s ys)
    (htz : t ≠ 0) (hn : m' t = m s.h) (ho : ∀ y ∈ ys, m' y = m y) :
    IsSL m' { h := t, t := if s.count = 0 then t else s.t, count := s.count } ys := by
  refine .of_path (Seg_transfer hs.path hn ho) htz ?_ hs.count
  show (if s.count = 0 then t else s.t) = lastOr t ys
  cases ys with
  | nil => simp [hs.count]
  | cons y ys' => rw [if_neg (by rw [hs.count]; simp), hs.tail]; rfl

/-- `swap` exchanges the two sequences; an empty result is re-anchored on its
own head, so `push_back` keeps working after a swap with an empty list. -/
theorem swap_spec {m : Mem} {a b : Hd} {xs ys : List Nat}
    (ha : IsSL m a xs) (hb : IsSL m b ys) (hdis : Disjoint a xs b ys) :
    IsSL (swap m a b).1 (swap m a b).2.1 ys ∧ IsSL (swap m a b).1 (swap m a b).2.2 xs
    ∧ ∀ x, x ≠ a.h → x ≠ b.h → (swap m a b).1 x = m x := by
  have hab : a.h ≠ b.h := fun e => hdis a.h (by simp) (by simp [e])
  have hay : ∀ y ∈ ys, y ≠ a.h ∧ y ≠ b.h := fun y hy =>
    ⟨fun e => hdis a.h (by simp) (by simp [← e, hy]), fun e => (List.nodup_cons.mp hb.nodup).1 (e ▸ hy)⟩
  have hbx : ∀ x ∈ xs, x ≠ a.h ∧ x ≠ b.h := fun x hx =>
    ⟨fun e => (List.nodup_cons.mp ha.nodup).1 (e ▸ hx), fun e => hdis x (by simp [hx]) (by simp [e])⟩
  have m1o : ∀ x, x ≠ a.h → x ≠ b.h → upd (upd m a.h (m b.h)) b.h (m a.h) x = m x := fun x h1 h2 =>
    (upd_other _ _ _ _ h2).trans (upd_other _ _ _ _ h1)
  rw [swap_eq]
  exact ⟨hb.rehead ha.hnz ((upd_other _ _ _ _ hab).trans (upd_same _ _ _))
      fun y hy => m1o y (hay y hy).1 (hay y hy).2,
    ha.rehead hb.hnz (upd_same _ _ _) fun x hx => m1o x (hbx x hx).1 (hbx x hx).2,
    m1o⟩

/-- `foreach` presents the reference sequence in order and stops at, and
returns, the first non-zero visit result -/
theorem foreach_spec {m : Mem} {l : Hd} {xs : List Nat} (h : IsSL m l xs) (visit : Nat → Nat → Int) :
    foreach m l visit = refForeach visit xs 0 := by
  have e : foreachP m l (fun _ => 0) (fun k c => (visit k c, false)) = (m, foreach m l visit) :=
    foreachLoopP_pure _ visit _ m _ 0 []
  have := (foreachP_spec h (fun _ => 0) (fun k c => (visit k c, false))).1
  rwa [e] at this

/-- what `refForeach` means: the visited elements are a prefix of the sequence;
result 0 iff every visit returned 0 (then everything was visited); otherwise
the result is the first non-zero visit result and the traversal stopped there -/
theorem refForeach_sound (visit : Nat → Nat → Int) (xs : List Nat) (k : Nat) :
    let r := refForeach visit xs k
    r.1 = xs.take r.1.length
    ∧ (∀ i, i + 1 < r.1.length → visit (k + i) (xs.getD i 0) = 0)
    ∧ (r.2 = 0 → r.1 = xs ∧ ∀ i, i < xs.length → visit (k + i) (xs.getD i 0) = 0)
    ∧ (r.2 ≠ 0 → r.1 ≠ [] ∧ r.2 = visit (k + (r.1.length - 1)) (xs.getD (r.1.length - 1) 0)) := by
  induction xs generalizing k with
  | nil => simp [refForeach]
  | cons x xs ih =>
    by_cases hv : visit k x = 0
    · have := ih (k + 1)
      simp only [refForeach, hv, ne_eq, not_true_eq_false, if_false]
      obtain ⟨i1, i2, i3, i4⟩ := this
      refine ⟨by simpa using i1, ?_, ?_, ?_⟩
      · intro i hi
        cases i with
        | zero => simpa using hv
        | succ j =>
          have := i2 j (by simpa using hi)
          simpa [Nat.add_assoc, Nat.add_comm 1 j] using this
      · intro hr
        obtain ⟨e1, e2⟩ := i3 hr
        refine ⟨by rw [e1], ?_⟩
        intro i hi
        cases i with
        | zero => simpa using hv
        | succ j =>
          have := e2 j (by simpa using hi)
          simpa [Nat.add_assoc, Nat.add_comm 1 j] using this
      · intro hr
        obtain ⟨e1, e2⟩ := i4 hr
        refine ⟨by simp, ?_⟩
        have hl : (refForeach visit xs (k + 1)).1.length ≥ 1 := by
          cases h : (refForeach visit xs (k + 1)).1 with
          | nil => exact absurd h e1
          | cons _ _ => simp
        rw [e2]
        simp only [List.length_cons, Nat.add_sub_cancel]
        have : (refForeach visit xs (k + 1)).1.length = ((refForeach visit xs (k + 1)).1.length - 1) + 1 := by omega
        conv => rhs; rw [this]
        simp [Nat.add_assoc, Nat.add_comm 1]
    · simp [refForeach, hv]

theorem clearLoop_spec (poison : Nat → Nat) {m : Mem} {c : Nat} {ys : List Nat} (fuel : Nat) (acc : List Nat)
    (h : Chain m c ys) (hf : ys.length < fuel) :
    (clearLoop poison fuel m c acc).2 = acc.reverse ++ ys
    ∧ (∀ e ∈ ys, (clearLoop poison fuel m c acc).1 e = poison e)
    ∧ (∀ a, a ∉ ys → (clearLoop poison fuel m c acc).1 a = m a) := by
  induction ys generalizing m c fuel acc with
  | nil =>
    have : c = 0 := h
    subst this
    cases fuel <;> simp [clearLoop]
  | cons y ys ih =>
    have hy : y ∉ ys := (List.nodup_cons.mp h.nodup).1
    obtain ⟨h1, h2, h3⟩ := h
    subst h1
    cases fuel with
    | zero => simp at hf
    | succ f =>
      have h3' : Chain (upd m c (poison c)) (m c) ys :=
        h3.transfer (fun a ha => upd_other _ _ _ _ (fun e => hy (e ▸ ha)))
      obtain ⟨i1, i2, i3⟩ := ih (m := upd m c (poison c)) f (c :: acc) h3' (by simpa using hf)
      simp only [clearLoop, h2, if_false]
      refine ⟨by simp [i1], ?_, ?_⟩
      · intro e he
        rcases List.mem_cons.mp he with rfl | he
        · rw [i3 _ hy]; simp
        · exact i2 e he
      · intro a ha
        have : a ∉ ys := fun hm => ha (by simp [hm])
        rw [i3 a this]
        exact upd_other _ _ _ _ (fun e => ha (by simp [e]))

/-- `clear`: every element of the list is handed to the callback exactly once,
in list order, whatever the callback does to the element (`poison` is
arbitrary); nothing is written to an element after its callback; the list ends
empty and initialised. -/
theorem clear_spec {m : Mem} {l : Hd} {xs : List Nat} (h : IsSL m l xs) (poison : Nat → Nat) :
    (clear m l poison).2.2 = xs
    ∧ IsSL (clear m l poison).1 (clear m l poison).2.1 []
    ∧ (clear m l poison).2.1 = { h := l.h, t := l.h, count := 0 }
    ∧ (∀ e ∈ xs, (clear m l poison).1 e = poison e)
    ∧ (∀ a, a ∉ l.h :: xs → (clear m l poison).1 a = m a) := by
  obtain ⟨i1, i2, i3⟩ := clearLoop_spec poison (l.count + 1) [] (Seg_iff_Chain.mp h.path) (by rw [h.count]; omega)
  have hh : l.h ∉ xs := (List.nodup_cons.mp h.nodup).1
  refine ⟨by simpa [clear] using i1, ?_, rfl, ?_, ?_⟩
  · exact ⟨by simp [clear, init], by simp [clear, init], h.hnz, rfl, rfl⟩
  · intro e he
    show upd _ l.h 0 e = poison e
    have hne : e ≠ l.h := fun e2 => hh (e2 ▸ he)
    rw [upd_other _ _ _ _ hne]
    exact i2 e he
  · intro a ha
    show upd _ l.h 0 a = m a
    rw [upd_other _ _ _ _ (fun e2 => ha (by simp [e2]))]
    exact i3 a (fun hm => ha (by simp [hm]))

theorem sort_hd (m : Mem) (l : Hd) (key : Nat → Int) : (sort m l key).2.h = l.h := by
  simp only [sort]; split <;> rfl

/-- `sort` leaves an ordered permutation of the same nodes, correctly linked,
with the tail at the true last. -/
theorem sort_spec {m : Mem} {l : Hd} {xs : List Nat} (h : IsSL m l xs) (key : Nat → Int) :
    let ys := if l.count > 1 then msort key xs.length xs else xs
    IsSL (sort m l key).1 (sort m l key).2 ys ∧ ys.Perm xs ∧ SortedBy key ys
    ∧ ∀ a, a ∉ l.h :: xs → (sort m l key).1 a = m a := by
  intro ys
  have hys : ys = msort key xs.length xs := msort_guard key xs h.count
  have hperm : ys.Perm xs := hys ▸ msort_perm key _ xs
  have hsorted : SortedBy key ys := hys ▸ msort_sorted key _ xs (Nat.le_refl _)
  by_cases hc : l.count > 1
  · have hw : walk m l.count l.h = xs := walk_of_Seg h.path _ (by rw [h.count]; omega)
    have hnd : (l.h :: ys).Nodup := (hperm.cons l.h).nodup_iff.mpr h.nodup
    have hnz : ∀ y ∈ ys, y ≠ 0 := fun y hy => h.nonzero y (hperm.mem_iff.mp hy)
    obtain ⟨r1, r2⟩ := relink_spec m l.h ys hnd hnz
    have e : sort m l key = (relink m l.h ys, { l with t := lastOr l.h ys }) := by
      simp [sort, hc, hw, hys]
    rw [e]
    refine ⟨⟨r1, hnd, h.hnz, rfl, ?_⟩, hperm, hsorted, ?_⟩
    · show l.count = ys.length
      rw [h.count, hperm.length_eq]
    · intro a ha
      exact r2 a (fun hm => ha (by
        rcases List.mem_cons.mp hm with h1 | h1
        · simp [h1]
        · exact List.mem_cons_of_mem _ (hperm.mem_iff.mp h1)))
  · have hx : ys = xs := by simp [ys, hc]
    have e : sort m l key = (m, l) := by simp [sort, hc]
    rw [e]
    exact ⟨hx ▸ h, hperm, hsorted, fun _ _ => rfl⟩

/-- the state dump of the driver (walking the links) reads back exactly the
represented sequence -/
theorem walk_spec {m : Mem} {l : Hd} {xs : List Nat} (h : IsSL m l xs) (fuel : Nat)
    (hf : xs.length ≤ fuel) : walk m fuel l.h = xs := walk_of_Seg h.path fuel hf

/-! Non-vacuity: a concrete three-element list satisfies `IsSL`, so the
hypotheses of the theorems above are satisfiable. -/
example :
    let s0 := init (fun _ => 0) 1
    let s1 := pushBack s0.1 s0.2 10
    let s2 := pushBack s1.1 s1.2 11
    let s3 := pushFront s2.1 s2.2 12
    IsSL s3.1 s3.2 [12, 10, 11] := by
  intro s0 s1 s2 s3
  have h0 : IsSL s0.1 s0.2 [] := IsSL_init _ 1 (by decide)
  have h1 : IsSL s1.1 s1.2 [10] := (pushBack_spec h0 (by simp [s0, init]) (by decide)).1
  have h2 : IsSL s2.1 s2.2 [10, 11] := (pushBack_spec h1 (by simp [s1, s0, init, pushBack, insertAfter]) (by decide)).1
  exact (pushFront_spec h2 (by simp [s2, s1, s0, init, pushBack, insertAfter]) (by decide)).1


/-- the link-level state `s` represents the reference state `q` (lists
`0 … n-1`, head nodes at `ha i`), and no node is shared between lists -/
structure Abs (n : Nat) (ha : Nat → Nat) (s : St) (q : Nat → List Nat) : Prop where
  sl : ∀ i, i < n → IsSL s.m (s.hd i) (q i)
  hh : ∀ i, i < n → (s.hd i).h = ha i
  dis : ∀ i j, i < n → j < n → i ≠ j → ∀ x ∈ ha i :: q i, x ∉ ha j :: q j

theorem insAfterL_spec (b e : Nat) (pre post : List Nat) (hb : b ∉ pre) :
    insAfterL b e (pre ++ b :: post) = pre ++ b :: e :: post := by
  induction pre with
  | nil => simp [insAfterL]
  | cons x pre ih =>
    have hx : x ≠ b := fun e => hb (by simp [e])
    simp [insAfterL, hx, ih (fun h => hb (by simp [h]))]

theorem mem_insAfterL {b e x : Nat} {xs : List Nat} (hb : b ∈ xs) (h : x ∈ insAfterL b e xs) : x ∈ xs ∨ x = e := by
  obtain ⟨pre, post, rfl, hbpre⟩ := List.eq_append_cons_of_mem hb
  rw [insAfterL_spec b e pre post hbpre] at h
  simpa [or_comm, or_left_comm, or_assoc] using h

theorem eraAfterL_spec (b x : Nat) (pre post : List Nat) (hb : b ∉ pre) :
    eraAfterL b (pre ++ b :: x :: post) = some (x, pre ++ b :: post) := by
  induction pre with
  | nil => simp [eraAfterL]
  | cons y pre ih =>
    have hy : y ≠ b := fun e => hb (by simp [e])
    have := ih (fun h => hb (by simp [h]))
    cases pre with
    | nil => simp [eraAfterL, hy]
    | cons z pre => simp [eraAfterL, hy] at this ⊢; simp [this]

theorem insertAfter_of_mem {m : Mem} {l : Hd} {xs : List Nat} {b e : Nat} (h : IsSL m l xs) (hb : b ∈ xs)
    (he : e ∉ l.h :: xs) (hez : e ≠ 0) :
    IsSL (insertAfter m l b e).1 (insertAfter m l b e).2 (insAfterL b e xs)
    ∧ ∀ a, a ∉ l.h :: xs → a ≠ e → (insertAfter m l b e).1 a = m a := by
  obtain ⟨pre, post, rfl, hbpre⟩ := List.eq_append_cons_of_mem hb
  rw [insAfterL_spec b e pre post hbpre]
  obtain ⟨h1, h2⟩ := insertAfter_spec (pre := pre ++ [b]) (post := post) (i := b) (by simpa using h)
    (by rw [lastOr_append_singleton]) (by simpa using he) hez
  exact ⟨by simpa using h1, fun a hn => h2 a fun e2 => hn (by rw [e2]; exact List.mem_cons_of_mem _ hb)⟩

/-- `hnew` is what `Enabled` says of a new node -/
theorem Abs.update1 {n : Nat} {ha : Nat → Nat} {s : St} {q : Nat → List Nat} (A : Abs n ha s q)
    {l : Nat} (hl : l < n) {new : Nat → Prop} (hnew : ∀ e, new e → ∀ j, j < n → e ≠ ha j ∧ e ∉ q j)
    {m' : Mem} {h' : Hd} {xs' : List Nat} (hsl : IsSL m' h' xs') (hh : h'.h = (s.hd l).h)
    (hfr : ∀ a, a ∉ (s.hd l).h :: q l → ¬ new a → m' a = s.m a)
    (hsub : ∀ x ∈ xs', x ∈ q l ∨ new x) :
    Abs n ha { m := m', hd := setHd s.hd l h' } (setSeq q l xs') := by
  have hnew' : ∀ x, new x → ∀ j, j < n → x ∉ ha j :: q j := fun x hx j hj hm =>
    (List.mem_cons.mp hm).elim (hnew x hx j hj).1 (hnew x hx j hj).2
  refine ⟨?_, ?_, dis_update1 (l := l) A.dis (fun i e => by simp [setSeq, e]) ?_⟩
  · intro i hi
    by_cases e : i = l
    · subst e; simpa [setHd, setSeq] using hsl
    · simp only [setHd, setSeq, e, if_false]
      refine (A.sl i hi).frame fun a ha' => hfr a (fun hm => ?_) fun hf => hnew' a hf i hi (A.hh i hi ▸ ha')
      exact A.dis i l hi hl e a (A.hh i hi ▸ ha') (A.hh l hl ▸ hm)
  · intro i hi
    by_cases e : i = l
    · subst e; simpa [setHd] using hh.trans (A.hh i hi)
    · simpa [setHd, e] using A.hh i hi
  · intro j hj hjl x hx hm
    rw [setSeq, if_pos rfl] at hx
    rcases hsub x hx with h | h
    · exact A.dis l j hl hj (Ne.symm hjl) x (List.mem_cons_of_mem _ h) hm
    · exact hnew' x h j hj hm

theorem Abs.keep1 {n : Nat} {ha : Nat → Nat} {s : St} {q : Nat → List Nat} (A : Abs n ha s q)
    {l : Nat} (hl : l < n) {m' : Mem} {h' : Hd} {xs' : List Nat} (hsl : IsSL m' h' xs') (hh : h'.h = (s.hd l).h)
    (hfr : ∀ a, a ∉ (s.hd l).h :: q l → m' a = s.m a) (hsub : ∀ x ∈ xs', x ∈ q l) :
    Abs n ha { m := m', hd := setHd s.hd l h' } (setSeq q l xs') :=
  A.update1 hl (new := fun _ => False) (fun _ h => h.elim) hsl hh (fun a hn _ => hfr a hn) fun x hx => Or.inl (hsub x hx)

theorem Abs.notin {n : Nat} {ha : Nat → Nat} {s : St} {q : Nat → List Nat} (A : Abs n ha s q) {l e : Nat}
    (hl : l < n) (hnew : ∀ j, j < n → e ≠ ha j ∧ e ∉ q j) : e ∉ (s.hd l).h :: q l :=
  fun hm => (List.mem_cons.mp (A.hh l hl ▸ hm)).elim (hnew l hl).1 (hnew l hl).2

theorem Abs.disjoint {n : Nat} {ha : Nat → Nat} {s : St} {q : Nat → List Nat} (A : Abs n ha s q)
    {a b : Nat} (hla : a < n) (hlb : b < n) (hab : a ≠ b) : Disjoint (s.hd a) (q a) (s.hd b) (q b) := by
  intro x hx
  rw [A.hh a hla] at hx; rw [A.hh b hlb]
  exact A.dis a b hla hlb hab x hx

theorem Abs.update2 {n : Nat} {ha : Nat → Nat} {s : St} {q : Nat → List Nat} (A : Abs n ha s q)
    {a b : Nat} (hla : a < n) (hlb : b < n) (hab : a ≠ b) {m' : Mem} {ha' hb' : Hd} {xs' ys' : List Nat}
    (hsa : IsSL m' ha' xs') (hsb : IsSL m' hb' ys') (hha : ha'.h = (s.hd a).h) (hhb : hb'.h = (s.hd b).h)
    (hfr : ∀ x, x ∉ (s.hd a).h :: q a → x ∉ (s.hd b).h :: q b → m' x = s.m x)
    (hsub : ∀ x, x ∈ xs' ++ ys' → x ∈ q a ++ q b)
    (hxy : ∀ x ∈ xs', x ∉ ys') :
    Abs n ha { m := m', hd := setHd (setHd s.hd a ha') b hb' } (setSeq (setSeq q a xs') b ys') := by
  have hself : ∀ i, i < n → ha i ∉ q i := fun i hi =>
    (List.nodup_cons.mp (A.hh i hi ▸ (A.sl i hi).nodup)).1
  refine ⟨?_, ?_, dis_update2 A.dis hself hla hlb hab (fun i ea eb => by simp [setSeq, ea, eb])
    (by simpa [setSeq, hab] using hsub) (by simpa [setSeq, hab] using hxy)⟩
  · intro i hi
    by_cases eb : i = b
    · subst eb; simpa [setHd, setSeq] using hsb
    · by_cases ea : i = a
      · subst ea; simpa [setHd, setSeq, eb] using hsa
      · simp only [setHd, setSeq, ea, eb, if_false]
        exact (A.sl i hi).frame fun x hx => hfr x ((A.disjoint hi hla ea) x hx) ((A.disjoint hi hlb eb) x hx)
  · intro i hi
    by_cases eb : i = b
    · subst eb; simpa [setHd] using hhb.trans (A.hh i hi)
    · by_cases ea : i = a
      · subst ea; simpa [setHd, eb] using hha.trans (A.hh i hi)
      · simpa [setHd, ea, eb] using A.hh i hi

/-- every operation inside its documented domain refines the reference step -/
theorem step_refines {n : Nat} {ha : Nat → Nat} {s : St} {q : Nat → List Nat} (A : Abs n ha s q)
    (op : Op) (hen : Enabled n ha q op) :
    ∃ s', step s op = some (s', (refStep q op).2) ∧ Abs n ha s' (refStep q op).1 := by
  have same_hd : ∀ l, setHd s.hd l (s.hd l) = s.hd := fun l => by
    funext j; simp only [setHd]; split <;> simp_all
  cases op with
  | pushFront l e =>
    obtain ⟨hl, hez, hnew⟩ := hen
    obtain ⟨h1, h2⟩ := pushFront_spec (A.sl l hl) (A.notin hl hnew) hez
    exact ⟨_, rfl, A.update1 hl (new := (· = e)) (fun _ h => h ▸ hnew) h1 rfl
      (fun a hn => h2 a fun e2 => hn (by simp [e2])) (by simp [or_comm])⟩
  | pushBack l e =>
    obtain ⟨hl, hez, hnew⟩ := hen
    obtain ⟨h1, h2⟩ := pushBack_spec (A.sl l hl) (A.notin hl hnew) hez
    exact ⟨_, rfl, A.update1 hl (new := (· = e)) (fun _ h => h ▸ hnew) h1 rfl
      (fun a hn => h2 a fun e2 => hn (e2 ▸ (A.sl l hl).tail_mem)) (by simp)⟩
  | insertAfter l b e =>
    obtain ⟨hl, hb, hez, hnew⟩ := hen
    obtain ⟨h1, h2⟩ := insertAfter_of_mem (A.sl l hl) hb (A.notin hl hnew) hez
    exact ⟨_, rfl, A.update1 hl (new := (· = e)) (fun _ h => h ▸ hnew) h1 rfl h2 fun x => mem_insAfterL hb⟩
  | eraseAfter l b =>
    obtain ⟨hl, pre, x, post, hq⟩ := hen
    have hsl := hq ▸ A.sl l hl
    have hbpre : b ∉ pre := fun hm =>
      (List.nodup_append.mp (List.nodup_cons.mp hsl.nodup).2).2.2 b hm b (by simp) rfl
    obtain ⟨m', l', h0, hh, h1, h2⟩ := eraseAfter_spec (pre := pre ++ [b]) (post := post) (e := b) (n := x)
      (by simpa using hsl) (by rw [lastOr_append_singleton])
    have href : refStep q (Op.eraseAfter l b) = (setSeq q l (pre ++ b :: post), Res.ptr (some x)) := by
      simp [refStep, hq, eraAfterL_spec b x pre post hbpre]
    rw [href]
    exact ⟨_, by simp [step, h0], A.keep1 hl (by simpa using h1) hh (fun a hn => h2 a fun e2 => hn (by simp [e2, hq]))
      fun y hy => hq ▸ (((List.sublist_cons_self x post).cons_cons b).append_left pre).subset hy⟩
  | popFront l =>
    have hl : l < n := hen
    have hsl := A.sl l hl
    cases hq : q l with
    | nil =>
      rw [hq] at hsl
      have href : refStep q (Op.popFront l) = (q, Res.ptr none) := by simp [refStep, hq]
      rw [href]
      exact ⟨{ m := s.m, hd := setHd s.hd l (s.hd l) }, by simp [step, popFront_empty hsl], by rw [same_hd]; exact A⟩
    | cons x xs =>
      rw [hq] at hsl
      obtain ⟨m', l', h0, hl'h, h1, h2⟩ := popFront_spec hsl
      have href : refStep q (Op.popFront l) = (setSeq q l xs, Res.ptr (some x)) := by simp [refStep, hq]
      rw [href]
      exact ⟨_, by simp [step, h0], A.keep1 hl h1 hl'h (fun a hn => h2 a fun e2 => hn (by simp [e2]))
        fun y hy => by simp [hq, hy]⟩
  | reverse l =>
    have hl : l < n := hen
    obtain ⟨m', l', h0, h1, h2⟩ := reverse_spec (A.sl l hl)
    exact ⟨_, by simp [step, h0, refStep], A.keep1 hl h1 (reverse_hd h0) h2 fun y => List.mem_reverse.mp⟩
  | sort l key =>
    have hl : l < n := hen
    have hsl := A.sl l hl
    obtain ⟨h1, hperm, _, h2⟩ := sort_spec hsl key
    have href : refStep q (Op.sort l key)
        = (setSeq q l (if (s.hd l).count > 1 then msort key (q l).length (q l) else q l), Res.unit) := by
      simp [refStep, hsl.count]
    rw [href]
    exact ⟨_, rfl, A.keep1 hl h1 (sort_hd _ _ _) h2 fun y => hperm.mem_iff.mp⟩
  | concat d sr =>
    obtain ⟨hd, hs, hne⟩ := hen
    obtain ⟨h1, h2, h3⟩ := concat_spec (A.sl d hd) (A.sl sr hs) (A.disjoint hd hs hne)
    exact ⟨_, rfl, A.update2 hd hs hne h1 h2 (concat_hd _ _ _).1 (concat_hd _ _ _).2
      (fun x hx1 hx2 => h3 x (fun e => hx1 (e ▸ (A.sl d hd).tail_mem)) fun e => hx2 (by simp [e]))
      (fun x hx => by simpa using hx) (by simp)⟩
  | swap a b =>
    obtain ⟨hla, hlb, hne⟩ := hen
    obtain ⟨h1, h2, h3⟩ := swap_spec (A.sl a hla) (A.sl b hlb) (A.disjoint hla hlb hne)
    exact ⟨_, rfl, A.update2 hla hlb hne h1 h2 (by rw [swap_eq]) (by rw [swap_eq])
      (fun x hx1 hx2 => h3 x (fun e => hx1 (by simp [e])) fun e => hx2 (by simp [e]))
      (fun x hx => List.mem_append.mpr (List.mem_append.mp hx).symm)
      (fun x hx hm => A.dis a b hla hlb hne x (by simp [hm]) (by simp [hx]))⟩
  | clear l poison =>
    have hl : l < n := hen
    obtain ⟨h0, h1, hh, _, h3⟩ := clear_spec (A.sl l hl) poison
    exact ⟨_, by simp [step, refStep, h0], A.keep1 hl h1 (by rw [hh]) h3 (by simp)⟩
  | front l =>
    have hl : l < n := hen
    exact ⟨s, by simp [step, refStep, front_spec (A.sl l hl)], A⟩
  | back l =>
    have hl : l < n := hen
    exact ⟨s, by simp [step, refStep, back_spec (A.sl l hl)], A⟩
  | foreach l visit =>
    have hl : l < n := hen
    exact ⟨s, by simp [step, refStep, foreach_spec (A.sl l hl)], A⟩

/-- **C13, history form.**  Any sequence of operations inside the documented
domain, over any number of lists, starting from any represented state: the
link-level model never dereferences NULL or loops, returns exactly the results
of the reference sequences, and ends in a state that represents the reference
state — in particular every tail pointer is the true last node, so `push_back`
appends after the true last element after every operation. -/
theorem run_refines {n : Nat} {ha : Nat → Nat} (ops : List Op) {s : St} {q : Nat → List Nat}
    (A : Abs n ha s q) (hen : EnabledRun n ha q ops) :
    ∃ s', run s ops = some (s', (refRun q ops).2) ∧ Abs n ha s' (refRun q ops).1 := by
  induction ops generalizing s q with
  | nil => exact ⟨s, rfl, A⟩
  | cons op ops ih =>
    obtain ⟨h1, h2⟩ := hen
    obtain ⟨s1, e1, A1⟩ := step_refines A op h1
    obtain ⟨s2, e2, A2⟩ := ih A1 h2
    exact ⟨s2, by simp [run, e1, e2, refRun], A2⟩

/-- the initial state of `n` freshly initialised lists represents `n` empty
sequences (so `run_refines` applies to every history from the start) -/
theorem Abs_init (n : Nat) (ha : Nat → Nat) (hnz : ∀ i, i < n → ha i ≠ 0)
    (hinj : ∀ i j, i < n → j < n → i ≠ j → ha i ≠ ha j) :
    Abs n ha { m := fun _ => 0, hd := fun i => { h := ha i, t := ha i, count := 0 } } (fun _ => []) :=
  ⟨fun i hi => ⟨rfl, by simp, hnz i hi, rfl, rfl⟩, fun _ _ => rfl,
   fun i j hi hj hij x hx hm => by
     simp only [List.mem_cons, List.not_mem_nil, or_false] at hx hm
     exact hinj i j hi hj hij (hx ▸ hm)⟩

end Cstl.SList
