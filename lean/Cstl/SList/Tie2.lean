import Cstl.Gen.SListC2
import Cstl.SList.SortL
import Cstl.SList.ForeachL
/-
Translator tie, second part (slist): `Cstl/Gen/SListC2.lean` is regenerated
from /repo's src/slist.c by tools/c2lean_lists.py on every check run; the
fixed theorems below state that the link-level models of `cstl_slist_sort`
(`SortL.lean`) and `cstl_slist_foreach` (`Model.lean`) are those translations.

`sort_tie`, `mergeLoop_tie`: the model reports a NULL dereference in
`__cstl_slist_erase_after` as `none`, the translation has no such notion, so
the statement is "whenever the model finishes with `r`, the translation
finishes with `r`" (the refinement theorem `sortL_refines` proves that the
model finishes on every represented list).  `foreach_tie`: whenever the
translated loop finishes, the model returns the same visited elements and
result.  `foreachP_tie`: the same against the model of `ForeachL.lean`, whose
visit function may overwrite the link of the element it is handed — the form
in which reading the successor *before* the visit matters.
-/
namespace Cstl.SList.Tie2
open Cstl.SList Cstl.Gen.SListC2

theorem insertAfter_tie (m : Mem) (l : Hd) (i nn : Nat) :
    c_priv_cstl_slist_insert_after m l i nn = insertAfter m l i nn := by
  simp only [c_priv_cstl_slist_insert_after, insertAfter]
  split <;> simp_all

theorem eraseAfter_tie (m : Mem) (l : Hd) (e : Nat) :
    eraseAfter m l e = if m e = 0 then none else some (c_priv_cstl_slist_erase_after m l e) := by
  simp only [c_priv_cstl_slist_erase_after, eraseAfter]
  split
  · rfl
  · congr 1
    split <;> simp_all

theorem concat_tie (m : Mem) (d s : Hd) : c_cstl_slist_concat m d s = concat m d s := by
  simp only [c_cstl_slist_concat, concat]
  split <;> simp_all

/-- the split loop `for (t = &sl->h; _sl[0].count < sl->count / 2; t = t->n, _sl[0].count++) ;` -/
theorem splitLoop_tie (cmp : Nat → Nat → Int) (tmp : Nat → Nat × Nat) (fuel : Nat) (m : Mem) (sl sl0 sl1 : Hd) (t : Nat) :
    c_cstl_slist_sort_loop1 cmp tmp fuel m sl sl0 sl1 t
      = (splitLoop fuel m (sl.count / 2) sl0.count t).map
          (fun r => (m, sl, { sl0 with count := r.1 }, sl1, r.2)) := by
  induction fuel generalizing sl0 t with
  | zero =>
    simp only [c_cstl_slist_sort_loop1, splitLoop]
    split <;> simp_all
  | succ f ih =>
    simp only [c_cstl_slist_sort_loop1, splitLoop]
    split
    · rw [ih]
    · simp_all

/-- the merge loop: whenever the model's loop finishes, so does the
translation, with the same memory and the same three headers -/
theorem mergeLoop_tie (cmp : Nat → Nat → Int) (tmp : Nat → Nat × Nat) (fuel : Nat) (m : Mem) (l a b : Hd) (t : Nat)
    (r : Mem × Hd × Hd × Hd) (h : mergeLoop cmp fuel m l a b = some r) :
    c_cstl_slist_sort_loop2 cmp tmp fuel m l a b t = some (r.1, r.2.1, r.2.2.1, r.2.2.2, t) := by
  induction fuel generalizing m l a b with
  | zero =>
    simp only [mergeLoop] at h
    simp only [c_cstl_slist_sort_loop2]
    split at h
    · cases h
    · rename_i hc; cases h; simp [hc]
  | succ f ih =>
    simp only [mergeLoop] at h
    simp only [c_cstl_slist_sort_loop2]
    split at h
    · rename_i hc
      simp only [hc, and_self, if_true]
      split at h
      · rename_i hle
        simp only [hle, if_true]
        rw [eraseAfter_tie] at h
        by_cases hz : m a.h = 0
        · simp [hz] at h
        · simp only [hz, if_false] at h
          rw [insertAfter_tie]
          exact ih _ _ _ _ h
      · rename_i hle
        simp only [hle, if_false]
        rw [eraseAfter_tie] at h
        by_cases hz : m b.h = 0
        · simp [hz] at h
        · simp only [hz, if_false] at h
          rw [insertAfter_tie]
          exact ih _ _ _ _ h
    · rename_i hc
      cases h; simp [hc]

/-- **`cstl_slist_sort`**: whenever the link-level model `sortL` finishes with `r`
(which `sortL_refines` proves for every represented list), the translation of
the C function finishes with the same memory and header -/
theorem sort_tie (cmp : Nat → Nat → Int) (tmp : Nat → Nat × Nat) (fuel d : Nat) (m : Mem) (l : Hd) (r : Mem × Hd)
    (h : sortL cmp tmp fuel d m l = some r) : c_cstl_slist_sort cmp tmp fuel d m l = some r := by
  induction fuel generalizing d m l r with
  | zero => simp [sortL] at h
  | succ f ih =>
    simp only [sortL] at h
    simp only [c_cstl_slist_sort]
    split at h
    · rename_i hc
      simp only [hc, if_true]
      simp only [init] at h ⊢
      rw [splitLoop_tie]
      dsimp only
      cases hs : splitLoop f (upd (upd m (tmp d).fst 0) (tmp d).snd 0) (l.count / 2) 0 l.h with
      | none => rw [hs] at h; simp at h
      | some p =>
        obtain ⟨cnt, t⟩ := p
        rw [hs] at h
        simp only [Option.map_some, splitLinks, init] at h ⊢
        split at h
        · cases h
        · rename_i m1 a1 h1
          rw [ih _ _ _ _ h1]
          dsimp only
          split at h
          · cases h
          · rename_i m2 b1 h2
            rw [ih _ _ _ _ h2]
            dsimp only
            split at h
            · cases h
            · rename_i m3 l3 a3 b3 h3
              rw [mergeLoop_tie cmp tmp f _ _ _ _ t _ h3]
              dsimp only
              rw [concat_tie, concat_tie]
              split at h <;> simp_all
    · rename_i hc
      simp only [hc, if_false]
      exact h

/-- a visit function without effect on the list, in the vocabulary of the
translation: the private state is the call counter and the visited elements -/
def pureVisit (visit : Nat → Nat → Int) : (Nat × List Nat) → Mem → Hd → Nat → Int × (Nat × List Nat) × Mem × Hd :=
  fun s m l c => (visit s.1 c, (s.1 + 1, c :: s.2), m, l)

theorem foreachLoop_stop {σ : Type} (vis : σ → Mem → Hd → Nat → Int × σ × Mem × Hd) (fuel : Nat) (vs : σ)
    (m : Mem) (sl : Hd) (c : Nat) (res : Int) (hr : res ≠ 0) :
    c_cstl_slist_foreach_loop1 vis fuel vs m sl c res = some (vs, m, sl, c, res) := by
  cases fuel <;> simp [c_cstl_slist_foreach_loop1, hr]

theorem foreach_eq {σ : Type} (vis : σ → Mem → Hd → Nat → Int × σ × Mem × Hd) (fuel : Nat) (vs : σ) (m : Mem)
    (sl : Hd) :
    c_cstl_slist_foreach vis fuel vs m sl
      = (c_cstl_slist_foreach_loop1 vis fuel vs m sl (m sl.h) 0).map (fun r => (r.1, r.2.1, r.2.2.1, r.2.2.2.2)) := by
  simp only [c_cstl_slist_foreach]
  cases c_cstl_slist_foreach_loop1 vis fuel vs m sl (m sl.h) 0 <;> rfl

/-- a visit function that may take the visited element away (its link is
overwritten), in the vocabulary of the translation -/
def consumingVisit (poison : Nat → Nat) (visit : Nat → Nat → Int × Bool) :
    (Nat × List Nat) → Mem → Hd → Nat → Int × (Nat × List Nat) × Mem × Hd :=
  fun s m l c =>
    let v := visit s.1 c
    (v.1, (s.1 + 1, c :: s.2), (if v.2 then upd m c (poison c) else m), l)

theorem foreachLoopP_tie (poison : Nat → Nat) (visit : Nat → Nat → Int × Bool) (fuel : Nat) (m : Mem) (sl : Hd)
    (c k : Nat) (acc : List Nat) (out : (Nat × List Nat) × Mem × Hd × Nat × Int)
    (h : c_cstl_slist_foreach_loop1 (consumingVisit poison visit) fuel (k, acc) m sl c 0 = some out) :
    foreachLoopP poison visit fuel m c k acc = (out.2.1, out.1.2.reverse, out.2.2.2.2) ∧ out.2.2.1 = sl := by
  induction fuel generalizing m c k acc with
  | zero =>
    simp only [c_cstl_slist_foreach_loop1] at h
    split at h
    · cases h
    · cases h; simp [foreachLoopP]
  | succ f ih =>
    simp only [c_cstl_slist_foreach_loop1] at h
    split at h
    · rename_i hc
      have hc0 : c ≠ 0 := hc.1
      simp only [consumingVisit] at h
      by_cases hv : (visit k c).1 = 0
      · rw [hv] at h
        have := ih _ _ _ _ h
        simp only [foreachLoopP, hc0, if_false, hv, ne_eq, not_true_eq_false]
        exact this
      · rw [foreachLoop_stop _ _ _ _ _ _ _ hv] at h
        cases h
        simp [foreachLoopP, hc0, hv]
    · rename_i hc
      have hc0 : c = 0 := by simpa using hc
      cases h
      simp [foreachLoopP, hc0]

/-- the loop of `cstl_slist_foreach`: whenever the translated loop finishes,
the model's loop returns the same visited elements and the same result, and
the list is untouched -/
theorem foreachLoop_tie (visit : Nat → Nat → Int) (fuel : Nat) (m : Mem) (sl : Hd) (c k : Nat) (acc : List Nat)
    (out : (Nat × List Nat) × Mem × Hd × Nat × Int)
    (h : c_cstl_slist_foreach_loop1 (pureVisit visit) fuel (k, acc) m sl c 0 = some out) :
    foreachLoop visit fuel m c k acc = (out.1.2.reverse, out.2.2.2.2) ∧ out.2.1 = m ∧ out.2.2.1 = sl := by
  have hv : pureVisit visit = consumingVisit (fun _ => 0) (fun k c => (visit k c, false)) := rfl
  rw [hv] at h
  obtain ⟨e1, e2⟩ := foreachLoopP_tie (fun _ => 0) _ fuel m sl c k acc out h
  rw [foreachLoopP_pure] at e1
  exact ⟨(Prod.mk.inj e1).2, (Prod.mk.inj e1).1.symm, e2⟩

/-- **`cstl_slist_foreach`** -/
theorem foreach_tie (visit : Nat → Nat → Int) (m : Mem) (l : Hd)
    (out : (Nat × List Nat) × Mem × Hd × Int)
    (h : c_cstl_slist_foreach (pureVisit visit) (l.count + 1) (0, []) m l = some out) :
    foreach m l visit = (out.1.2.reverse, out.2.2.2) ∧ out.2.1 = m ∧ out.2.2.1 = l := by
  rw [foreach_eq] at h
  obtain ⟨o, hl, e⟩ := Option.map_eq_some_iff.mp h
  subst e
  simpa [foreach] using foreachLoop_tie visit (l.count + 1) m l (m l.h) 0 [] o hl

/-- **`cstl_slist_foreach`** with an element-consuming visit function -/
theorem foreachP_tie (poison : Nat → Nat) (visit : Nat → Nat → Int × Bool) (m : Mem) (l : Hd)
    (out : (Nat × List Nat) × Mem × Hd × Int)
    (h : c_cstl_slist_foreach (consumingVisit poison visit) (l.count + 1) (0, []) m l = some out) :
    foreachP m l poison visit = (out.2.1, out.1.2.reverse, out.2.2.2) ∧ out.2.2.1 = l := by
  rw [foreach_eq] at h
  obtain ⟨o, hl, e⟩ := Option.map_eq_some_iff.mp h
  subst e
  simpa [foreachP] using foreachLoopP_tie poison visit (l.count + 1) m l (m l.h) 0 [] o hl

/-- **the translated C function sorts.**  `sort_tie` composed with the
refinement theorem: on every represented list with fresh temporary heads the
translation of `cstl_slist_sort` finishes and leaves an ordered permutation of
the same nodes with the tail pointer at the true last node. -/
theorem c_sort_spec (cmp : Nat → Nat → Int) (key : Nat → Int) (hck : ∀ x y, cmp x y ≤ 0 ↔ key x ≤ key y)
    (tmp : Nat → Nat × Nat) (d : Nat) {m : Mem} {l : Hd} {xs : List Nat}
    (h : IsSL m l xs) (hfr : Fresh tmp d (l.h :: xs)) :
    ∃ m' l', c_cstl_slist_sort cmp tmp (xs.length + 1) d m l = some (m', l') ∧
      let ys := if l.count > 1 then msort key xs.length xs else xs
      IsSL m' l' ys ∧ ys.Perm xs ∧ SortedBy key ys ∧ l'.h = l.h
      ∧ ∀ a, a ∉ l.h :: xs → ¬ Scratch tmp d a → m' a = m a := by
  obtain ⟨m', l', e, rest⟩ := sortL_spec cmp key hck tmp d h hfr
  exact ⟨m', l', sort_tie cmp tmp _ d m l _ e, rest⟩

end Cstl.SList.Tie2
