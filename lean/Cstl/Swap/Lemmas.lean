import Cstl.Swap.Model
/-
Helper lemmas for Cstl/Swap/Props.lean: what one typed store / one `memcpy` does to every
address, the little-endian round trip, and the generic "three copies through a scratch region"
argument shared by the fast paths and the `memcpy` path of `cstl_swap`.
-/
namespace Cstl.Swap

theorem set8_same (m : Mem) (a v : Nat) : set8 m a v a = v := by simp [set8]
theorem set8_other (m : Mem) {a k : Nat} (v : Nat) (h : k ≠ a) : set8 m a v k = m k := by simp [set8, h]

theorem set8_bytes {m : Mem} (hb : Bytes m) (a : Nat) {v : Nat} (hv : v < 256) : Bytes (set8 m a v) := by
  intro k
  unfold set8
  split
  · exact hv
  · exact hb k

theorem storeLE_out : ∀ (w : Nat) (m : Mem) (a v k : Nat), ¬ InReg k a w → storeLE w m a v k = m k
  | 0, _, _, _, _, _ => rfl
  | w + 1, m, a, v, k, h => by
    unfold InReg at h
    rw [storeLE, storeLE_out w _ _ _ _ (by unfold InReg; omega)]
    exact set8_other m _ (by omega)

theorem storeLE_bytes : ∀ (w : Nat) (m : Mem) (a v : Nat), Bytes m → Bytes (storeLE w m a v)
  | 0, _, _, _, hb => hb
  | w + 1, m, a, v, hb => by
    rw [storeLE]
    exact storeLE_bytes w _ _ _ (set8_bytes hb a (Nat.mod_lt _ (by decide)))

theorem loadLE_lt : ∀ (w : Nat) (m : Mem) (a : Nat), Bytes m → loadLE w m a < 256 ^ w
  | 0, _, _, _ => by simp [loadLE]
  | w + 1, m, a, hb => by
    have h1 := loadLE_lt w m (a + 1) hb
    have h2 := hb a
    rw [loadLE, Nat.pow_succ]
    omega

/-- little-endian round trip: storing (anywhere, into any memory) the value loaded from `w` bytes
at `s` of a byte memory `m'` writes exactly those bytes, in order -/
theorem store_load : ∀ (w : Nat) (m m' : Mem) (d s i : Nat), Bytes m' → i < w →
    storeLE w m d (loadLE w m' s) (d + i) = m' (s + i)
  | 0, _, _, _, _, _, _, hi => by omega
  | w + 1, m, m', d, s, i, hb, hi => by
    have hs := hb s
    have h1 : (m' s + 256 * loadLE w m' (s + 1)) % 256 = m' s := by
      rw [Nat.add_mul_mod_self_left, Nat.mod_eq_of_lt hs]
    have h2 : (m' s + 256 * loadLE w m' (s + 1)) / 256 = loadLE w m' (s + 1) := by
      rw [Nat.add_mul_div_left _ _ (by decide), Nat.div_eq_of_lt hs, Nat.zero_add]
    rw [loadLE, storeLE, h1, h2]
    cases i with
    | zero =>
      rw [storeLE_out w _ _ _ _ (by unfold InReg; omega)]
      exact set8_same m d _
    | succ i =>
      have := store_load w (set8 m d (m' s)) m' (d + 1) (s + 1) i hb (Nat.lt_of_succ_lt_succ hi)
      rw [show d + (i + 1) = d + 1 + i from Nat.add_right_comm d i 1, show s + (i + 1) = s + 1 + i from Nat.add_right_comm s i 1]
      exact this

theorem memcpyB_out : ∀ (n : Nat) (m : Mem) (d s k : Nat), ¬ InReg k d n → memcpyB n m d s k = m k
  | 0, _, _, _, _, _ => rfl
  | n + 1, m, d, s, k, h => by
    unfold InReg at h
    rw [memcpyB, memcpyB_out n _ _ _ _ (by unfold InReg; omega)]
    exact set8_other m _ (by omega)

theorem memcpyB_bytes : ∀ (n : Nat) (m : Mem) (d s : Nat), Bytes m → Bytes (memcpyB n m d s)
  | 0, _, _, _, hb => hb
  | n + 1, m, d, s, hb => by
    rw [memcpyB]
    exact memcpyB_bytes n _ _ _ (set8_bytes hb d (hb s))

theorem memcpyB_in : ∀ (n : Nat) (m : Mem) (d s i : Nat), Apart d s n → i < n →
    memcpyB n m d s (d + i) = m (s + i)
  | 0, _, _, _, _, _, hi => by omega
  | n + 1, m, d, s, i, ha, hi => by
    unfold Apart at ha
    rw [memcpyB]
    cases i with
    | zero =>
      rw [memcpyB_out n _ _ _ _ (by unfold InReg; omega)]
      exact set8_same m d _
    | succ i =>
      have := memcpyB_in n (set8 m d (m s)) (d + 1) (s + 1) i (by unfold Apart; omega) (Nat.lt_of_succ_lt_succ hi)
      rw [show d + (i + 1) = d + 1 + i from Nat.add_right_comm d i 1, this, show s + (i + 1) = s + 1 + i from Nat.add_right_comm s i 1]
      exact set8_other m _ (by omega)

/-- for non-overlapping regions the copying order is irrelevant: the forward byte loop is the
simultaneous copy -/
theorem memcpyB_eq (n : Nat) (m : Mem) (d s : Nat) (ha : Apart d s n) :
    memcpyB n m d s = fun k => if d ≤ k ∧ k < d + n then m (s + (k - d)) else m k := by
  funext k
  by_cases h : d ≤ k ∧ k < d + n
  · rw [if_pos h]
    have := memcpyB_in n m d s (k - d) ha (by omega)
    rwa [show d + (k - d) = k by omega] at this
  · rw [if_neg h]
    exact memcpyB_out n m d s k h

/-- what both `*(T*)d = *(T*)s` and `memcpy(d, s, n)` are on `n`-byte regions -/
structure CopySpec (cp : Mem → Nat → Nat → Mem) (n : Nat) : Prop where
  inn : ∀ m d s i, Bytes m → Apart d s n → i < n → cp m d s (d + i) = m (s + i)
  out : ∀ m d s k, ¬ InReg k d n → cp m d s k = m k
  bytes : ∀ m d s, Bytes m → Bytes (cp m d s)

theorem copySpec_typed (w : Nat) : CopySpec (fun m d s => storeLE w m d (loadLE w m s)) w where
  inn := fun m d s i hb _ hi => store_load w m m d s i hb hi
  out := fun m d _ k h => storeLE_out w m d _ k h
  bytes := fun m d _ hb => storeLE_bytes w m d _ hb

theorem copySpec_memcpy (n : Nat) : CopySpec (fun m d s => memcpyB n m d s) n where
  inn := fun m d s i _ ha hi => memcpyB_in n m d s i ha hi
  out := fun m d s k h => memcpyB_out n m d s k h
  bytes := fun m d s hb => memcpyB_bytes n m d s hb

theorem apart_symm {a b n : Nat} (h : Apart a b n) : Apart b a n := by unfold Apart at *; omega

theorem apart_not_in {a b n i : Nat} (h : Apart a b n) (hi : i < n) : ¬ InReg (a + i) b n := by
  unfold Apart at h; unfold InReg; omega

def three (cp : Mem → Nat → Nat → Mem) (m : Mem) (x y t : Nat) : Mem :=
  cp (cp (cp m t x) x y) y t

/-- each region is written by one copy (from a region no earlier copy has changed) and left alone by the
later ones -/
theorem three_spec {cp : Mem → Nat → Nat → Mem} {n : Nat} (hs : CopySpec cp n) {m : Mem} {x y t : Nat}
    (hb : Bytes m) (hxy : Apart x y n) (hxt : Apart x t n) (hyt : Apart y t n) (i : Nat) (hi : i < n) :
    three cp m x y t (x + i) = m (y + i) ∧ three cp m x y t (y + i) = m (x + i) ∧
      three cp m x y t (t + i) = m (x + i) := by
  have htx : cp m t x (t + i) = m (x + i) := hs.inn _ _ _ _ hb (apart_symm hxt) hi
  unfold three
  refine ⟨?_, ?_, ?_⟩
  · rw [hs.out _ _ _ _ (apart_not_in hxy hi), hs.inn _ _ _ _ (hs.bytes _ _ _ hb) hxy hi,
      hs.out _ _ _ _ (apart_not_in hyt hi)]
  · rw [hs.inn _ _ _ _ (hs.bytes _ _ _ (hs.bytes _ _ _ hb)) hyt hi,
      hs.out _ _ _ _ (apart_not_in (apart_symm hxt) hi), htx]
  · rw [hs.out _ _ _ _ (apart_not_in (apart_symm hyt) hi),
      hs.out _ _ _ _ (apart_not_in (apart_symm hxt) hi), htx]

theorem three_out {cp : Mem → Nat → Nat → Mem} {n : Nat} (hs : CopySpec cp n) (m : Mem) (x y t k : Nat)
    (hx : ¬ InReg k x n) (hy : ¬ InReg k y n) (ht : ¬ InReg k t n) : three cp m x y t k = m k := by
  unfold three
  rw [hs.out _ _ _ _ hy, hs.out _ _ _ _ hx, hs.out _ _ _ _ ht]

theorem three_bytes {cp : Mem → Nat → Nat → Mem} {n : Nat} (hs : CopySpec cp n) {m : Mem} (hb : Bytes m)
    (x y t : Nat) : Bytes (three cp m x y t) :=
  hs.bytes _ _ _ (hs.bytes _ _ _ (hs.bytes _ _ _ hb))

/-- both paths of `cstl_swap` are three copies of `sz` bytes -/
theorem cSwap_three (m : Mem) (x y t sz : Nat) :
    ∃ cp, CopySpec cp sz ∧ cSwap m x y t sz = three cp m x y t := by
  unfold cSwap
  split
  · exact ⟨_, copySpec_typed sz, rfl⟩
  · exact ⟨_, copySpec_memcpy sz, rfl⟩

theorem readBytes_length : ∀ (n : Nat) (m : Mem) (a : Nat), (readBytes n m a).length = n
  | 0, _, _ => rfl
  | n + 1, m, a => by simp [readBytes, readBytes_length n]

theorem readBytes_congr : ∀ (n : Nat) (m m' : Mem) (a a' : Nat), (∀ i, i < n → m (a + i) = m' (a' + i)) →
    readBytes n m a = readBytes n m' a'
  | 0, _, _, _, _, _ => rfl
  | n + 1, m, m', a, a', h => by
    have h0 := h 0 (Nat.succ_pos n)
    simp only [Nat.add_zero] at h0
    rw [readBytes, readBytes, h0, readBytes_congr n m m' (a + 1) (a' + 1)]
    intro i hi
    have := h (i + 1) (Nat.succ_lt_succ hi)
    rwa [show a + (i + 1) = a + 1 + i from Nat.add_right_comm a i 1, show a' + (i + 1) = a' + 1 + i from Nat.add_right_comm a' i 1] at this

theorem readBytes_getElem : ∀ (n : Nat) (m : Mem) (a i : Nat) (h : i < (readBytes n m a).length),
    (readBytes n m a)[i] = m (a + i)
  | 0, _, _, _, h => by simp [readBytes] at h
  | n + 1, m, a, 0, _ => by simp [readBytes]
  | n + 1, m, a, i + 1, h => by
    simp only [readBytes, List.getElem_cons_succ]
    rw [readBytes_getElem n m (a + 1) i, show a + 1 + i = a + (i + 1) from Nat.add_right_comm a 1 i]

end Cstl.Swap
