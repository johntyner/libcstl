import Cstl.Gen.SwapC
import Cstl.Swap.Props
/-
Translator tie for `cstl_swap` (include/cstl/common.h).

`Cstl/Gen/SwapC.lean` is regenerated from the clang AST of the current source by
tools/c2lean_swap.py on every check run (tools/areas/swap_tie.py); the theorems below (hand-written,
fixed) state that the hand-written model `Cstl.Swap.cSwap` — the function the theorems of
Cstl/Swap/Props.lean are about — IS that translation (`swap_tie`), and carry the Props theorems over to the
translated function.  `fast_tie`: on `sz ∈ {1,2,4,8}` the translation is the typed exchange `exch sz`, so a
fast path whose access width differs from its `case` label breaks that theorem.
-/
namespace Cstl.Swap.Tie
open Cstl.Swap Cstl.Gen.SwapC

theorem fastWidth_iff (sz : Nat) : fastWidth sz = true ↔ sz = 1 ∨ sz = 2 ∨ sz = 4 ∨ sz = 8 := by
  simp [fastWidth, or_assoc]

theorem fast_tie (m : Mem) (x y t sz : Nat) (h : sz = 1 ∨ sz = 2 ∨ sz = 4 ∨ sz = 8) :
    c_cstl_swap m x y t sz = exch sz m x y t := by
  -- one branch per width; the tests of the other labels are decided by evaluation
  rcases h with rfl | rfl | rfl | rfl
  all_goals simp (config := { decide := true }) only [c_cstl_swap, exch, if_true, if_false]

theorem slow_tie (m : Mem) (x y t sz : Nat) (h1 : sz ≠ 1) (h2 : sz ≠ 2) (h4 : sz ≠ 4) (h8 : sz ≠ 8) :
    c_cstl_swap m x y t sz = viaScratch m x y t sz := by
  simp only [c_cstl_swap, h1, h2, h4, h8, if_false, viaScratch]

/-- the hand-written model is the translation of the C function -/
theorem swap_tie (m : Mem) (x y t sz : Nat) : c_cstl_swap m x y t sz = cSwap m x y t sz := by
  unfold cSwap
  by_cases h : sz = 1 ∨ sz = 2 ∨ sz = 4 ∨ sz = 8
  · rw [fast_tie m x y t sz h, if_pos ((fastWidth_iff sz).2 h)]
  · have h1 : sz ≠ 1 := fun e => h (Or.inl e)
    have h2 : sz ≠ 2 := fun e => h (Or.inr (Or.inl e))
    have h4 : sz ≠ 4 := fun e => h (Or.inr (Or.inr (Or.inl e)))
    have h8 : sz ≠ 8 := fun e => h (Or.inr (Or.inr (Or.inr e)))
    rw [slow_tie m x y t sz h1 h2 h4 h8, if_neg fun hf => h ((fastWidth_iff sz).1 hf)]

/-- the translated C function, every size: exchange of `x` and `y`, old `x` left in `t`, frame -/
theorem c_swap_exchanges (m : Mem) (x y t sz : Nat) (hb : Bytes m)
    (hxy : Apart x y sz) (hxt : Apart x t sz) (hyt : Apart y t sz) :
    (∀ i, i < sz → c_cstl_swap m x y t sz (x + i) = m (y + i)) ∧
    (∀ i, i < sz → c_cstl_swap m x y t sz (y + i) = m (x + i)) ∧
    (∀ i, i < sz → c_cstl_swap m x y t sz (t + i) = m (x + i)) ∧
    (∀ k, ¬ InReg k x sz → ¬ InReg k y sz → ¬ InReg k t sz → c_cstl_swap m x y t sz k = m k) ∧
    Bytes (c_cstl_swap m x y t sz) := by
  rw [swap_tie]
  exact ⟨swap_x m x y t sz hb hxy hxt hyt, swap_y m x y t sz hb hxy hxt hyt, swap_t m x y t sz hb hxy hxt hyt,
    fun k => swap_frame m x y t sz k, swap_bytes m x y t sz hb⟩

/-- the translated C function on an array of byte strings is the sort model's `swapAt` -/
theorem c_swap_is_swapAt (dec : List Nat → Cstl.Sort.Elem) (m : Mem) (b sz n t i j : Nat) (hb : Bytes m)
    (hi : i < n) (hj : j < n) (hij : i ≠ j) (ht : t + sz ≤ b ∨ b + n * sz ≤ t)
    (rnd : List Nat) (dflt : Nat) (log : Cstl.Sort.Log) :
    Cstl.Sort.swapAt (absSt dec m b sz n t rnd dflt log) 0 n i j =
      .ok (absSt dec (c_cstl_swap m (b + i * sz) (b + j * sz) t sz) b sz n t rnd dflt (log.swap i j)) := by
  rw [swap_tie]
  exact swap_is_swapAt dec m b sz n t i j hb hi hj hij ht rnd dflt log

end Cstl.Swap.Tie
