import Cstl.Swap.Lemmas
import Cstl.Sort.Lemmas
/-
Theorems about the byte-level `cstl_swap` (Cstl/Swap/Model.lean), for EVERY size `sz` (the four
typed fast paths and the `memcpy` path alike), every memory of bytes and all pairwise
non-overlapping regions `x`, `y`, `t` of `sz` bytes: the call exchanges the bytes at `x` and `y`, leaves
the old bytes of `x` at `t` and changes nothing else; on an array of byte strings that is the exchange
step `Cstl.Sort.swapAt` of the sort model.
-/
namespace Cstl.Swap
open Cstl.Sort (Elem St swapAt Log)

theorem swap_x (m : Mem) (x y t sz : Nat) (hb : Bytes m)
    (hxy : Apart x y sz) (hxt : Apart x t sz) (hyt : Apart y t sz) (i : Nat) (hi : i < sz) :
    cSwap m x y t sz (x + i) = m (y + i) := by
  obtain ⟨cp, hs, he⟩ := cSwap_three m x y t sz
  rw [he]; exact (three_spec hs hb hxy hxt hyt i hi).1

theorem swap_y (m : Mem) (x y t sz : Nat) (hb : Bytes m)
    (hxy : Apart x y sz) (hxt : Apart x t sz) (hyt : Apart y t sz) (i : Nat) (hi : i < sz) :
    cSwap m x y t sz (y + i) = m (x + i) := by
  obtain ⟨cp, hs, he⟩ := cSwap_three m x y t sz
  rw [he]; exact (three_spec hs hb hxy hxt hyt i hi).2.1

/-- on EVERY path: the C macro EXCH goes through `*(T *)t` exactly like the memcpy path goes through `t`
(`fast_path_writes_t`); this is what the Sort model's `scr := old a` records -/
theorem swap_t (m : Mem) (x y t sz : Nat) (hb : Bytes m)
    (hxy : Apart x y sz) (hxt : Apart x t sz) (hyt : Apart y t sz) (i : Nat) (hi : i < sz) :
    cSwap m x y t sz (t + i) = m (x + i) := by
  obtain ⟨cp, hs, he⟩ := cSwap_three m x y t sz
  rw [he]; exact (three_spec hs hb hxy hxt hyt i hi).2.2

/-- nothing outside `x`, `y`, `t` is written (no hypothesis on the regions is needed) -/
theorem swap_frame (m : Mem) (x y t sz k : Nat)
    (hx : ¬ InReg k x sz) (hy : ¬ InReg k y sz) (ht : ¬ InReg k t sz) :
    cSwap m x y t sz k = m k := by
  obtain ⟨cp, hs, he⟩ := cSwap_three m x y t sz
  rw [he]; exact three_out hs m x y t k hx hy ht

theorem swap_bytes (m : Mem) (x y t sz : Nat) (hb : Bytes m) : Bytes (cSwap m x y t sz) := by
  obtain ⟨cp, hs, he⟩ := cSwap_three m x y t sz
  rw [he]; exact three_bytes hs hb x y t

theorem swap_regions (m : Mem) (x y t sz : Nat) (hb : Bytes m)
    (hxy : Apart x y sz) (hxt : Apart x t sz) (hyt : Apart y t sz) :
    readBytes sz (cSwap m x y t sz) x = readBytes sz m y ∧
    readBytes sz (cSwap m x y t sz) y = readBytes sz m x ∧
    readBytes sz (cSwap m x y t sz) t = readBytes sz m x :=
  ⟨readBytes_congr _ _ _ _ _ (swap_x m x y t sz hb hxy hxt hyt),
   readBytes_congr _ _ _ _ _ (swap_y m x y t sz hb hxy hxt hyt),
   readBytes_congr _ _ _ _ _ (swap_t m x y t sz hb hxy hxt hyt)⟩

theorem swap_region_frame (m : Mem) (x y t sz a n : Nat)
    (hx : a + n ≤ x ∨ x + sz ≤ a) (hy : a + n ≤ y ∨ y + sz ≤ a) (ht : a + n ≤ t ∨ t + sz ≤ a) :
    readBytes n (cSwap m x y t sz) a = readBytes n m a := by
  apply readBytes_congr
  intro i hi
  exact swap_frame m x y t sz (a + i) (by unfold InReg; omega) (by unfold InReg; omega) (by unfold InReg; omega)

/-- `x = y` (one region handed in twice), scratch elsewhere: `x` keeps its bytes, `t` receives them.  For
completeness: the sort / reverse algorithms only exchange distinct indices, and `memcpy(x, x, n)` is
formally undefined in C — the model's byte loop leaves it unchanged. -/
theorem swap_same (m : Mem) (x t sz : Nat) (hb : Bytes m) (hxt : Apart x t sz) (i : Nat) (hi : i < sz) :
    cSwap m x x t sz (x + i) = m (x + i) ∧ cSwap m x x t sz (t + i) = m (x + i) := by
  obtain ⟨cp, hs, he⟩ := cSwap_three m x x t sz
  rw [he]
  unfold three
  have h1 : ∀ j, j < sz → cp m t x (t + j) = m (x + j) := fun j hj => hs.inn _ _ _ _ hb (apart_symm hxt) hj
  have hb1 := hs.bytes m t x hb
  -- the middle copy `x := x`: whatever it does inside `x`, the last copy restores `x` from `t`
  have h3 : ∀ j, j < sz → cp (cp m t x) x x (t + j) = m (x + j) := fun j hj => by
    rw [hs.out _ _ _ _ (apart_not_in (apart_symm hxt) hj)]; exact h1 j hj
  have hb2 := hs.bytes _ x x hb1
  constructor
  · rw [hs.inn _ _ _ _ hb2 hxt hi]; exact h3 i hi
  · rw [hs.out _ _ _ _ (apart_not_in (apart_symm hxt) hi)]; exact h3 i hi

/-! ### concrete memories (the hypotheses are satisfiable; every path is exercised) -/

def demoMem : Mem := fun a => if a < 64 then a + 10 else 0

theorem demoMem_bytes : Bytes demoMem := by
  intro a; unfold demoMem; split <;> omega

example : readBytes 2 (cSwap demoMem 0 8 16 2) 0 = [18, 19] ∧ readBytes 2 (cSwap demoMem 0 8 16 2) 8 = [10, 11] := by
  decide
example : readBytes 3 (cSwap demoMem 0 8 16 3) 0 = [18, 19, 20] ∧ readBytes 3 (cSwap demoMem 0 8 16 3) 8 = [10, 11, 12] := by
  decide
example : readBytes 8 (cSwap demoMem 0 8 16 8) 0 = [18, 19, 20, 21, 22, 23, 24, 25] := by decide
example : Apart 0 8 8 ∧ Apart 0 16 8 ∧ Apart 8 16 8 := by unfold Apart; omega

/-- the typed fast paths write the scratch buffer too (one might expect them to leave `t` alone):
after a 1-, 2-, 4- or 8-byte swap the scratch bytes are the old bytes of `x` (here they change from
`26 …` to `10 …`) -/
theorem fast_path_writes_t :
    ∀ sz ∈ [1, 2, 4, 8], cSwap demoMem 0 8 16 sz 16 = 10 ∧ demoMem 16 = 26 := by decide

/-- element `k` of the array of `sz`-byte elements at `b` -/
def elemBytes (m : Mem) (b sz k : Nat) : List Nat := readBytes sz m (b + k * sz)

theorem elem_in_array (sz : Nat) {k n : Nat} (h : k < n) : k * sz + sz ≤ n * sz :=
  Nat.succ_mul k sz ▸ Nat.mul_le_mul_right sz h

theorem elem_apart (b sz : Nat) {i j : Nat} (h : i ≠ j) : Apart (b + i * sz) (b + j * sz) sz := by
  unfold Apart
  rcases Nat.lt_or_gt_of_ne h with h | h
  · have := elem_in_array sz h; omega
  · have := elem_in_array sz h; omega

theorem elem_apart_scratch {b sz n t k : Nat} (hk : k < n) (ht : t + sz ≤ b ∨ b + n * sz ≤ t) :
    Apart (b + k * sz) t sz := by
  have := elem_in_array sz hk
  unfold Apart
  omega

/-- `cstl_swap(at(i), at(j), t, sz)` on an array of `n` elements of `sz` bytes at `b`, scratch
region outside the array: elements `i` and `j` are exchanged, every other element is untouched,
the scratch region holds the old element `i`. -/
theorem swap_elems (m : Mem) (b sz n t i j : Nat) (hb : Bytes m) (hi : i < n) (hj : j < n) (hij : i ≠ j)
    (ht : t + sz ≤ b ∨ b + n * sz ≤ t) :
    let m' := cSwap m (b + i * sz) (b + j * sz) t sz
    elemBytes m' b sz i = elemBytes m b sz j ∧
    elemBytes m' b sz j = elemBytes m b sz i ∧
    (∀ k, k < n → k ≠ i → k ≠ j → elemBytes m' b sz k = elemBytes m b sz k) ∧
    readBytes sz m' t = elemBytes m b sz i := by
  intro m'
  obtain ⟨h1, h2, h3⟩ := swap_regions m _ _ t sz hb (elem_apart b sz hij) (elem_apart_scratch hi ht)
    (elem_apart_scratch hj ht)
  exact ⟨h1, h2, fun k hk hki hkj => swap_region_frame m _ _ t sz _ sz (elem_apart b sz hki)
    (elem_apart b sz hkj) (elem_apart_scratch hk ht), h3⟩

example : elemBytes (cSwap demoMem (0 + 1 * 3) (0 + 4 * 3) 40 3) 0 3 1 = [22, 23, 24] ∧
    elemBytes (cSwap demoMem (0 + 1 * 3) (0 + 4 * 3) 40 3) 0 3 4 = [13, 14, 15] ∧
    elemBytes (cSwap demoMem (0 + 1 * 3) (0 + 4 * 3) 40 3) 0 3 2 = [16, 17, 18] := by decide

/-- the sort model's view of the bytes: `n` elements decoded from their `sz` bytes -/
def absArr (dec : List Nat → Elem) (m : Mem) (b sz n : Nat) : Array Elem :=
  Array.ofFn (n := n) fun k => dec (elemBytes m b sz k.val)

/-- sort-model state over a byte memory: the array at `b`, the scratch cell at `t` -/
def absSt (dec : List Nat → Elem) (m : Mem) (b sz n t : Nat) (rnd : List Nat) (dflt : Nat) (log : Log) : St :=
  { arr := absArr dec m b sz n, scr := dec (readBytes sz m t), rnd := rnd, dflt := dflt, log := log }

/-- **`cstl_swap` is `Cstl.Sort.swapAt`.**  For every element size `sz`, every way `dec` of reading
an element's bytes as the model's `(key, id)`, an array of `n` elements at `b`, a scratch slot
`t` outside the array (the vector's slot `cap`) and every range `(lo, cnt)` inside the array (what a
recursive `qsort` call or `extract` hands on): the model's `swapAt lo cnt i j` on the abstraction of
memory `m` succeeds and yields the abstraction of the memory after
`cstl_swap(b + (lo+i)*sz, b + (lo+j)*sz, t, sz)` — array, scratch cell and all. -/
theorem swap_is_swapAt_range (dec : List Nat → Elem) (m : Mem) (b sz n t lo cnt i j : Nat) (hb : Bytes m)
    (hr : lo + cnt ≤ n) (hi : i < cnt) (hj : j < cnt) (hij : i ≠ j) (ht : t + sz ≤ b ∨ b + n * sz ≤ t)
    (rnd : List Nat) (dflt : Nat) (log : Log) :
    swapAt (absSt dec m b sz n t rnd dflt log) lo cnt i j =
      .ok (absSt dec (cSwap m (b + (lo + i) * sz) (b + (lo + j) * sz) t sz) b sz n t rnd dflt
        (log.swap (lo + i) (lo + j))) := by
  obtain ⟨h1, h2, h3, h4⟩ := swap_elems m b sz n t (lo + i) (lo + j) hb (by omega) (by omega) (by omega) ht
  have hsz : (absSt dec m b sz n t rnd dflt log).arr.size = n := by simp [absSt, absArr]
  rw [Cstl.Sort.swapAt_eq hi hj (by omega)]
  simp only [absSt]
  congr 2
  · apply Array.ext
    · simp [absArr]
    · intro k hk1 hk2
      have hk : k < n := by simpa [absArr] using hk2
      simp only [absArr, Array.getElem_swap, Array.getElem_ofFn]
      by_cases e1 : k = lo + i
      · subst e1; simp [h1]
      · by_cases e2 : k = lo + j
        · subst e2; simp [Ne.symm hij, h2]
        · simp [e1, e2, h3 k hk e1 e2]
  · simp [absArr, h4]

/-- the whole-array instance (`lo = 0`, `cnt = n`) of `swap_is_swapAt_range` -/
theorem swap_is_swapAt (dec : List Nat → Elem) (m : Mem) (b sz n t i j : Nat) (hb : Bytes m)
    (hi : i < n) (hj : j < n) (hij : i ≠ j) (ht : t + sz ≤ b ∨ b + n * sz ≤ t)
    (rnd : List Nat) (dflt : Nat) (log : Log) :
    swapAt (absSt dec m b sz n t rnd dflt log) 0 n i j =
      .ok (absSt dec (cSwap m (b + i * sz) (b + j * sz) t sz) b sz n t rnd dflt (log.swap i j)) := by
  simpa only [Nat.zero_add] using
    swap_is_swapAt_range dec m b sz n t 0 n i j hb (Nat.le_of_eq (Nat.zero_add n)) hi hj hij ht rnd dflt log

example : (swapAt (absSt (fun bs => ⟨(bs.headD 0 : Nat), bs.length⟩) demoMem 0 3 5 40 [] 0 {}) 0 5 1 4).toOption.map
      (fun s => (s.arr.toList.map (·.key), s.scr.key)) = some ([10, 22, 16, 19, 13], 13) := by decide

end Cstl.Swap
