import Cstl.Mem.InvUnique
import Cstl.Mem.Stray
import Cstl.Mem.AInv
namespace Cstl.Mem

/-- the argument objects through which a call reads, transfers or releases the pointer -/
def Op.reads : Op → List Nat
  | .gInit _ | .gSet _ _ | .uInit _ | .sInit _ | .wInit _ | .aInit _ | .aSize _ | .rawCopy _ _ => []
  | .gGet a | .uAlloc a _ _ _ _ | .uGet a | .uRelease a | .uReset a
  | .sAlloc a _ _ _ _ | .sUnique a | .sGet a | .sReset a | .wReset a
  | .aSet a _ _ _ _ _ | .aRelease a | .aAlloc a _ _ _ _ | .aReset a | .aData a | .aAt a _ => [a]
  | .gCopy _ s => [s]
  | .gSwap a b | .uSwap a b | .sSwap a b | .wSwap a b | .sShare a b | .wFrom a b | .wLock a b
  | .aUnslice a b => [a, b]
  | .aSlice a _ _ s => [a, s]

/-- the calls that abort by documentation even on proper objects -/
def Op.mayAbort : Op → Prop
  | .aAt _ _ | .aSlice _ _ _ _ | .aUnslice _ _ => True
  | _ => False

/-- outcome of a call on properly stamped objects: it succeeds and keeps both invariants, or it is one
of the bounds-checked array calls and stopped without touching anything (never a use-after-free) -/
def GoodOutcome (op : Op) (σ : State) (r : Res Val) : Prop :=
  match r with
  | .ok _ σ' => Inv σ' ∧ (AInv σ → AInv σ')
  | .stop k σ' => op.mayAbort ∧ (k = .abort ∨ k = .segv) ∧ σ' = σ

theorem unitR_ok {σ' : State} {r : Res Unit} (h : r = .ok () σ') : unitR r = .ok .unit σ' := by
  rw [h]; rfl

theorem good_ok {op : Op} {σ σ' : State} {α : Type} {r : Res α} {f : α → Val} {v : α}
    (h : r = .ok v σ') (I' : Inv σ') (A : AInv σ → AInv σ') : GoodOutcome op σ (r >>- fun x σ => .ok (f x) σ) := by
  rw [h]; exact ⟨I', A⟩

/-- a call that writes no array object and returned (`he`: `exec op σ` is `r` with its value wrapped) -/
theorem good_plain {op : Op} {σ σ' : State} {α : Type} {r : Res α} {f : α → Val} {v : α}
    (hp : op.plain = true) (I : Inv σ) (hd : op.dom σ) (h : r = .ok v σ') (I' : Inv σ')
    (he : exec op σ = (r >>- fun x σ => .ok (f x) σ) := by rfl) :
    GoodOutcome op σ (r >>- fun x σ => .ok (f x) σ) :=
  good_ok h I' fun AI => ainv_plain hp I I' AI hd (by rw [he, h]; rfl)

theorem good_plain_inv {op : Op} {σ : State} {α : Type} {r : Res α} {f : α → Val} {v : α} {P : State → Prop}
    (hp : op.plain = true) (I : Inv σ) (hd : op.dom σ) (h : ∃ σ', r = .ok v σ' ∧ Inv σ' ∧ P σ')
    (he : exec op σ = (r >>- fun x σ => .ok (f x) σ) := by rfl) :
    GoodOutcome op σ (r >>- fun x σ => .ok (f x) σ) :=
  let ⟨_, h, I', _⟩ := h
  good_plain hp I hd h I' he

theorem exec_stamped {op : Op} {σ : State} (I : Inv σ) (hd : op.dom σ)
    (hs : ∀ x, x ∈ op.reads → x < σ.n → stamped σ x) : GoodOutcome op σ (exec op σ) := by
  have P : ∀ {a k}, σ.is a k → a ∈ op.reads → Proper σ (· = k) a := fun h hm => ⟨h.1, hs _ hm h.1, h.2⟩
  cases op with
  | gInit a =>
    exact good_plain (r := .ok () (gInit a σ)) (f := fun _ => .unit) rfl I hd
      rfl (gSet_guarded_inv 0 I hd.2)
  | gSet a p =>
    exact good_plain (r := .ok () (gSet a p σ)) (f := fun _ => .unit) rfl I hd
      rfl (gSet_guarded_inv p I hd.1.2)
  | gGet a => exact good_plain rfl I hd (gGet_eval (hs a (.head _) hd.1)) I
  | gCopy d s =>
    refine good_plain rfl I hd (σ' := gSet d (σ.obj s).ptr σ) (v := ()) ?_ (gSet_guarded_inv _ I hd.1.2)
    simp only [gCopy, gGet_eval (hs s (.head _) hd.2.1), bind_ok]
  | gSwap a b =>
    exact good_plain_inv rfl I hd (gSwap_inv I (P hd.1 (.head _)) (P hd.2 (.tail _ (.head _)))
      (Or.inr (Or.inr rfl)))
  | uInit a =>
    exact good_plain (r := .ok () (uInit a σ)) (f := fun _ => .unit) rfl I hd rfl (uInit_inv I hd.2)
  | uAlloc a sz c p ans => exact good_plain_inv rfl I hd (uAlloc_inv I (P hd.1 (.head _)))
  | uGet a => exact good_plain rfl I hd (gGet_eval (hs a (.head _) hd.1)) I
  | uRelease a =>
    obtain ⟨σ', h, I', _⟩ := uRelease_inv I (P hd (.head _))
    rw [h]; exact ⟨I', fun AI => ainv_plain rfl I I' AI hd h⟩
  | uSwap a b =>
    exact good_plain_inv rfl I hd (uSwap_inv I (P hd.1 (.head _)) (P hd.2 (.tail _ (.head _))))
  | uReset a => exact good_plain_inv rfl I hd (uReset_inv I (P hd (.head _)))
  | sInit a =>
    exact good_plain (r := .ok () (sInit a σ)) (f := fun _ => .unit) rfl I hd
      rfl (sInit_inv I (Or.inl hd.1.2) hd.2)
  | sAlloc a sz c ad am =>
    exact good_plain_inv rfl I hd (sAlloc_inv I (P hd.1 (.head _)).shared)
  | sUnique a =>
    exact good_plain rfl I hd (sUnique_eval I (P hd (.head _)).shared) I
  | sGet a => exact good_plain rfl I hd (sGet_eval I (P hd (.head _)).shared) I
  | sShare e n =>
    exact good_plain_inv rfl I hd (sShare_inv I (P hd.1 (.head _)).shared (P hd.2 (.tail _ (.head _))).shared)
  | sSwap a b =>
    exact good_plain_inv rfl I hd (gSwap_inv I (P hd.1 (.head _)) (P hd.2 (.tail _ (.head _))) (Or.inl rfl))
  | sReset a => exact good_plain_inv rfl I hd (sReset_inv I (P hd (.head _)).shared)
  | wInit a =>
    exact good_plain (r := .ok () (sInit a σ)) (f := fun _ => .unit) rfl I hd
      rfl (sInit_inv I (Or.inr (Or.inl hd.1.2)) hd.2)
  | wFrom w s =>
    exact good_plain_inv rfl I hd (wFrom_inv I (P hd.1 (.head _)) (P hd.2 (.tail _ (.head _))).shared)
  | wLock w s =>
    obtain ⟨σ', _, _, h, I', _⟩ := wLock_inv I (P hd.1 (.head _)) (P hd.2 (.tail _ (.head _))).shared
    exact good_plain rfl I hd h I'
  | wSwap a b =>
    exact good_plain_inv rfl I hd (gSwap_inv I (P hd.1 (.head _)) (P hd.2 (.tail _ (.head _)))
      (Or.inr (Or.inl rfl)))
  | wReset a => exact good_plain_inv rfl I hd (wReset_inv I (P hd (.head _)))
  | rawCopy dst src => exact ⟨rawCopy_inv I hd.2.2.2.1 hd.2.2.2.2, fun AI => ainv_rawCopy AI hd⟩
  | aInit a =>
    exact ⟨fields_inv (a := a) 0 0 (sInit_inv I (Or.inr (Or.inr hd.1.2)) hd.2), ainv_aInit a⟩
  | aSize a => exact ⟨I, id⟩
  | aData a => exact good_ok (aData_eval I (P hd (.head _))) I id
  | aAt a i =>
    simp only [exec, aAt_eval I (P hd.1 (.head _))]
    split
    · exact ⟨trivial, Or.inl rfl, rfl⟩
    · split
      · exact ⟨trivial, Or.inr rfl, rfl⟩
      · exact ⟨I, id⟩
  | aReset a =>
    obtain ⟨σ', h, I', _, ho⟩ := aReset_inv I (P hd (.head _))
    exact good_ok h I' (ainv_aReset I I' (unitR_ok h) (by unfold EmptyView; rw [ho]; simp))
  | aRelease a =>
    obtain ⟨l, σ', h, I', _, hcase⟩ := aRelease_inv I (P hd (.head _))
    refine good_ok h I' fun AI => ?_
    rcases hcase with rfl | ⟨hr, ho⟩
    · exact AI
    · exact ainv_aReset I I' (unitR_ok hr) ho AI
  | aAlloc a nm sz ad am =>
    obtain ⟨σ', h, I', _, hdesc, hres⟩ := aAlloc_inv (nm := nm) (sz := sz) (ad := ad) (am := am) I (P hd.1 (.head _))
    refine good_ok h I' fun AI => ainv_one (op := .aAlloc a nm sz ad am) I I' AI (by simp) rfl (unitR_ok h) hdesc fun _ => ?_
    rcases hres with ⟨hz, _⟩ | ⟨⟨d, V⟩, hfit, _, _⟩
    · exact clause_empty hz
    · exact clause_alloc V hfit hd.2.1 hd.2.2
  | aSet a e nm sz ad am =>
    obtain ⟨σ', h, I', S', hdesc, hres⟩ := aSet_inv (e := e) (nm := nm) (sz := sz) (ad := ad) (am := am) I (P hd.1 (.head _))
    refine good_ok h I' fun AI => ainv_one (op := .aSet a e nm sz ad am) I I' AI (by simp) rfl (unitR_ok h) hdesc
      fun _ => ?_
    rcases hres with ⟨hz, _⟩ | ⟨⟨d, V⟩, _, _⟩
    · exact clause_empty hz
    · exact clause_set V hd.2.1 hd.2.2.1 hd.2.2.2.1 (by rw [S'.ext]; exact hd.2.2.2.2)
        (by rw [S'.ext]; exact AI.ext_lt e)
  | aSlice a b e s =>
    have A := P hd.1 (.head _)
    have T := P hd.2.1 (.tail _ (.head _))
    obtain ⟨h1, h2⟩ := aSlice_inv (beg := b) (en := e) I A T
    by_cases hc : (σ.obj a).ptr = 0 ∨ e < b ∨
        e > ((σ.blk (σ.blk (σ.obj a).ptr).up).anm + W - (σ.obj a).off) % W
    · simp only [exec, unitR, h1 hc, bind_stop]; exact ⟨trivial, Or.inl rfl, rfl⟩
    · obtain ⟨σ', h, I', _, ho⟩ := h2 hc
      refine good_ok h I' fun AI => ainv_view (op := .aSlice a b e s) I I' AI (by simp) rfl rfl (unitR_ok h) A
        (fun h => hc (Or.inl h)) T (by rw [ho]; simp) fun hca => ?_
      have hoff : (σ'.obj s).off = ((σ.obj a).off + b) % W := by rw [ho]; simp
      have hlen : (σ'.obj s).len = e - b := by rw [ho]; simp
      rw [hoff, hlen]
      exact slice_inside hca.1 hca.2.2.1 (fun h => hc (Or.inr (Or.inl h))) (fun h => hc (Or.inr (Or.inr h)))
  | aUnslice s a =>
    have A := P hd.1 (.tail _ (.head _))
    have S := P hd.2 (.head _)
    obtain ⟨h1, h2⟩ := aUnslice_inv I A S
    by_cases hp : (σ.obj s).ptr = 0
    · simp only [exec, unitR, h1 hp, bind_stop]; exact ⟨trivial, Or.inl rfl, rfl⟩
    · obtain ⟨σ', h, I', _, ho⟩ := h2 hp
      refine good_ok h I' fun AI => ainv_view (op := .aUnslice s a) I I' AI (by simp) rfl rfl (unitR_ok h) S hp A
        (by rw [ho]; simp) fun _ => ?_
      rw [ho]; simp

/-- what can have happened before the abort of a call through the stray object `x`: nothing; or the
plain `off`/`len` words of `x` itself were overwritten (slice / unslice into a stray target); or a
*different*, properly stamped argument object `y` was reset by the library (share, weak-from,
weak-lock reset their target first) -/
inductive Before (σ : State) (x : Nat) : State → Prop
  | nothing : Before σ x σ
  | fields (off len : Nat) : Before σ x (σ.setObj x { σ.obj x with off := off, len := len })
  | coReset (y : Nat) (σ1 : State) : y ≠ x → stamped σ y →
      (sReset y σ = .ok () σ1 ∨ wReset y σ = .ok () σ1) → Before σ x σ1

theorem stray_one {σ : State} {x a : Nat} {r : Res Val} (hx : x ∈ [a]) (hs : ¬ stamped σ x)
    (h : ¬ stamped σ a → r = .stop .abort σ) : ∃ σ', r = .stop .abort σ' ∧ Before σ x σ' := by
  cases List.mem_singleton.mp hx
  exact ⟨σ, h hs, .nothing⟩

theorem stray_either {σ : State} {x a b : Nat} {r : Res Val} (hx : x ∈ [a, b]) (hs : ¬ stamped σ x)
    (h : ¬ stamped σ a ∨ ¬ stamped σ b → r = .stop .abort σ) :
    ∃ σ', r = .stop .abort σ' ∧ Before σ x σ' := by
  refine ⟨σ, h ?_, .nothing⟩
  rcases List.mem_cons.mp hx with rfl | hx
  · exact Or.inl hs
  · cases List.mem_singleton.mp hx; exact Or.inr hs

theorem stray_other {σ : State} {x a b : Nat} (hx : x ∈ [a, b]) (hs : ¬ stamped σ x) :
    (stamped σ a → x = b ∧ a ≠ b) ∧ (stamped σ b → x = a ∧ b ≠ a) := by
  rcases List.mem_cons.mp hx with rfl | hx
  · exact ⟨fun h => absurd h hs, fun h => ⟨rfl, fun e => hs (e ▸ h)⟩⟩
  · cases List.mem_singleton.mp hx
    exact ⟨fun h => ⟨rfl, fun e => hs (e ▸ h)⟩, fun h => absurd h hs⟩

theorem exec_stray {op : Op} {σ : State} {x : Nat} (I : Inv σ) (hd : op.dom σ) (hx : x ∈ op.reads)
    (hs : ¬ stamped σ x) : ∃ σ', exec op σ = .stop .abort σ' ∧ Before σ x σ' := by
  cases op with
  | gInit _ | gSet _ _ | uInit _ | sInit _ | wInit _ | aInit _ | aSize _ | rawCopy _ _ => cases hx
  | gGet a => exact stray_one hx hs fun h => bind_stop_of_stop (gGet_stray h)
  | gCopy d s => exact stray_one hx hs fun h => bind_stop_of_stop (gCopy_stray h)
  | gSwap a b => exact stray_either hx hs fun h => bind_stop_of_stop (gSwap_stray h)
  | uAlloc a sz c p ans => exact stray_one hx hs fun h => bind_stop_of_stop (uAlloc_stray h)
  | uGet a => exact stray_one hx hs fun h => bind_stop_of_stop (uGet_stray h)
  | uRelease a => exact stray_one hx hs fun h => bind_stop_of_stop (uRelease_stray h)
  | uSwap a b => exact stray_either hx hs fun h => bind_stop_of_stop (uSwap_stray h)
  | uReset a => exact stray_one hx hs fun h => bind_stop_of_stop (uReset_stray h)
  | sAlloc a sz c ad am => exact stray_one hx hs fun h => bind_stop_of_stop (sAlloc_stray h)
  | sUnique a => exact stray_one hx hs fun h => bind_stop_of_stop (sUnique_stray h)
  | sGet a => exact stray_one hx hs fun h => bind_stop_of_stop (sGet_stray h)
  | sReset a => exact stray_one hx hs fun h => bind_stop_of_stop (sReset_stray h)
  | wReset a => exact stray_one hx hs fun h => bind_stop_of_stop (wReset_stray h)
  | sSwap a b => exact stray_either hx hs fun h => bind_stop_of_stop (gSwap_stray h)
  | wSwap a b => exact stray_either hx hs fun h => bind_stop_of_stop (gSwap_stray h)
  | aSet a e nm sz ad am => exact stray_one hx hs fun h => bind_stop_of_stop (aSet_stray h)
  | aRelease a => exact stray_one hx hs fun h => bind_stop_of_stop (aRelease_stray h)
  | aAlloc a nm sz ad am => exact stray_one hx hs fun h => bind_stop_of_stop (aAlloc_stray h)
  | aReset a => exact stray_one hx hs fun h => bind_stop_of_stop (aReset_stray h)
  | aData a => exact stray_one hx hs fun h => bind_stop_of_stop (aData_stray h)
  | aAt a i => exact stray_one hx hs fun h => bind_stop_of_stop (aAt_stray h)
  | sShare e n =>
    by_cases hsn : stamped σ n
    · obtain ⟨rfl, hne⟩ := (stray_other hx hs).2 hsn
      obtain ⟨σ1, h1, h2⟩ := sShare_stray_e I (Proper.shared ⟨hd.2.1, hsn, hd.2.2⟩) hs
      exact ⟨σ1, bind_stop_of_stop h2, .coReset n σ1 hne hsn (Or.inl h1)⟩
    · exact ⟨σ, bind_stop_of_stop (sShare_stray_n hsn), .nothing⟩
  | wFrom w s =>
    by_cases hsw : stamped σ w
    · obtain ⟨rfl, hne⟩ := (stray_other hx hs).1 hsw
      obtain ⟨σ1, h1, h2⟩ := wFrom_stray_s I ⟨hd.1.1, hsw, hd.1.2⟩ hs
      exact ⟨σ1, bind_stop_of_stop h2, .coReset w σ1 hne hsw (Or.inr h1)⟩
    · exact ⟨σ, bind_stop_of_stop (wFrom_stray_w hsw), .nothing⟩
  | wLock w s =>
    by_cases hss : stamped σ s
    · obtain ⟨rfl, hne⟩ := (stray_other hx hs).2 hss
      obtain ⟨σ1, h1, h2⟩ := wLock_stray_w I (Proper.shared ⟨hd.2.1, hss, hd.2.2⟩) hs
      exact ⟨σ1, bind_stop_of_stop h2, .coReset s σ1 hne hss (Or.inl h1)⟩
    · exact ⟨σ, bind_stop_of_stop (wLock_stray_s hss), .nothing⟩
  | aSlice a b e s =>
    by_cases hsa : stamped σ a
    · obtain ⟨rfl, _⟩ := (stray_other hx hs).1 hsa
      rcases aSlice_stray_s (b := b) (e := e) I ⟨hd.1.1, hsa, hd.1.2⟩ hs with h | h
      · exact ⟨σ, bind_stop_of_stop h, .nothing⟩
      · exact ⟨_, bind_stop_of_stop h, .fields (((σ.obj a).off + b) % W) (e - b)⟩
    · exact ⟨σ, bind_stop_of_stop (aSlice_stray_a hsa), .nothing⟩
  | aUnslice s a =>
    by_cases hss : stamped σ s
    · obtain ⟨rfl, _⟩ := (stray_other hx hs).1 hss
      rcases aUnslice_stray_a I ⟨hd.2.1, hss, hd.2.2⟩ hs with h | h
      · exact ⟨σ, bind_stop_of_stop h, .nothing⟩
      · exact ⟨_, bind_stop_of_stop h, .fields 0 (σ.blk (σ.blk (σ.obj s).ptr).up).anm⟩
    · exact ⟨σ, bind_stop_of_stop (aUnslice_stray_s hss), .nothing⟩

theorem exec_outcome {op : Op} {σ : State} (I : Inv σ) (hd : op.dom σ) :
    GoodOutcome op σ (exec op σ) ∨ ∃ σ', exec op σ = .stop .abort σ' := by
  by_cases h : ∃ x, x ∈ op.reads ∧ ¬ stamped σ x
  · obtain ⟨x, hx, hs⟩ := h
    obtain ⟨σ', h', _⟩ := exec_stray I hd hx hs
    exact Or.inr ⟨σ', h'⟩
  · exact Or.inl (exec_stamped I hd fun x hx _ => Classical.not_not.mp fun hn => h ⟨x, hx, hn⟩)

theorem exec_same {op : Op} {σ σ' : State} {v : Val} (h : exec op σ = .ok v σ') : Same σ σ' := by
  by_cases hr : ∃ d s, op = .rawCopy d s
  · obtain ⟨d, s, rfl⟩ := hr
    cases h; exact ⟨rfl, rfl, rfl⟩
  · exact Same.of_ext (exec_ext (fun d s e => hr ⟨d, s, e⟩) h)

theorem exec_good {op : Op} {σ σ' : State} {v : Val} (I : Inv σ) (hd : op.dom σ)
    (h : exec op σ = .ok v σ') : Inv σ' ∧ (AInv σ → AInv σ') := by
  rcases exec_outcome I hd with g | ⟨σ1, h1⟩
  · rw [h] at g; exact g
  · rw [h] at h1; cases h1

theorem exec_inv {op : Op} {σ σ' : State} {v : Val} (I : Inv σ) (hd : op.dom σ)
    (h : exec op σ = .ok v σ') : Inv σ' ∧ Same σ σ' :=
  ⟨(exec_good I hd h).1, exec_same h⟩

/-- **AInv is preserved by every operation** (any arguments, malloc answers, with stray copies around) -/
theorem exec_ainv {op : Op} {σ σ' : State} {v : Val} (I : Inv σ) (AI : AInv σ) (hd : op.dom σ)
    (h : exec op σ = .ok v σ') : AInv σ' :=
  (exec_good I hd h).2 AI

theorem step_inv {op : Op} {σ σ' : State} {v : Val} (I : Inv σ) (h : step op σ = .ok v σ') :
    Inv σ' ∧ Same σ σ' :=
  let ⟨hd, h⟩ := step_eq_ok.mp h
  exec_inv I hd h

theorem run_induct {P : State → Prop} (hstep : ∀ op σ v σ', P σ → step op σ = .ok v σ' → P σ')
    {ops : List Op} {σ σ' : State} {vs : List Val} (hP : P σ) (h : run ops σ = .ok vs σ') : P σ' := by
  induction ops generalizing σ vs with
  | nil => cases h; exact hP
  | cons op ops ih =>
    obtain ⟨v, σ1, h1, h2⟩ := bind_eq_ok h
    obtain ⟨vs', σ2, h3, h4⟩ := bind_eq_ok h2
    cases h4
    exact ih (hstep op σ v σ1 hP h1) h3

/-- the invariant holds after every program (history) that ran to completion -/
theorem run_inv {ops : List Op} {σ σ' : State} {vs : List Val} (I : Inv σ)
    (h : run ops σ = .ok vs σ') : Inv σ' ∧ Same σ σ' :=
  run_induct (P := fun τ => Inv τ ∧ Same σ τ)
    (fun _ _ _ _ hP h1 => ⟨(step_inv hP.1 h1).1, hP.2.trans (step_inv hP.1 h1).2⟩) ⟨I, .refl σ⟩ h

/-- no operation ever touches freed memory or frees twice -/
theorem step_never_asan {op : Op} {σ σ' : State} (I : Inv σ) : step op σ ≠ .stop .asan σ' := by
  by_cases hd : op.dom σ
  · rw [step_of_dom hd]
    intro h
    rcases exec_outcome I hd with g | ⟨σ1, h1⟩
    · rw [h] at g
      rcases g.2.1 with hk | hk <;> cases hk
    · rw [h] at h1; cases h1
  · rw [step_not_dom hd]; nofun

end Cstl.Mem
