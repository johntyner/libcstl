import Cstl.Mem.Lemmas
namespace Cstl.Mem

/-- the log consists of allocation events and release groups: the release of
managed memory with a registered clear callback is immediately preceded by that
callback (with the registered argument), no callback runs otherwise -/
inductive LogOk (g : Nat → Blk) : List Ev → Prop
  | nil : LogOk g []
  | alloc {l : List Ev} (b sz : Nat) : LogOk g l → LogOk g (l ++ [.alloc b sz])
  | allocFail {l : List Ev} (sz : Nat) : LogOk g l → LogOk g (l ++ [.allocFail sz])
  | free {l : List Ev} (b : Nat) : LogOk g l → ((g b).isData = true ∨ (g b).clrG = 0) →
      LogOk g (l ++ [.free b])
  | clrFree {l : List Ev} (f b pr : Nat) : LogOk g l → (g b).isData = false → f ≠ 0 →
      f = (g b).clrG → pr = (g b).privG → LogOk g (l ++ [.clr f b pr, .free b])

theorem LogOk.congr {g g' : Nat → Blk} {l : List Ev}
    (h : ∀ b, Ev.free b ∈ l →
      (g' b).isData = (g b).isData ∧ (g' b).clrG = (g b).clrG ∧ (g' b).privG = (g b).privG)
    (L : LogOk g l) : LogOk g' l := by
  induction L with
  | nil => exact .nil
  | alloc b sz _ ih => exact .alloc b sz (ih (fun b hb => h b (by simp [hb])))
  | allocFail sz _ ih => exact .allocFail sz (ih (fun b hb => h b (by simp [hb])))
  | free b _ hb ih =>
    have hh := h b (by simp)
    exact .free b (ih (fun b hb => h b (by simp [hb]))) (by rw [hh.1, hh.2.1]; exact hb)
  | clrFree f b pr _ h1 h2 h3 h4 ih =>
    have hh := h b (by simp)
    exact .clrFree f b pr (ih (fun b hb => h b (by simp [hb]))) (by rw [hh.1]; exact h1) h2
      (by rw [hh.2.1]; exact h3) (by rw [hh.2.2]; exact h4)

theorem LogOk.dispose {g : Nat → Blk} {l : List Ev} {p c pr : Nat} (L : LogOk g l) (hd : (g p).isData = false)
    (hc : c = (g p).clrG) (hpr : pr = (g p).privG) :
    LogOk g (l ++ (if c ≠ 0 then [.clr c p pr] else []) ++ [.free p]) := by
  by_cases h : c = 0
  · simp only [h, ne_eq, not_true_eq_false, if_false, List.append_nil]
    exact .free p L (Or.inr (hc ▸ h))
  · simp only [h, ne_eq, not_false_eq_true, if_true]
    rw [List.append_assoc]; exact .clrFree c p pr L hd h hc hpr

theorem LogOk.freeIf {g : Nat → Blk} {l : List Ev} {p : Nat} {c : Prop} [Decidable c] (L : LogOk g l)
    (hd : (g p).isData = true) : LogOk g (l ++ if c then [.free p] else []) := by
  split
  · exact .free p L (Or.inl hd)
  · rw [List.append_nil]; exact L

theorem split_append_cons {α : Type} {l' t l1 l2 : List α} {x : α} (h : l' ++ t = l1 ++ x :: l2) :
    (∃ l2', l' = l1 ++ x :: l2' ∧ l2 = l2' ++ t) ∨ (∃ t1, l1 = l' ++ t1 ∧ t = t1 ++ x :: l2) := by
  rcases List.append_eq_append_iff.mp h with ⟨a', h1, h2⟩ | ⟨c', h1, h2⟩
  · exact Or.inr ⟨a', h1, h2⟩
  · cases c' with
    | nil =>
      simp at h1 h2
      exact Or.inr ⟨[], by simp [h1], by simp [h2]⟩
    | cons y c'' =>
      simp at h2
      obtain ⟨rfl, rfl⟩ := h2
      exact Or.inl ⟨c'', h1, rfl⟩

theorem append_eq_snoc {α : Type} {a b l0 : List α} {x : α} (h : a ++ b = l0 ++ [x]) :
    (b = [] ∧ a = l0 ++ [x]) ∨ ∃ b', b = b' ++ [x] := by
  rcases List.append_eq_append_iff.mp h with ⟨a', h1, h2⟩ | ⟨c', h1, h2⟩
  · -- l0 = a ++ a', b = a' ++ [x]
    exact Or.inr ⟨a', h2⟩
  · -- a = l0 ++ c', [x] = c' ++ b
    cases c' with
    | nil => simp at h2; exact Or.inr ⟨[], by simp [h2]⟩
    | cons y t =>
      simp at h2
      obtain ⟨rfl, ht, hb⟩ := h2
      subst ht; subst hb
      exact Or.inl ⟨rfl, by simpa using h1⟩

theorem single_eq {α : Type} {t1 l2 : List α} {e x : α} (h : [e] = t1 ++ x :: l2) :
    t1 = [] ∧ x = e ∧ l2 = [] := by
  cases t1 with
  | nil => simp at h; exact ⟨rfl, h.1.symm, h.2⟩
  | cons y t => simp at h

theorem pair_eq {α : Type} {t1 l2 : List α} {c f x : α} (h : [c, f] = t1 ++ x :: l2) :
    (t1 = [] ∧ x = c ∧ l2 = [f]) ∨ (t1 = [c] ∧ x = f ∧ l2 = []) := by
  cases t1 with
  | nil => simp at h; exact Or.inl ⟨rfl, h.1.symm, h.2.symm⟩
  | cons y t =>
    simp at h
    obtain ⟨rfl, h2⟩ := h
    have := single_eq h2
    exact Or.inr ⟨by rw [this.1], this.2.1, this.2.2⟩

/-- what a well-formed log says about the event `x` between `l1` and `l2` -/
def EvOk (g : Nat → Blk) (l1 : List Ev) (x : Ev) (l2 : List Ev) : Prop :=
  (∀ f b pr, x = .clr f b pr →
    ∃ l3, l2 = .free b :: l3 ∧ f ≠ 0 ∧ f = (g b).clrG ∧ pr = (g b).privG ∧ (g b).isData = false) ∧
  (∀ b, x = .free b → (g b).isData = false → (g b).clrG ≠ 0 →
    ∃ l0, l1 = l0 ++ [.clr (g b).clrG b (g b).privG])

theorem EvOk.append {g : Nat → Blk} {l1 l2 : List Ev} {x : Ev} (h : EvOk g l1 x l2) (t : List Ev) :
    EvOk g l1 x (l2 ++ t) :=
  ⟨fun f b pr e => let ⟨l3, h3, hp⟩ := h.1 f b pr e; ⟨l3 ++ t, by rw [h3]; rfl, hp⟩, h.2⟩

/-- by induction on the log: an event lies in the log so far, or in the group appended last -/
theorem LogOk.evOk {g : Nat → Blk} {l : List Ev} (L : LogOk g l) :
    ∀ l1 x l2, l = l1 ++ x :: l2 → EvOk g l1 x l2 := by
  induction L with
  | nil => intro l1 x l2 h; simp at h
  | alloc b0 sz _ ih =>
    intro l1 x l2 h
    rcases split_append_cons h with ⟨l2', h1, rfl⟩ | ⟨t1, _, h2⟩
    · exact (ih _ _ _ h1).append _
    · obtain ⟨_, rfl, _⟩ := single_eq h2
      exact ⟨nofun, nofun⟩
  | allocFail sz _ ih =>
    intro l1 x l2 h
    rcases split_append_cons h with ⟨l2', h1, rfl⟩ | ⟨t1, _, h2⟩
    · exact (ih _ _ _ h1).append _
    · obtain ⟨_, rfl, _⟩ := single_eq h2
      exact ⟨nofun, nofun⟩
  | free b0 _ hb ih =>
    intro l1 x l2 h
    rcases split_append_cons h with ⟨l2', h1, rfl⟩ | ⟨t1, _, h2⟩
    · exact (ih _ _ _ h1).append _
    · obtain ⟨_, rfl, _⟩ := single_eq h2
      refine ⟨nofun, fun b e hd hc => ?_⟩
      cases e
      rcases hb with hb | hb
      · rw [hd] at hb; cases hb
      · exact absurd hb hc
  | clrFree f0 b0 pr0 _ hd hf hc hp ih =>
    intro l1 x l2 h
    rcases split_append_cons h with ⟨l2', h1, rfl⟩ | ⟨t1, ht, h2⟩
    · exact (ih _ _ _ h1).append _
    · rcases pair_eq h2 with ⟨_, rfl, rfl⟩ | ⟨ht1, rfl, _⟩
      · exact ⟨fun f b pr e => by cases e; exact ⟨[], rfl, hf, hc, hp, hd⟩, nofun⟩
      · exact ⟨nofun, fun b e _ _ => by cases e; exact ⟨_, by rw [ht, ht1, hc, hp]⟩⟩

theorem LogOk.not_end_clr {g : Nat → Blk} {l : List Ev} (L : LogOk g l) :
    ∀ l0 f b pr, l ≠ l0 ++ [Ev.clr f b pr] := by
  intro l0 f b pr h
  obtain ⟨l3, h3, _⟩ := (L.evOk l0 _ [] h).1 f b pr rfl
  cases h3

/-- the event log and the `live` flags tell the same story: a block is live iff
it was allocated and not yet freed; nothing is freed twice -/
structure LogInv (σ : State) : Prop where
  live_iff : ∀ b, (σ.blk b).live = true ↔ ((∃ sz, Ev.alloc b sz ∈ σ.log) ∧ Ev.free b ∉ σ.log)
  alloc_lt : ∀ b sz, Ev.alloc b sz ∈ σ.log → b < σ.next
  free_once : ∀ b, σ.log.count (Ev.free b) ≤ 1
  free_alloc : ∀ b, Ev.free b ∈ σ.log → ∃ sz, Ev.alloc b sz ∈ σ.log

theorem LogInv.setBlk {σ : State} (I : LogInv σ) {b : Nat} {k : Blk} (hk : k.live = (σ.blk b).live) :
    LogInv (σ.setBlk b k) := by
  refine ⟨fun x => ?_, I.alloc_lt, I.free_once, I.free_alloc⟩
  by_cases hx : x = b
  · subst hx; simp only [setBlk_blk, if_true, setBlk_log, hk]; exact I.live_iff x
  · simp only [setBlk_blk, hx, if_false, setBlk_log]; exact I.live_iff x

theorem LogInv.emit {σ : State} (I : LogInv σ) {e : Ev} (ha : ∀ b sz, e ≠ .alloc b sz) (hf : ∀ b, e ≠ .free b) :
    LogInv (σ.emit e) := by
  have hA : ∀ b sz, Ev.alloc b sz ∈ σ.log ++ [e] ↔ Ev.alloc b sz ∈ σ.log := fun b sz => by
    rw [List.mem_append, List.mem_singleton]
    exact ⟨fun h => h.resolve_right (fun h' => ha b sz h'.symm), Or.inl⟩
  have hF : ∀ b, Ev.free b ∈ σ.log ++ [e] ↔ Ev.free b ∈ σ.log := fun b => by
    rw [List.mem_append, List.mem_singleton]
    exact ⟨fun h => h.resolve_right (fun h' => hf b h'.symm), Or.inl⟩
  refine ⟨fun x => ?_, fun b sz hb => I.alloc_lt b sz ((hA b sz).mp hb), fun b => ?_, fun b hb => ?_⟩
  · simp only [emit_blk, emit_log, hA, hF]; exact I.live_iff x
  · have hne : (e == Ev.free b) = false := beq_eq_false_iff_ne.mpr (hf b)
    simp only [emit_log, List.count_append, List.count_cons, List.count_nil, hne]
    exact I.free_once b
  · obtain ⟨sz, hs⟩ := I.free_alloc b ((hF b).mp hb)
    exact ⟨sz, (hA b sz).mpr hs⟩

theorem Prim.logInv {A : Nat → Prop} {D : Bool} {σ σ' : State} (p : Prim A D σ σ') (I : LogInv σ) :
    LogInv σ' := by
  cases p with
  | obj a o hA h => exact ⟨I.live_iff, I.alloc_lt, I.free_once, I.free_alloc⟩
  | desc b asz anm abuf hD => exact I.setBlk rfl
  | blk b k h => exact I.setBlk h.live
  | free p h =>
    have hp := (I.live_iff p).mp h
    refine ⟨?_, ?_, ?_, ?_⟩
    · intro x
      by_cases hx : x = p
      · subst hx; simp
      · have := I.live_iff x
        simp [hx, this]
    · intro b sz hb
      simp at hb
      exact I.alloc_lt b sz hb
    · intro b
      by_cases hb : b = p
      · subst hb
        have : List.count (Ev.free b) σ.log = 0 := List.count_eq_zero.mpr hp.2
        simp [List.count_append, this]
      · have := I.free_once b
        have hne : (Ev.free p == Ev.free b) = false := by simp; exact fun e => hb e.symm
        simp [List.count_append, List.count_cons, hne]
        exact this
    · intro b hb
      simp at hb
      rcases hb with hb | hb
      · obtain ⟨sz, hs⟩ := I.free_alloc b hb; exact ⟨sz, by simp [hs]⟩
      · subst hb; obtain ⟨sz, hs⟩ := hp.1; exact ⟨sz, by simp [hs]⟩
  | clr f p pr => exact I.emit nofun nofun
  | alloc sz g =>
    have hfresh : ∀ sz', Ev.alloc σ.next sz' ∉ σ.log := fun sz' hm => by
      have := I.alloc_lt _ _ hm; omega
    have hnofree : Ev.free σ.next ∉ σ.log := fun hm => by
      obtain ⟨sz', hs⟩ := I.free_alloc _ hm; exact hfresh sz' hs
    refine ⟨?_, ?_, ?_, ?_⟩
    · intro x
      by_cases hx : x = σ.next
      · subst hx; simp [hnofree]
      · have := I.live_iff x
        simp [hx, this]
    · intro b sz' hb
      simp at hb
      rcases hb with hb | hb
      · have := I.alloc_lt b sz' hb; simp; omega
      · simp [hb.1]
    · intro b; have := I.free_once b; simp [List.count_append]; exact this
    · intro b hb; simp at hb; obtain ⟨sz', hs⟩ := I.free_alloc b hb; exact ⟨sz', by simp [hs]⟩
  | allocFail sz => exact I.emit nofun nofun

theorem Steps.logInv {A : Nat → Prop} {D : Bool} {σ σ' : State} (h : Steps A D σ σ') (I : LogInv σ) :
    LogInv σ' := by
  induction h with
  | refl => exact I
  | tail _ p ih => exact p.logInv ih

theorem LogInv.init (n : Nat) (kind : Nat → Kind) (es : Nat → Nat) : LogInv (State.init n kind es) :=
  ⟨fun b => by simp [State.init], fun b sz h => by simp [State.init] at h, fun b => by simp [State.init],
   fun b h => by simp [State.init] at h⟩

end Cstl.Mem
