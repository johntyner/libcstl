import Cstl.Mem.Model
/-
Every model function is a sequence of primitive steps (`Steps`), from which the
frame facts (ghosts never change, block ids only grow, the log only grows, self
stamps are only ever set to the object's own address) follow for all operations
at once; `LogInv` (in `Log`) follows the same way.  Around it, what the other
modules need of the model's own vocabulary: the state updates, the result monad,
`cnt`, `step`, and the `size_t` arithmetic of the array code.
-/
namespace Cstl.Mem

@[simp] theorem setObj_obj (σ : State) (a x : Nat) (o : Obj) :
    (σ.setObj a o).obj x = if x = a then o else σ.obj x := rfl
@[simp] theorem setObj_blk (σ : State) (a : Nat) (o : Obj) : (σ.setObj a o).blk = σ.blk := rfl
@[simp] theorem setObj_n (σ : State) (a : Nat) (o : Obj) : (σ.setObj a o).n = σ.n := rfl
@[simp] theorem setObj_kind (σ : State) (a : Nat) (o : Obj) : (σ.setObj a o).kind = σ.kind := rfl
@[simp] theorem setObj_next (σ : State) (a : Nat) (o : Obj) : (σ.setObj a o).next = σ.next := rfl
@[simp] theorem setObj_log (σ : State) (a : Nat) (o : Obj) : (σ.setObj a o).log = σ.log := rfl
@[simp] theorem setObj_ext (σ : State) (a : Nat) (o : Obj) : (σ.setObj a o).extSize = σ.extSize := rfl

@[simp] theorem setBlk_blk (σ : State) (b x : Nat) (k : Blk) :
    (σ.setBlk b k).blk x = if x = b then k else σ.blk x := rfl
@[simp] theorem setBlk_obj (σ : State) (b : Nat) (k : Blk) : (σ.setBlk b k).obj = σ.obj := rfl
@[simp] theorem setBlk_n (σ : State) (b : Nat) (k : Blk) : (σ.setBlk b k).n = σ.n := rfl
@[simp] theorem setBlk_kind (σ : State) (b : Nat) (k : Blk) : (σ.setBlk b k).kind = σ.kind := rfl
@[simp] theorem setBlk_next (σ : State) (b : Nat) (k : Blk) : (σ.setBlk b k).next = σ.next := rfl
@[simp] theorem setBlk_log (σ : State) (b : Nat) (k : Blk) : (σ.setBlk b k).log = σ.log := rfl
@[simp] theorem setBlk_ext (σ : State) (b : Nat) (k : Blk) : (σ.setBlk b k).extSize = σ.extSize := rfl

@[simp] theorem emit_obj (σ : State) (e : Ev) : (σ.emit e).obj = σ.obj := rfl
@[simp] theorem emit_blk (σ : State) (e : Ev) : (σ.emit e).blk = σ.blk := rfl
@[simp] theorem emit_n (σ : State) (e : Ev) : (σ.emit e).n = σ.n := rfl
@[simp] theorem emit_kind (σ : State) (e : Ev) : (σ.emit e).kind = σ.kind := rfl
@[simp] theorem emit_next (σ : State) (e : Ev) : (σ.emit e).next = σ.next := rfl
@[simp] theorem emit_log (σ : State) (e : Ev) : (σ.emit e).log = σ.log ++ [e] := rfl
@[simp] theorem emit_ext (σ : State) (e : Ev) : (σ.emit e).extSize = σ.extSize := rfl

@[simp] theorem gSet_obj (σ : State) (a p x : Nat) :
    (gSet a p σ).obj x = if x = a then { σ.obj a with self := a, ptr := p } else σ.obj x := rfl
@[simp] theorem gSet_blk (σ : State) (a p : Nat) : (gSet a p σ).blk = σ.blk := rfl
@[simp] theorem gSet_n (σ : State) (a p : Nat) : (gSet a p σ).n = σ.n := rfl
@[simp] theorem gSet_kind (σ : State) (a p : Nat) : (gSet a p σ).kind = σ.kind := rfl
@[simp] theorem gSet_next (σ : State) (a p : Nat) : (gSet a p σ).next = σ.next := rfl
@[simp] theorem gSet_log (σ : State) (a p : Nat) : (gSet a p σ).log = σ.log := rfl
@[simp] theorem gSet_ext (σ : State) (a p : Nat) : (gSet a p σ).extSize = σ.extSize := rfl

@[simp] theorem bind_ok {α β : Type} (v : α) (σ : State) (f : α → State → Res β) :
    (Res.ok v σ >>- f) = f v σ := rfl
@[simp] theorem bind_stop {α β : Type} (k : Stop) (σ : State) (f : α → State → Res β) :
    ((Res.stop k σ : Res α) >>- f) = .stop k σ := rfl

def Res.st {α : Type} : Res α → State
  | .ok _ σ => σ
  | .stop _ σ => σ

@[simp] theorem st_ok {α : Type} (v : α) (σ : State) : (Res.ok v σ).st = σ := rfl
@[simp] theorem st_stop {α : Type} (k : Stop) (σ : State) : (Res.stop k σ : Res α).st = σ := rfl

theorem bind_eq_ok {α β : Type} {r : Res α} {f : α → State → Res β} {w : β} {σ' : State}
    (h : (r >>- f) = .ok w σ') : ∃ v σ1, r = .ok v σ1 ∧ f v σ1 = .ok w σ' := by
  cases r with
  | ok v σ1 => exact ⟨v, σ1, rfl, h⟩
  | stop k σ1 => simp at h

theorem bind_stop_of_stop {α β : Type} {r : Res α} {f : α → State → Res β} {k : Stop} {σ' : State}
    (h : r = .stop k σ') : (r >>- f) = .stop k σ' := by
  rw [h]; rfl

def cnt (p : Nat → Prop) [DecidablePred p] : Nat → Nat
  | 0 => 0
  | n + 1 => cnt p n + (if p n then 1 else 0)

theorem cnt_eq_countP (p : Nat → Prop) [DecidablePred p] (n : Nat) :
    cnt p n = (List.range n).countP (fun x => decide (p x)) := by
  induction n with
  | zero => rfl
  | succ n ih => simp only [cnt, ih, List.range_succ, List.countP_append, List.countP_singleton, decide_eq_true_eq]

theorem cnt_congr {p q : Nat → Prop} [DecidablePred p] [DecidablePred q] {n : Nat}
    (h : ∀ x, x < n → (p x ↔ q x)) : cnt p n = cnt q n := by
  rw [cnt_eq_countP, cnt_eq_countP]
  exact List.countP_congr fun x hx => by simp [h x (List.mem_range.mp hx)]

theorem cnt_le (p : Nat → Prop) [DecidablePred p] (n : Nat) : cnt p n ≤ n := by
  rw [cnt_eq_countP]; exact Nat.le_trans List.countP_le_length (Nat.le_of_eq List.length_range)

theorem cnt_change {p q : Nat → Prop} [DecidablePred p] [DecidablePred q] {n a : Nat}
    (ha : a < n) (h : ∀ x, x < n → x ≠ a → (p x ↔ q x)) :
    cnt q n + (if p a then 1 else 0) = cnt p n + (if q a then 1 else 0) := by
  induction n with
  | zero => omega
  | succ n ih =>
    by_cases han : a = n
    · subst han
      have h1 : cnt p a = cnt q a :=
        cnt_congr (fun x hx => h x (Nat.lt_succ_of_lt hx) (Nat.ne_of_lt hx))
      simp only [cnt, h1]
      omega
    · have ha' : a < n := by omega
      have h1 := ih ha' (fun x hx hxa => h x (Nat.lt_succ_of_lt hx) hxa)
      have h2 := h n (Nat.lt_succ_self n) (fun e => han e.symm)
      simp only [cnt]
      by_cases hp : p n
      · have hq : q n := h2.mp hp
        simp only [hp, hq, if_true]; omega
      · have hq : ¬ q n := fun hq => hp (h2.mpr hq)
        simp only [hp, hq, if_false]; omega

theorem cnt_change2 {p q : Nat → Prop} [DecidablePred p] [DecidablePred q] {n a b : Nat}
    (ha : a < n) (hb : b < n) (hab : a ≠ b)
    (h : ∀ x, x < n → x ≠ a → x ≠ b → (p x ↔ q x)) :
    cnt q n + (if p a then 1 else 0) + (if p b then 1 else 0)
      = cnt p n + (if q a then 1 else 0) + (if q b then 1 else 0) := by
  -- go through the predicate that agrees with q at a and with p elsewhere
  let r : Nat → Prop := fun x => if x = a then q x else p x
  have : DecidablePred r := fun x => by
    by_cases hx : x = a
    · simp only [r, hx, if_true]; exact inferInstance
    · simp only [r, hx, if_false]; exact inferInstance
  have h1 := cnt_change (p := p) (q := r) ha (fun x _ hxa => by simp [r, hxa])
  have h2 := cnt_change (p := r) (q := q) hb (fun x hx hxb => by
    by_cases hxa : x = a
    · simp [r, hxa]
    · simp only [r, hxa, if_false]; exact h x hx hxa hxb)
  have hra : r a ↔ q a := by simp [r]
  have hba : b ≠ a := fun e => hab e.symm
  have hrb : r b ↔ p b := by simp [r, hba]
  simp only [hra] at h1
  simp only [hrb] at h2
  omega

theorem cnt_pos {p : Nat → Prop} [DecidablePred p] {n : Nat} :
    0 < cnt p n ↔ ∃ x, x < n ∧ p x := by
  simp [cnt_eq_countP, List.countP_pos_iff]

theorem cnt_zero {p : Nat → Prop} [DecidablePred p] {n : Nat} :
    cnt p n = 0 ↔ ∀ x, x < n → ¬ p x := by
  simp [cnt_eq_countP, List.countP_eq_zero]

theorem cnt_two {p : Nat → Prop} [DecidablePred p] {n a b : Nat}
    (ha : a < n) (hb : b < n) (hab : a ≠ b) (pa : p a) (pb : p b) : 2 ≤ cnt p n := by
  let q : Nat → Prop := fun x => x ≠ a ∧ p x
  have : DecidablePred q := fun x => by simp only [q]; exact inferInstance
  have h1 := cnt_change (p := p) (q := q) ha (fun x _ hxa => by simp [q, hxa])
  have hqa : ¬ q a := by simp [q]
  have hqb : 0 < cnt q n := cnt_pos.mpr ⟨b, hb, fun e => hab e.symm, pb⟩
  simp only [pa, hqa, if_true, if_false] at h1
  omega

theorem cnt_only {p : Nat → Prop} [DecidablePred p] {n a : Nat} (ha : a < n) (pa : p a)
    (h : ∀ x, x < n → x ≠ a → ¬ p x) : cnt p n = 1 := by
  have h1 := cnt_change (p := p) (q := fun _ => False) ha (fun x hx hxa => by simp [h x hx hxa])
  have h0 : cnt (fun _ : Nat => False) n = 0 := cnt_zero.mpr (fun _ _ h => h)
  simp only [pa, if_true, if_false] at h1
  omega

def swapIdx (a b x : Nat) : Nat := if x = b then a else if x = a then b else x

theorem swapIdx_swapIdx (a b x : Nat) : swapIdx a b (swapIdx a b x) = x := by
  unfold swapIdx
  by_cases h1 : x = b
  · subst h1; rw [if_pos rfl]; split <;> simp_all
  · by_cases h2 : x = a
    · subst h2; rw [if_neg h1, if_pos rfl, if_pos rfl]
    · rw [if_neg h1, if_neg h2, if_neg h1, if_neg h2]

theorem swapIdx_lt {a b x n : Nat} (ha : a < n) (hb : b < n) (hx : x < n) : swapIdx a b x < n := by
  unfold swapIdx; split
  · exact ha
  · split
    · exact hb
    · exact hx

theorem cnt_swapIdx {p : Nat → Prop} [DecidablePred p] {n a b : Nat} (ha : a < n) (hb : b < n) :
    cnt (fun x => p (swapIdx a b x)) n = cnt p n := by
  by_cases hab : a = b
  · subst hab
    refine cnt_congr fun x _ => ?_
    by_cases h : x = a <;> simp [swapIdx, h]
  · have h := cnt_change2 (p := p) (q := fun x => p (swapIdx a b x)) ha hb hab fun x _ h1 h2 => by
      simp only [swapIdx, h1, h2, if_false]
    simp only [swapIdx, if_true, hab, if_false] at h ⊢
    omega

theorem cnt_one_unique {p : Nat → Prop} [DecidablePred p] {n a b : Nat}
    (h : cnt p n = 1) (ha : a < n) (hb : b < n) (pa : p a) (pb : p b) : a = b := by
  by_cases hab : a = b
  · exact hab
  · have := cnt_two ha hb hab pa pb
    omega

/-- `k'` has the ghosts of `k`: what is written when a block is allocated and never again -/
structure Blk.SameGhost (k k' : Blk) : Prop where
  size : k'.size = k.size
  isData : k'.isData = k.isData
  ownerD : k'.ownerD = k.ownerD
  clrG : k'.clrG = k.clrG
  privG : k'.privG = k.privG

theorem Blk.SameGhost.refl (k : Blk) : Blk.SameGhost k k := ⟨rfl, rfl, rfl, rfl, rfl⟩

/-- `k'` is `k` but for the words of `struct cstl_shared_ptr_data` (`hard`, `soft`, `upOk`, `up`, `upClr`): a write to
the counts or to the embedded unique pointer -/
def Blk.same (k k' : Blk) : Prop :=
  k'.live = k.live ∧ k'.size = k.size ∧ k'.isData = k.isData ∧ k'.ownerD = k.ownerD ∧
  k'.clrG = k.clrG ∧ k'.privG = k.privG ∧ k'.asz = k.asz ∧ k'.anm = k.anm ∧ k'.abuf = k.abuf

theorem Blk.same.live {k k' : Blk} (h : Blk.same k k') : k'.live = k.live := h.1
theorem Blk.same.ghost {k k' : Blk} (h : Blk.same k k') : Blk.SameGhost k k' :=
  ⟨h.2.1, h.2.2.1, h.2.2.2.1, h.2.2.2.2.1, h.2.2.2.2.2.1⟩
theorem Blk.same.desc {k k' : Blk} (h : Blk.same k k') : k'.asz = k.asz ∧ k'.anm = k.anm ∧ k'.abuf = k.abuf :=
  h.2.2.2.2.2.2

theorem Blk.same_refl (k : Blk) : Blk.same k k := ⟨rfl, rfl, rfl, rfl, rfl, rfl, rfl, rfl, rfl⟩

/-- primitive steps; `A` = the objects that may be written, `D` = the descriptor words of a block may
be written -/
inductive Prim (A : Nat → Prop) (D : Bool) : State → State → Prop
  | obj (σ : State) (a : Nat) (o : Obj) (hA : A a) (h : o.self = (σ.obj a).self ∨ o.self = a) :
      Prim A D σ (σ.setObj a o)
  | blk (σ : State) (b : Nat) (k : Blk) (h : Blk.same (σ.blk b) k) : Prim A D σ (σ.setBlk b k)
  | desc (σ : State) (b asz anm abuf : Nat) (hD : D = true) :
      Prim A D σ (σ.setBlk b { σ.blk b with asz := asz, anm := anm, abuf := abuf })
  | free (σ : State) (p : Nat) (h : (σ.blk p).live = true) :
      Prim A D σ ((σ.setBlk p { σ.blk p with live := false }).emit (.free p))
  | clr (σ : State) (f p pr : Nat) : Prim A D σ (σ.emit (.clr f p pr))
  | alloc (σ : State) (sz : Nat) (g : Blk) :
      Prim A D σ { (σ.setBlk σ.next { g with live := true, size := sz }).emit (.alloc σ.next sz) with
               next := σ.next + 1 }
  | allocFail (σ : State) (sz : Nat) : Prim A D σ (σ.emit (.allocFail sz))

inductive Steps (A : Nat → Prop) (D : Bool) : State → State → Prop
  | refl (σ : State) : Steps A D σ σ
  | tail {σ σ1 σ2 : State} : Steps A D σ σ1 → Prim A D σ1 σ2 → Steps A D σ σ2

section
variable {A : Nat → Prop} {D : Bool}

theorem Steps.trans {σ σ1 σ2 : State} (h1 : Steps A D σ σ1) (h2 : Steps A D σ1 σ2) : Steps A D σ σ2 := by
  induction h2 with
  | refl => exact h1
  | tail _ p ih => exact Steps.tail ih p

/-! each lemma extends a step sequence from a fixed start `σ0` by the steps of one function:
`Steps σ0 σ → Steps σ0 (f σ).st` -/

theorem steps_bind {α β : Type} {σ0 : State} {r : Res α} {f : α → State → Res β}
    (h1 : Steps A D σ0 r.st) (h2 : ∀ v σ1, Steps A D σ0 σ1 → Steps A D σ0 (f v σ1).st) :
    Steps A D σ0 (r >>- f).st := by
  cases r with
  | ok v σ1 => exact h2 v σ1 h1
  | stop k σ1 => exact h1

theorem steps_gSet {σ0 σ : State} (a p : Nat) (hA : A a) (h : Steps A D σ0 σ) : Steps A D σ0 (gSet a p σ) :=
  Steps.tail h (Prim.obj σ a _ hA (Or.inr rfl))

theorem steps_fields {σ0 σ : State} (a : Nat) (o : Obj) (hA : A a) (ho : o.self = (σ.obj a).self)
    (h : Steps A D σ0 σ) : Steps A D σ0 (σ.setObj a o) := Steps.tail h (Prim.obj σ a o hA (Or.inl ho))

theorem steps_counts {σ0 σ : State} (b hard soft : Nat) (upOk : Bool) (up upClr : Nat) (h : Steps A D σ0 σ) :
    Steps A D σ0 (σ.setBlk b { σ.blk b with hard := hard, soft := soft, upOk := upOk, up := up, upClr := upClr }) :=
  Steps.tail h (Prim.blk σ b _ ⟨rfl, rfl, rfl, rfl, rfl, rfl, rfl, rfl, rfl⟩)

theorem steps_gGet {σ0 σ : State} (a : Nat) (h : Steps A D σ0 σ) : Steps A D σ0 (gGet a σ).st := by
  unfold gGet; split <;> exact h

theorem steps_malloc {σ0 σ : State} (sz : Nat) (ans : Bool) (g : Blk) (h : Steps A D σ0 σ) :
    Steps A D σ0 (malloc sz ans g σ).2 := by
  unfold malloc; split
  · exact Steps.tail h (Prim.alloc σ sz g)
  · exact Steps.tail h (Prim.allocFail σ sz)

theorem steps_free {σ0 σ : State} (p : Nat) (h : Steps A D σ0 σ) : Steps A D σ0 (free p σ).st := by
  unfold free; split
  · exact h
  · split
    · rename_i hl; exact Steps.tail h (Prim.free σ p hl)
    · exact h

theorem steps_dispose {σ0 σ : State} (p c pr : Nat) (h : Steps A D σ0 σ) :
    Steps A D σ0 (dispose p c pr σ).st := by
  unfold dispose; split
  · exact steps_free _ (Steps.tail h (Prim.clr σ c p pr))
  · exact steps_free _ h

theorem steps_uInit {σ0 σ : State} (a : Nat) (hA : A a) (h : Steps A D σ0 σ) : Steps A D σ0 (uInit a σ) := by
  unfold uInit
  exact steps_fields _ _ hA rfl (steps_gSet a 0 hA h)

theorem steps_gCopy {σ0 σ : State} (d s : Nat) (hA : A d) (h : Steps A D σ0 σ) :
    Steps A D σ0 (gCopy d s σ).st := by
  unfold gCopy
  exact steps_bind (steps_gGet _ h) (fun _ _ h1 => steps_gSet _ _ hA h1)

theorem steps_gSwap {σ0 σ : State} (a b : Nat) (hA : A a) (hB : A b) (h : Steps A D σ0 σ) :
    Steps A D σ0 (gSwap a b σ).st := by
  unfold gSwap
  exact steps_bind (steps_gGet _ h) (fun _ _ h1 => steps_bind (steps_gGet _ h1)
    (fun _ _ h2 => steps_gSet _ _ hB (steps_gSet _ _ hA h2)))

theorem steps_uReset {σ0 σ : State} (a : Nat) (hA : A a) (h : Steps A D σ0 σ) :
    Steps A D σ0 (uReset a σ).st := by
  unfold uReset
  exact steps_bind (steps_gGet _ h) (fun _ _ h1 => steps_bind (steps_dispose _ _ _ h1)
    (fun _ _ h2 => steps_uInit _ hA h2))

theorem steps_uAlloc {σ0 σ : State} (a sz c pr : Nat) (ans : Bool) (hA : A a) (h : Steps A D σ0 σ) :
    Steps A D σ0 (uAlloc a sz c pr ans σ).st := by
  unfold uAlloc
  refine steps_bind (steps_uReset _ hA h) (fun _ σ1 h1 => ?_)
  dsimp only
  split
  · split
    · exact steps_fields _ _ hA rfl (steps_gSet _ _ hA (steps_malloc _ _ _ h1))
    · exact steps_malloc _ _ _ h1
  · exact h1

theorem steps_uRelease {σ0 σ : State} (a : Nat) (hA : A a) (h : Steps A D σ0 σ) :
    Steps A D σ0 (uRelease a σ).st := by
  unfold uRelease
  exact steps_bind (steps_gGet _ h) (fun _ _ h1 => steps_uInit _ hA h1)

theorem steps_uSwap {σ0 σ : State} (a b : Nat) (hA : A a) (hB : A b) (h : Steps A D σ0 σ) :
    Steps A D σ0 (uSwap a b σ).st := by
  unfold uSwap
  refine steps_bind (steps_gSwap _ _ hA hB h) (fun _ σ1 h1 => ?_)
  dsimp only
  exact steps_fields _ _ hB rfl (steps_fields _ _ hA rfl h1)

theorem steps_upGet {σ0 σ : State} (d : Nat) (h : Steps A D σ0 σ) : Steps A D σ0 (upGet d σ).st := by
  unfold upGet; split
  · split <;> exact h
  · exact h

theorem steps_upInit {σ0 σ : State} (d : Nat) (h : Steps A D σ0 σ) : Steps A D σ0 (upInit d σ) :=
  steps_counts _ _ _ _ _ _ h

theorem steps_upReset {σ0 σ : State} (d : Nat) (h : Steps A D σ0 σ) : Steps A D σ0 (upReset d σ).st := by
  unfold upReset
  exact steps_bind (steps_upGet _ h) (fun _ _ h1 => steps_bind (steps_dispose _ _ _ h1)
    (fun _ _ h2 => steps_upInit _ h2))

theorem steps_upAlloc {σ0 σ : State} (d sz c : Nat) (ans : Bool) (h : Steps A D σ0 σ) :
    Steps A D σ0 (upAlloc d sz c ans σ).st := by
  unfold upAlloc
  refine steps_bind (steps_upReset _ h) (fun _ σ1 h1 => ?_)
  dsimp only
  split
  · split
    · exact steps_counts _ _ _ _ _ _ (steps_malloc _ _ _ h1)
    · exact steps_malloc _ _ _ h1
  · exact h1

theorem steps_wReset {σ0 σ : State} (a : Nat) (hA : A a) (h : Steps A D σ0 σ) :
    Steps A D σ0 (wReset a σ).st := by
  unfold wReset
  refine steps_bind (steps_gGet _ h) (fun d σ1 h1 => ?_)
  dsimp only
  split
  · split
    · split
      · exact steps_free _ (steps_counts _ _ _ _ _ _ (steps_gSet _ _ hA h1))
      · exact steps_counts _ _ _ _ _ _ (steps_gSet _ _ hA h1)
    · exact steps_gSet _ _ hA h1
  · exact h1

theorem steps_sReset {σ0 σ : State} (a : Nat) (hA : A a) (h : Steps A D σ0 σ) :
    Steps A D σ0 (sReset a σ).st := by
  unfold sReset
  refine steps_bind (steps_gGet _ h) (fun d σ1 h1 => ?_)
  dsimp only
  split
  · split
    · refine steps_bind ?_ (fun _ _ h2 => steps_wReset _ hA h2)
      split
      · exact steps_upReset _ (steps_counts _ _ _ _ _ _ h1)
      · exact steps_counts _ _ _ _ _ _ h1
    · exact h1
  · exact h1

theorem steps_sAlloc {σ0 σ : State} (a sz c : Nat) (ad am : Bool) (hA : A a) (h : Steps A D σ0 σ) :
    Steps A D σ0 (sAlloc a sz c ad am σ).st := by
  unfold sAlloc
  refine steps_bind (steps_sReset _ hA h) (fun _ σ1 h1 => ?_)
  dsimp only
  split
  · split
    · refine steps_bind (steps_upAlloc _ _ _ _ (steps_upInit _
        (steps_counts _ _ _ _ _ _ (steps_malloc _ _ _ h1))))
        (fun _ _ h2 => steps_bind (steps_upGet _ h2) (fun m σ3 h3 => ?_))
      split
      · exact steps_gSet _ _ hA h3
      · exact steps_free _ h3
    · exact steps_malloc _ _ _ h1
  · exact h1

theorem steps_sUnique {σ0 σ : State} (a : Nat) (h : Steps A D σ0 σ) : Steps A D σ0 (sUnique a σ).st := by
  unfold sUnique
  refine steps_bind (steps_gGet _ h) (fun d σ1 h1 => ?_)
  split
  · split <;> exact h1
  · exact h1

theorem steps_sGet {σ0 σ : State} (a : Nat) (h : Steps A D σ0 σ) : Steps A D σ0 (sGet a σ).st := by
  unfold sGet
  refine steps_bind (steps_gGet _ h) (fun d σ1 h1 => ?_)
  split
  · exact steps_upGet _ h1
  · exact h1

theorem steps_sShare {σ0 σ : State} (e n : Nat) (hA : A n) (h : Steps A D σ0 σ) :
    Steps A D σ0 (sShare e n σ).st := by
  unfold sShare
  refine steps_bind (steps_sReset _ hA h) (fun _ _ h1 => steps_bind (steps_gCopy _ _ hA h1)
    (fun _ _ h2 => steps_bind (steps_gGet _ h2) (fun d σ1 h3 => ?_)))
  dsimp only
  split
  · split
    · exact steps_counts _ _ _ _ _ _ (steps_counts _ _ _ _ _ _ h3)
    · exact h3
  · exact h3

theorem steps_wFrom {σ0 σ : State} (w s : Nat) (hA : A w) (h : Steps A D σ0 σ) :
    Steps A D σ0 (wFrom w s σ).st := by
  unfold wFrom
  refine steps_bind (steps_wReset _ hA h) (fun _ _ h1 => steps_bind (steps_gCopy _ _ hA h1)
    (fun _ _ h2 => steps_bind (steps_gGet _ h2) (fun d σ1 h3 => ?_)))
  split
  · split
    · exact steps_counts _ _ _ _ _ _ h3
    · exact h3
  · exact h3

theorem steps_wLock {σ0 σ : State} (w s : Nat) (hA : A s) (h : Steps A D σ0 σ) :
    Steps A D σ0 (wLock w s σ).st := by
  unfold wLock
  refine steps_bind (steps_sReset _ hA h) (fun _ _ h1 => steps_bind (steps_gCopy _ _ hA h1)
    (fun _ _ h2 => steps_bind (steps_gGet _ h2) (fun d σ1 h3 => ?_)))
  dsimp only
  split
  · split
    · split
      · exact steps_counts _ _ _ _ _ _ (steps_counts _ _ _ _ _ _ h3)
      · exact steps_gSet _ _ hA (steps_counts _ _ _ _ _ _ (steps_counts _ _ _ _ _ _ h3))
    · exact h3
  · exact h3

theorem steps_aInit {σ0 σ : State} (a : Nat) (hA : A a) (h : Steps A D σ0 σ) : Steps A D σ0 (aInit a σ) := by
  unfold aInit sInit
  exact steps_fields _ _ hA rfl (steps_gSet _ _ hA h)

theorem steps_aReset {σ0 σ : State} (a : Nat) (hA : A a) (h : Steps A D σ0 σ) :
    Steps A D σ0 (aReset a σ).st := by
  unfold aReset
  exact steps_bind (steps_sReset _ hA h) (fun _ _ h1 => steps_fields _ _ hA rfl h1)

theorem steps_descWrite {σ0 σ : State} (b asz anm abuf : Nat) (hD : D = true) (h : Steps A D σ0 σ) :
    Steps A D σ0 (σ.setBlk b { σ.blk b with asz := asz, anm := anm, abuf := abuf }) :=
  Steps.tail h (Prim.desc σ b asz anm abuf hD)

theorem steps_aAlloc {σ0 σ : State} (a nm sz : Nat) (ad am : Bool) (hA : A a) (hD : D = true)
    (h : Steps A D σ0 σ) : Steps A D σ0 (aAlloc a nm sz ad am σ).st := by
  unfold aAlloc
  refine steps_bind (steps_aReset _ hA h) (fun _ σ1 h1 => steps_bind ?_ (fun _ _ h2 =>
    steps_bind (steps_sGet _ h2) (fun ra σ2 h3 => ?_)))
  · split
    · exact steps_sAlloc _ _ _ _ _ hA h1
    · exact h1
  · dsimp only
    split
    · split
      · exact steps_fields _ _ hA rfl (steps_descWrite _ _ _ _ hD h3)
      · exact h3
    · exact h3

theorem steps_aSet {σ0 σ : State} (a e nm sz : Nat) (ad am : Bool) (hA : A a) (hD : D = true)
    (h : Steps A D σ0 σ) : Steps A D σ0 (aSet a e nm sz ad am σ).st := by
  unfold aSet
  refine steps_bind (steps_aAlloc _ _ _ _ _ hA hD h) (fun _ _ h1 => steps_bind (steps_sGet _ h1)
    (fun ra σ2 h2 => ?_))
  dsimp only
  split
  · split
    · refine steps_fields _ _ hA rfl ?_
      -- `cstl_array_set` leaves `asz`: written as a write of all three descriptor words
      exact steps_descWrite (A := A) (D := D) ra (σ2.blk ra).asz nm e hD h2
    · exact h2
  · exact h2

theorem steps_aRelease {σ0 σ : State} (a : Nat) (hA : A a) (h : Steps A D σ0 σ) :
    Steps A D σ0 (aRelease a σ).st := by
  unfold aRelease
  refine steps_bind (steps_sGet _ h) (fun ra σ1 h1 => ?_)
  split
  · split
    · split
      · refine steps_bind (steps_sUnique _ h1) (fun u σ2 h2 => ?_)
        split
        · exact steps_bind (steps_aReset _ hA h2) (fun _ _ h3 => h3)
        · exact h2
      · exact h1
    · exact h1
  · exact h1

theorem steps_aData {σ0 σ : State} (a : Nat) (h : Steps A D σ0 σ) : Steps A D σ0 (aData a σ).st := by
  unfold aData
  refine steps_bind (steps_sGet _ h) (fun ra σ1 h1 => ?_)
  split
  · split <;> exact h1
  · exact h1

theorem steps_aAt {σ0 σ : State} (a i : Nat) (h : Steps A D σ0 σ) : Steps A D σ0 (aAt a i σ).st := by
  unfold aAt
  split
  · exact h
  · refine steps_bind (steps_sGet _ h) (fun ra σ1 h1 => ?_)
    split
    · exact h1
    · split <;> exact h1

theorem steps_aSlice {σ0 σ : State} (a b e s : Nat) (hA : A s) (h : Steps A D σ0 σ) :
    Steps A D σ0 (aSlice a b e s σ).st := by
  unfold aSlice
  refine steps_bind (steps_sGet _ h) (fun ra σ1 h1 => ?_)
  dsimp only
  split
  · exact h1
  · split
    · split
      · exact h1
      · split
        · exact steps_sShare _ _ hA (steps_fields _ _ hA rfl h1)
        · exact steps_fields _ _ hA rfl h1
    · exact h1

theorem steps_aUnslice {σ0 σ : State} (s a : Nat) (hA : A a) (h : Steps A D σ0 σ) :
    Steps A D σ0 (aUnslice s a σ).st := by
  unfold aUnslice
  refine steps_bind (steps_sGet _ h) (fun ra σ1 h1 => ?_)
  dsimp only
  split
  · exact h1
  · split
    · split
      · exact steps_sShare _ _ hA (steps_fields _ _ hA rfl h1)
      · exact steps_fields _ _ hA rfl h1
    · exact h1

theorem steps_unitR {σ0 : State} (r : Res Unit) (h : Steps A D σ0 r.st) : Steps A D σ0 (unitR r).st := by
  unfold unitR; exact steps_bind h (fun _ _ h1 => h1)

end

def Op.writes : Op → List Nat
  | .gInit a | .gSet a _ | .uInit a | .uAlloc a _ _ _ _ | .uRelease a | .uReset a
  | .sInit a | .sAlloc a _ _ _ _ | .sReset a | .wInit a | .wReset a
  | .aInit a | .aSet a _ _ _ _ _ | .aRelease a | .aAlloc a _ _ _ _ | .aReset a => [a]
  | .gGet _ | .uGet _ | .sUnique _ | .sGet _ | .aSize _ | .aData _ | .aAt _ _ => []
  | .gCopy d _ => [d]
  | .gSwap a b | .uSwap a b | .sSwap a b | .wSwap a b => [a, b]
  | .sShare _ n => [n]
  | .wFrom w _ => [w]
  | .wLock _ s => [s]
  | .aSlice _ _ _ s => [s]
  | .aUnslice _ a => [a]
  | .rawCopy d _ => [d]

def Op.writesDesc : Op → Bool
  | .aAlloc _ _ _ _ _ | .aSet _ _ _ _ _ _ => true
  | _ => false

theorem steps_exec (op : Op) (σ : State) (h : ∀ d s, op ≠ .rawCopy d s) :
    Steps (· ∈ op.writes) op.writesDesc σ (exec op σ).st := by
  cases op with
  | rawCopy d s => exact absurd rfl (h d s)
  | gInit a => exact steps_gSet _ _ (by simp [Op.writes]) (Steps.refl σ)
  | gSet a p => exact steps_gSet _ _ (by simp [Op.writes]) (Steps.refl σ)
  | gGet a => exact steps_bind (steps_gGet _ (Steps.refl σ)) (fun _ _ h1 => h1)
  | gCopy d s => exact steps_unitR _ (steps_gCopy _ _ (by simp [Op.writes]) (Steps.refl σ))
  | gSwap a b =>
    exact steps_unitR _ (steps_gSwap _ _ (by simp [Op.writes]) (by simp [Op.writes]) (Steps.refl σ))
  | uInit a => exact steps_uInit _ (by simp [Op.writes]) (Steps.refl σ)
  | uAlloc a sz c p ans => exact steps_unitR _ (steps_uAlloc _ _ _ _ _ (by simp [Op.writes]) (Steps.refl σ))
  | uGet a => exact steps_bind (steps_gGet _ (Steps.refl σ)) (fun _ _ h1 => h1)
  | uRelease a =>
    exact steps_bind (steps_uRelease _ (by simp [Op.writes]) (Steps.refl σ))
      (fun _ _ h1 => steps_bind (steps_dispose _ _ _ h1) (fun _ _ h2 => h2))
  | uSwap a b =>
    exact steps_unitR _ (steps_uSwap _ _ (by simp [Op.writes]) (by simp [Op.writes]) (Steps.refl σ))
  | uReset a => exact steps_unitR _ (steps_uReset _ (by simp [Op.writes]) (Steps.refl σ))
  | sInit a => exact steps_gSet _ _ (by simp [Op.writes]) (Steps.refl σ)
  | sAlloc a sz c ad am => exact steps_unitR _ (steps_sAlloc _ _ _ _ _ (by simp [Op.writes]) (Steps.refl σ))
  | sUnique a => exact steps_bind (steps_sUnique _ (Steps.refl σ)) (fun _ _ h1 => h1)
  | sGet a => exact steps_bind (steps_sGet _ (Steps.refl σ)) (fun _ _ h1 => h1)
  | sShare e n => exact steps_unitR _ (steps_sShare _ _ (by simp [Op.writes]) (Steps.refl σ))
  | sSwap a b =>
    exact steps_unitR _ (steps_gSwap _ _ (by simp [Op.writes]) (by simp [Op.writes]) (Steps.refl σ))
  | sReset a => exact steps_unitR _ (steps_sReset _ (by simp [Op.writes]) (Steps.refl σ))
  | wInit a => exact steps_gSet _ _ (by simp [Op.writes]) (Steps.refl σ)
  | wFrom w s => exact steps_unitR _ (steps_wFrom _ _ (by simp [Op.writes]) (Steps.refl σ))
  | wLock w s => exact steps_unitR _ (steps_wLock _ _ (by simp [Op.writes]) (Steps.refl σ))
  | wSwap a b =>
    exact steps_unitR _ (steps_gSwap _ _ (by simp [Op.writes]) (by simp [Op.writes]) (Steps.refl σ))
  | wReset a => exact steps_unitR _ (steps_wReset _ (by simp [Op.writes]) (Steps.refl σ))
  | aInit a => exact steps_aInit _ (by simp [Op.writes]) (Steps.refl σ)
  | aSize a => exact Steps.refl σ
  | aSet a e nm sz ad am =>
    exact steps_unitR _ (steps_aSet _ _ _ _ _ _ (by simp [Op.writes]) rfl (Steps.refl σ))
  | aRelease a => exact steps_bind (steps_aRelease _ (by simp [Op.writes]) (Steps.refl σ)) (fun _ _ h1 => h1)
  | aAlloc a nm sz ad am =>
    exact steps_unitR _ (steps_aAlloc _ _ _ _ _ (by simp [Op.writes]) rfl (Steps.refl σ))
  | aReset a => exact steps_unitR _ (steps_aReset _ (by simp [Op.writes]) (Steps.refl σ))
  | aData a => exact steps_bind (steps_aData _ (Steps.refl σ)) (fun _ _ h1 => h1)
  | aAt a i => exact steps_bind (steps_aAt _ _ (Steps.refl σ)) (fun _ _ h1 => h1)
  | aSlice a b e s => exact steps_unitR _ (steps_aSlice _ _ _ _ (by simp [Op.writes]) (Steps.refl σ))
  | aUnslice s a => exact steps_unitR _ (steps_aUnslice _ _ (by simp [Op.writes]) (Steps.refl σ))

/-- the frame between two states: what no sequence of primitive steps changes (`A`, `D` as in `Prim`) -/
structure Ext (A : Nat → Prop) (D : Bool) (σ σ' : State) : Prop where
  n : σ'.n = σ.n
  kind : σ'.kind = σ.kind
  ext : σ'.extSize = σ.extSize
  next : σ.next ≤ σ'.next
  ghost : ∀ b, b < σ.next → (σ'.blk b).size = (σ.blk b).size ∧ (σ'.blk b).isData = (σ.blk b).isData ∧
    (σ'.blk b).ownerD = (σ.blk b).ownerD ∧ (σ'.blk b).clrG = (σ.blk b).clrG ∧
    (σ'.blk b).privG = (σ.blk b).privG
  log : ∃ evs, σ'.log = σ.log ++ evs
  self : ∀ x, (σ'.obj x).self = (σ.obj x).self ∨ (σ'.obj x).self = x
  objs : ∀ x, ¬ A x → σ'.obj x = σ.obj x
  desc : D = false → ∀ b, b < σ.next → (σ'.blk b).asz = (σ.blk b).asz ∧ (σ'.blk b).anm = (σ.blk b).anm ∧
    (σ'.blk b).abuf = (σ.blk b).abuf

section
variable {A : Nat → Prop} {D : Bool}

theorem Ext.refl (σ : State) : Ext A D σ σ :=
  ⟨rfl, rfl, rfl, Nat.le_refl _, fun _ _ => ⟨rfl, rfl, rfl, rfl, rfl⟩, ⟨[], by simp⟩, fun _ => Or.inl rfl,
   fun _ _ => rfl, fun _ _ _ => ⟨rfl, rfl, rfl⟩⟩

theorem Ext.sameGhost {σ σ' : State} (E : Ext A D σ σ') {b : Nat} (hb : b < σ.next) :
    Blk.SameGhost (σ.blk b) (σ'.blk b) :=
  have g := E.ghost b hb
  ⟨g.1, g.2.1, g.2.2.1, g.2.2.2.1, g.2.2.2.2⟩

theorem Ext.trans {σ σ1 σ2 : State} (h1 : Ext A D σ σ1) (h2 : Ext A D σ1 σ2) : Ext A D σ σ2 := by
  refine ⟨h2.n.trans h1.n, h2.kind.trans h1.kind, h2.ext.trans h1.ext, Nat.le_trans h1.next h2.next,
    ?_, ?_, ?_, ?_, ?_⟩
  · intro b hb
    have a := h1.ghost b hb
    have c := h2.ghost b (Nat.lt_of_lt_of_le hb h1.next)
    exact ⟨c.1.trans a.1, c.2.1.trans a.2.1, c.2.2.1.trans a.2.2.1, c.2.2.2.1.trans a.2.2.2.1,
      c.2.2.2.2.trans a.2.2.2.2⟩
  · obtain ⟨e1, he1⟩ := h1.log
    obtain ⟨e2, he2⟩ := h2.log
    exact ⟨e1 ++ e2, by rw [he2, he1, List.append_assoc]⟩
  · intro x
    rcases h2.self x with h | h
    · rcases h1.self x with h' | h'
      · exact Or.inl (h.trans h')
      · exact Or.inr (h.trans h')
    · exact Or.inr h
  · intro x hx; rw [h2.objs x hx, h1.objs x hx]
  · intro hD b hb
    have a := h1.desc hD b hb
    have c := h2.desc hD b (Nat.lt_of_lt_of_le hb h1.next)
    exact ⟨c.1.trans a.1, c.2.1.trans a.2.1, c.2.2.trans a.2.2⟩

theorem Ext.emit (σ : State) (e : Ev) : Ext A D σ (σ.emit e) :=
  ⟨rfl, rfl, rfl, Nat.le_refl _, fun _ _ => ⟨rfl, rfl, rfl, rfl, rfl⟩, ⟨[e], rfl⟩, fun _ => Or.inl rfl,
    fun _ _ => rfl, fun _ _ _ => ⟨rfl, rfl, rfl⟩⟩

theorem Ext.setBlk (σ : State) (b : Nat) {k : Blk}
    (hg : Blk.SameGhost (σ.blk b) k)
    (hd : D = false → k.asz = (σ.blk b).asz ∧ k.anm = (σ.blk b).anm ∧ k.abuf = (σ.blk b).abuf) :
    Ext A D σ (σ.setBlk b k) := by
  refine ⟨rfl, rfl, rfl, Nat.le_refl _, fun x _ => ?_, ⟨[], by simp⟩, fun _ => Or.inl rfl, fun _ _ => rfl,
    fun hD x _ => ?_⟩
  · rw [setBlk_blk]
    split
    · next hx => subst hx; exact ⟨hg.size, hg.isData, hg.ownerD, hg.clrG, hg.privG⟩
    · exact ⟨rfl, rfl, rfl, rfl, rfl⟩
  · rw [setBlk_blk]
    split
    · next hx => subst hx; exact hd hD
    · exact ⟨rfl, rfl, rfl⟩

theorem Prim.ext {σ σ' : State} (p : Prim A D σ σ') : Ext A D σ σ' := by
  cases p with
  | obj a o hA h =>
    refine ⟨rfl, rfl, rfl, Nat.le_refl _, fun _ _ => ⟨rfl, rfl, rfl, rfl, rfl⟩, ⟨[], by simp⟩, ?_, ?_,
      fun _ _ _ => ⟨rfl, rfl, rfl⟩⟩
    · intro x
      by_cases hx : x = a
      · subst hx; simpa using h
      · simp [hx]
    · intro x hx
      have : x ≠ a := by rintro rfl; exact hx hA
      simp [this]
  | blk b k h => exact Ext.setBlk σ b h.ghost (fun _ => h.desc)
  | desc b asz anm abuf hD => exact Ext.setBlk σ b ⟨rfl, rfl, rfl, rfl, rfl⟩ (fun h => by rw [hD] at h; cases h)
  | free p h =>
    exact (Ext.setBlk σ p (k := { σ.blk p with live := false }) ⟨rfl, rfl, rfl, rfl, rfl⟩
      (fun _ => ⟨rfl, rfl, rfl⟩)).trans (Ext.emit _ _)
  | clr f p pr => exact Ext.emit σ _
  | alloc sz g =>
    refine ⟨rfl, rfl, rfl, Nat.le_succ _, ?_, ⟨[.alloc σ.next sz], by simp⟩, fun _ => Or.inl rfl,
      fun _ _ => rfl, ?_⟩
    · intro x hx
      have : x ≠ σ.next := Nat.ne_of_lt hx
      simp [this]
    · intro _ x hx
      have : x ≠ σ.next := Nat.ne_of_lt hx
      simp [this]
  | allocFail sz => exact Ext.emit σ _

theorem Steps.ext {σ σ' : State} (h : Steps A D σ σ') : Ext A D σ σ' := by
  induction h with
  | refl => exact Ext.refl _
  | tail _ p ih => exact Ext.trans ih p.ext

/-- `hs`: the `steps_*` lemma of the function, started at `Steps.refl σ` -/
theorem Ext.of_steps {α : Type} {r : Res α} {v : α} {σ σ' : State} (hs : Steps A D σ r.st) (h : r = .ok v σ') :
    Ext A D σ σ' := by
  rw [h] at hs; exact hs.ext

end

theorem exec_ext {op : Op} {σ σ' : State} {v : Val} (hn : ∀ d s, op ≠ .rawCopy d s)
    (h : exec op σ = .ok v σ') : Ext (· ∈ op.writes) op.writesDesc σ σ' :=
  Ext.of_steps (steps_exec op σ hn) h

/-- `size_t` subtraction `x - y` is written `(x + W - y) % W` -/
theorem wrap_sub {x y : Nat} (h : y ≤ x) (hx : x < W) : (x + W - y) % W = x - y := by
  have e : x + W - y = (x - y) + W := by omega
  rw [e, Nat.add_mod_right, Nat.mod_eq_of_lt (by omega)]

theorem fits_lt {nm sz : Nat} (hf : fits nm sz = true) : HDR + nm * sz < W := by
  simp only [fits, Bool.or_eq_true, beq_iff_eq, decide_eq_true_eq] at hf
  have hW : HDR < W := by decide
  rcases hf with hz | hle
  · subst hz; exact hW
  · have := Nat.mul_le_mul_right sz hle
    have h2 := Nat.div_mul_le_self (W - 1 - HDR) sz
    omega

theorem step_of_dom {op : Op} {σ : State} (hd : op.dom σ) : step op σ = exec op σ := if_pos hd

theorem step_not_dom {op : Op} {σ : State} (hd : ¬ op.dom σ) : step op σ = .stop .badop σ := if_neg hd

theorem step_eq_ok {op : Op} {σ σ' : State} {v : Val} :
    step op σ = .ok v σ' ↔ op.dom σ ∧ exec op σ = .ok v σ' := by
  unfold step
  by_cases hd : op.dom σ
  · rw [if_pos hd]; exact ⟨fun h => ⟨hd, h⟩, fun h => h.2⟩
  · rw [if_neg hd]; exact ⟨nofun, fun h => absurd h.1 hd⟩

end Cstl.Mem
