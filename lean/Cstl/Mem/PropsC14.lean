import Cstl.Mem.AInv
import Cstl.Mem.PropsC05
/-
C14 — array views never reach outside their buffer, which lives as long as any
view.

`AInv σ` (Cstl/Mem/AInv.lean) is the view invariant: an empty array object has
length 0; otherwise `off + len ≤ nm`, `nm * sz` is representable, an allocated
buffer fills the rest of its block exactly (`HDR + nm * sz = block size`, as
natural numbers: no wrap-around), an external buffer has room for `nm * sz`
bytes.  It is stated on top of the ownership invariant `Inv` of C05 (array
objects are owners: their buffer descriptor is live while any of them refers to
it and is released exactly once afterwards — `destroy_exactly_at_last_owner`
counts array objects in `nH`).
-/
namespace Cstl.Mem

theorem ainv_init (n : Nat) (kind : Nat → Kind) (es : Nat → Nat) (hes : ∀ e, es e < W) :
    AInv (State.init n kind es) :=
  ⟨fun _ _ _ _ => clause_empty ⟨rfl, rfl, rfl⟩, hes⟩

theorem step_ainv {op : Op} {σ σ' : State} {v : Val} (I : Inv σ) (AI : AInv σ)
    (h : step op σ = .ok v σ') : AInv σ' :=
  let ⟨hd, h⟩ := step_eq_ok.mp h
  exec_ainv I AI hd h

/-- **Inv for every history.**  After any program over any number of array objects and buffers
(alloc, set, slice — also in place —, unslice, reset, release, re-allocating or re-targeting an
object that is a slice with a non-zero offset, any arguments up to SIZE_MAX, any malloc answers)
both invariants hold. -/
theorem run_ainv {ops : List Op} {σ σ' : State} {vs : List Val} (I : Inv σ) (AI : AInv σ)
    (h : run ops σ = .ok vs σ') : Inv σ' ∧ AInv σ' :=
  run_induct (P := fun τ => Inv τ ∧ AInv τ)
    (fun _ _ _ _ hP h1 => ⟨(step_inv hP.1 h1).1, step_ainv hP.1 hP.2 h1⟩) ⟨I, AI⟩ h

theorem arr_facts {σ : State} {a : Nat} (I : Inv σ) (AI : AInv σ) (A : Proper σ (· = .array) a)
    (hp : (σ.obj a).ptr ≠ 0) :
    (σ.blk (σ.obj a).ptr).live = true ∧ (σ.blk (σ.obj a).ptr).up ≠ 0 ∧
    (σ.blk (σ.blk (σ.obj a).ptr).up).live = true ∧
    ArrOk (σ.obj a) (σ.blk (σ.blk (σ.obj a).ptr).up) σ.extSize := by
  have O := owner_facts I A.array hp
  exact ⟨O.live, O.mem.ne0, O.mem.live, (AI.arr a A.lt A.stamp A.kind).2 hp⟩

theorem elem_inside {off i len anm asz : Nat} (hi : i < len) (hol : off + len ≤ anm) (hmul : anm * asz < W)
    (hanm : anm < W) :
    (off + i) % W = off + i ∧ ((off + i) * asz) % W = (off + i) * asz ∧ (off + i) * asz + asz ≤ anm * asz := by
  have hle : (off + i + 1) * asz ≤ anm * asz := Nat.mul_le_mul_right _ (by omega)
  rw [Nat.add_mul, Nat.one_mul] at hle
  exact ⟨Nat.mod_eq_of_lt (by omega), Nat.mod_eq_of_lt (by omega), hle⟩

/-- **at_in_buffer.**  For every index below `size`, `cstl_array_at` returns (without changing
anything) the address of that element inside the live underlying buffer: for an allocated buffer
byte `HDR + (off+i)*sz` of the live block, with the whole element inside the block; for an external
buffer byte `(off+i)*sz` of it, with the whole element inside the `nm*sz` bytes the client provided. -/
theorem at_in_buffer {σ : State} {a i : Nat} (I : Inv σ) (AI : AInv σ) (ha : a < σ.n)
    (hs : stamped σ a) (hk : σ.kind a = .array) (hi : i < (σ.obj a).len) :
    (σ.obj a).ptr ≠ 0 ∧
    let m := (σ.blk (σ.obj a).ptr).up
    let k := σ.blk m
    (σ.blk (σ.obj a).ptr).live = true ∧ k.live = true ∧
    (k.abuf = 0 →
      aAt a i σ = .ok (.heap m (HDR + ((σ.obj a).off + i) * k.asz)) σ ∧
      HDR + ((σ.obj a).off + i) * k.asz + k.asz ≤ k.size) ∧
    (k.abuf ≠ 0 →
      aAt a i σ = .ok (.ext k.abuf (((σ.obj a).off + i) * k.asz)) σ ∧
      ((σ.obj a).off + i) * k.asz + k.asz ≤ k.anm * k.asz ∧ k.anm * k.asz ≤ σ.extSize k.abuf) := by
  have hp : (σ.obj a).ptr ≠ 0 := by
    intro h0
    have := ((AI.arr a ha hs hk).1 h0).1
    omega
  obtain ⟨hl, hm0, hml, hol, hmul, hanm, hasz, hin, hex⟩ := arr_facts I AI ⟨ha, hs, hk⟩ hp
  obtain ⟨hmod1, hmod2, hle⟩ := elem_inside hi hol hmul hanm
  refine ⟨hp, hl, hml, fun hb => ?_, fun hb => ?_⟩
  · obtain ⟨hsize, hsw⟩ := hin hb
    refine ⟨?_, by omega⟩
    rw [aAt_eval I ⟨ha, hs, hk⟩]
    simp only [ge_iff_le, Nat.not_le.mpr hi, if_false, hp, bufLoc, hb, if_true, hmod1, hmod2,
      Nat.mod_eq_of_lt (show HDR + ((σ.obj a).off + i) * (σ.blk (σ.blk (σ.obj a).ptr).up).asz < W by omega)]
  · refine ⟨?_, hle, hex hb⟩
    rw [aAt_eval I ⟨ha, hs, hk⟩]
    simp only [ge_iff_le, Nat.not_le.mpr hi, if_false, hp, bufLoc, hb, hmod1, hmod2]

/-- **at_abort_iff.**  `cstl_array_at` aborts for every index that is not below `size`, and only
then; it never faults. -/
theorem at_abort_iff {σ : State} {a i : Nat} (I : Inv σ) (AI : AInv σ) (ha : a < σ.n)
    (hs : stamped σ a) (hk : σ.kind a = .array) :
    (aAt a i σ = .stop .abort σ ↔ (σ.obj a).len ≤ i) ∧
    (i < (σ.obj a).len → ∃ l, aAt a i σ = .ok l σ) := by
  rw [aAt_eval I ⟨ha, hs, hk⟩]
  by_cases hi : i ≥ (σ.obj a).len
  · rw [if_pos hi]
    exact ⟨⟨fun _ => hi, fun _ => rfl⟩, fun h => absurd h (Nat.not_lt.mpr hi)⟩
  · have hp : (σ.obj a).ptr ≠ 0 := fun h0 => hi (by rw [((AI.arr a ha hs hk).1 h0).1]; exact Nat.zero_le _)
    rw [if_neg hi, if_neg hp]
    exact ⟨⟨nofun, fun h => absurd h hi⟩, fun _ => ⟨_, rfl⟩⟩

/-- **slice_abort_iff.**  `cstl_array_slice(a, beg, end, s)` aborts exactly when `a` is empty,
`end < beg`, or the requested range would pass the end of the underlying buffer — `off + end > nm`
as a sum of natural numbers: no `end` near SIZE_MAX can wrap it around.  Otherwise it succeeds,
`s` becomes the view `[off + beg, off + end)` of the same buffer (also when `s` is `a` itself),
and both invariants hold afterwards. -/
theorem slice_abort_iff {σ : State} {a beg en s : Nat} (I : Inv σ) (AI : AInv σ)
    (ha : a < σ.n) (hsn : s < σ.n) (hsa : stamped σ a) (hss : stamped σ s)
    (hka : σ.kind a = .array) (hks : σ.kind s = .array) (hb : beg < W) (he : en < W) :
    let bad := (σ.obj a).ptr = 0 ∨ en < beg ∨
      (σ.obj a).off + en > (σ.blk (σ.blk (σ.obj a).ptr).up).anm
    (bad → aSlice a beg en s σ = .stop .abort σ) ∧
    (¬ bad → ∃ σ', aSlice a beg en s σ = .ok () σ' ∧ Inv σ' ∧ AInv σ' ∧
      (σ'.obj s).ptr = (σ.obj a).ptr ∧ (σ'.obj s).off = (σ.obj a).off + beg ∧
      (σ'.obj s).len = en - beg) := by
  obtain ⟨h1, h2⟩ := aSlice_inv (beg := beg) (en := en) I ⟨ha, hsa, hka⟩ ⟨hsn, hss, hks⟩
  have hequiv : ((σ.obj a).ptr = 0 ∨ en < beg ∨
        en > ((σ.blk (σ.blk (σ.obj a).ptr).up).anm + W - (σ.obj a).off) % W) ↔
      ((σ.obj a).ptr = 0 ∨ en < beg ∨ (σ.obj a).off + en > (σ.blk (σ.blk (σ.obj a).ptr).up).anm) := by
    by_cases hp : (σ.obj a).ptr = 0
    · simp [hp]
    · obtain ⟨_, _, _, hol, _, hanm, _⟩ := arr_facts I AI ⟨ha, hsa, hka⟩ hp
      rw [wrap_sub (Nat.le_trans (Nat.le_add_right _ _) hol) hanm]
      omega
  intro bad
  refine ⟨fun hbad => h1 (hequiv.mpr hbad), fun hgood => ?_⟩
  obtain ⟨σ', hr, I', _, ho⟩ := h2 fun h => hgood (hequiv.mp h)
  have hst : step (.aSlice a beg en s) σ = .ok .unit σ' :=
    (step_of_dom (op := .aSlice a beg en s) ⟨⟨ha, hka⟩, ⟨hsn, hks⟩, hb, he⟩).trans (unitR_ok hr)
  refine ⟨σ', hr, I', step_ainv I AI hst, by rw [ho]; simp, ?_, by rw [ho]; simp⟩
  rw [ho]; simp only [if_true]
  obtain ⟨_, _, _, _, _, hanm, _⟩ := arr_facts I AI ⟨ha, hsa, hka⟩ fun h => hgood (Or.inl h)
  have : ¬ ((σ.obj a).off + en > (σ.blk (σ.blk (σ.obj a).ptr).up).anm) := fun h => hgood (Or.inr (Or.inr h))
  have : ¬ en < beg := fun h => hgood (Or.inr (Or.inl h))
  exact Nat.mod_eq_of_lt (by omega)

/-- **lifetime.**  While any array object refers to a buffer, its descriptor block and its
bookkeeping block are live (never freed early); they are released exactly once afterwards —
`destroy_exactly_at_last_owner`, `free_at_most_once` and `no_leak` of C05 apply verbatim, array
objects being owners (`nH` counts them). -/
theorem lifetime {σ : State} {a : Nat} (I : Inv σ) (ha : a < σ.n) (hs : stamped σ a)
    (hk : σ.kind a = .array) (hp : (σ.obj a).ptr ≠ 0) :
    (σ.blk (σ.obj a).ptr).live = true ∧ (σ.blk (σ.blk (σ.obj a).ptr).up).live = true ∧
    0 < nH σ (σ.obj a).ptr := by
  have O := owner_facts I (Proper.array ⟨ha, hs, hk⟩) hp
  exact ⟨O.live, O.mem.live, nH_pos.mpr ⟨a, ha, hs, Or.inr hk, rfl⟩⟩

/-- **release_sole_external.**  `cstl_array_release` hands the buffer back exactly when it is an
externally supplied one and this object is its sole remaining user (no other array object refers to
it): then the result is that buffer and the object is reset; in every other case the result is NULL
and nothing changes. -/
theorem release_sole_external {σ : State} {a : Nat} (I : Inv σ) (ha : a < σ.n) (hs : stamped σ a)
    (hk : σ.kind a = .array) :
    let ext := (σ.obj a).ptr ≠ 0 ∧ (σ.blk (σ.blk (σ.obj a).ptr).up).abuf ≠ 0 ∧
      nH σ (σ.obj a).ptr + nW σ (σ.obj a).ptr = 1
    (ext → ∃ σ', aRelease a σ = .ok (.ext (σ.blk (σ.blk (σ.obj a).ptr).up).abuf 0) σ' ∧
      aReset a σ = .ok () σ' ∧ Inv σ') ∧
    (¬ ext → aRelease a σ = .ok .null σ) := by
  intro ext
  have A : Proper σ (· = .array) a := ⟨ha, hs, hk⟩
  rw [aRelease_eval I A]
  have hsoft : (σ.obj a).ptr ≠ 0 →
      ((σ.blk (σ.obj a).ptr).soft = 1 ↔ nH σ (σ.obj a).ptr + nW σ (σ.obj a).ptr = 1) := fun hp => by
    rw [(owner_facts I A.array hp).soft]
  constructor
  · intro ⟨hp, hb, hone⟩
    obtain ⟨σ1, h1, I1, _, _⟩ := aReset_inv I A
    refine ⟨σ1, ?_, h1, I1⟩
    rw [if_pos ⟨hp, hb, (hsoft hp).mpr hone⟩, h1]
    simp [bufLoc, hb]
  · intro hne
    rw [if_neg fun h => hne ⟨h.1, h.2.1, (hsoft h.1).mp h.2.2⟩]

/-- **alloc_fail_empty.**  After `cstl_array_alloc` the object is either empty (NULL descriptor, size 0,
offset 0 — whatever it was before, e.g. a slice with a non-zero offset) or a view of offset 0 and
size `nm` over a fresh buffer of exactly `HDR + nm * sz` bytes.  It is empty whenever a `malloc`
failed or `nm * sz` (plus the descriptor) cannot be represented in `size_t`. -/
theorem alloc_fail_empty {σ : State} {a nm sz : Nat} {ad am : Bool} (I : Inv σ) (ha : a < σ.n)
    (hs : stamped σ a) (hk : σ.kind a = .array) (hnm : nm < W) (hsz : sz < W) :
    ∃ σ', aAlloc a nm sz ad am σ = .ok () σ' ∧
      ((ad = false ∨ am = false ∨ W ≤ HDR + nm * sz) →
        (σ'.obj a).ptr = 0 ∧ (σ'.obj a).len = 0 ∧ (σ'.obj a).off = 0) ∧
      ((σ'.obj a).ptr ≠ 0 →
        (σ'.obj a).off = 0 ∧ (σ'.obj a).len = nm ∧ σ.next ≤ (σ'.obj a).ptr ∧
        (σ'.blk (σ'.blk (σ'.obj a).ptr).up).size = HDR + nm * sz ∧
        (σ'.blk (σ'.blk (σ'.obj a).ptr).up).live = true) := by
  obtain ⟨σ', hr, _, _, _, hres⟩ := aAlloc_inv (nm := nm) (sz := sz) (ad := ad) (am := am) I ⟨ha, hs, hk⟩
  refine ⟨σ', hr, ?_, ?_⟩
  · intro hfail
    rcases hres with ⟨hz, _⟩ | ⟨_, hfit, had, ham⟩
    · exact hz
    · exfalso
      have := fits_lt hfit
      rcases hfail with h | h | h
      · rw [had] at h; cases h
      · rw [ham] at h; cases h
      · omega
  · intro hne
    rcases hres with ⟨hz, _⟩ | ⟨⟨d, V⟩, hfit, _, _⟩
    · exact absurd hz.1 hne
    · have := fits_lt hfit
      refine ⟨V.off, V.len, V.ptr ▸ V.fresh, ?_, ?_⟩
      · rw [V.ptr, V.up, V.desc]; exact Nat.mod_eq_of_lt this
      · rw [V.ptr, V.up, V.desc]

/-! ### non-vacuity -/

/-- array objects 0,1,2 -/
def exKind14 (_ : Nat) : Kind := .array

example : ∃ σ vs, run [.aAlloc 0 4 4 true true, .aSlice 0 2 4 0, .aSlice 0 1 2 1]
      (State.init 3 exKind14 (fun _ => 64)) = .ok vs σ ∧
    -- a slice (object 1) of a slice made in place (object 0, offset 2) of a 4-element buffer:
    -- hypotheses of `at_in_buffer` / `at_abort_iff` (a = 1), `slice_abort_iff` (a = 0, s = 1), `lifetime`
    (σ.obj 0).self = 0 ∧ (σ.obj 0).off = 2 ∧ (σ.obj 0).len = 2 ∧
    (σ.obj 1).self = 1 ∧ (σ.obj 1).ptr ≠ 0 ∧ (σ.obj 1).off = 3 ∧ (σ.obj 1).len = 1 ∧
    (σ.blk 2).size = 40 ∧ (σ.blk 2).anm = 4 ∧ (σ.blk 2).asz = 4 := by
  refine ⟨_, _, rfl, by decide, by decide, by decide, by decide, by decide, by decide, by decide, by decide,
    by decide, by decide⟩

end Cstl.Mem
