import Cstl.Mem.InvArray
namespace Cstl.Mem

/-- the view `o` fits the descriptor `k`: offset + length within the element count,
the byte count `nm * sz` representable, an inline buffer fills its block exactly,
an external buffer has room for it -/
def ArrOk (o : Obj) (k : Blk) (ext : Nat → Nat) : Prop :=
  o.off + o.len ≤ k.anm ∧ k.anm * k.asz < W ∧ k.anm < W ∧ k.asz < W ∧
  (k.abuf = 0 → HDR + k.anm * k.asz = k.size ∧ k.size < W) ∧ (k.abuf ≠ 0 → k.anm * k.asz ≤ ext k.abuf)

/-- what the array invariant says about the array object `a` -/
def ArrClause (σ : State) (a : Nat) : Prop :=
  ((σ.obj a).ptr = 0 → (σ.obj a).len = 0 ∧ (σ.obj a).off = 0) ∧
  ((σ.obj a).ptr ≠ 0 → ArrOk (σ.obj a) (σ.blk (σ.blk (σ.obj a).ptr).up) σ.extSize)

/-- **Inv of C14**: an empty array object has length 0; otherwise offset + length stay within the
element count of the descriptor, the byte count is representable, an allocated buffer fills the rest
of its block exactly (header + nm * sz = block size, no wrap-around), an external buffer has room -/
structure AInv (σ : State) : Prop where
  arr : ∀ a, a < σ.n → stamped σ a → σ.kind a = .array → ArrClause σ a
  /-- the client's external buffers have a representable size -/
  ext_lt : ∀ e, σ.extSize e < W

theorem clause_empty {σ : State} {a : Nat} (h : EmptyView σ a) : ArrClause σ a :=
  ⟨fun _ => h.2, fun hne => absurd h.1 hne⟩

theorem clause_congr {σ σ' : State} {a : Nat} (ho : σ'.obj a = σ.obj a) (hb : σ'.blk = σ.blk)
    (he : σ'.extSize = σ.extSize) (h : ArrClause σ a) : ArrClause σ' a := by
  unfold ArrClause at h ⊢; rw [ho, hb, he]; exact h

section
variable {A : Nat → Prop} {D : Bool} {σ σ' : State}

/-- a bookkeeping block that has an owner before and an owner after keeps its managed memory block -/
theorem up_stable {x y d : Nat} (I : Inv σ) (I' : Inv σ') (E : Ext A D σ σ')
    (X : Owner σ x) (hpx : (σ.obj x).ptr = d) (hd : d ≠ 0)
    (hy : y < σ.n) (hsy : stamped σ' y) (hky : σ.kind y = .shared ∨ σ.kind y = .array)
    (hpy : (σ'.obj y).ptr = d) :
    (σ'.blk d).up = (σ.blk d).up ∧ (σ.blk d).up < σ.next := by
  have O := owner_facts I X (by rw [hpx]; exact hd)
  have O' := owner_facts I' ⟨by rw [E.n]; exact hy, hsy, by rw [E.kind]; exact hky⟩ (by rw [hpy]; exact hd)
  rw [hpx] at O; rw [hpy] at O'
  exact ⟨MemOk.up_eq I I' (fun _ => E.sameGhost) hd O.mem O'.mem, O.up_lt⟩

/-- an array object `y` that afterwards refers to the descriptor the array object `x` referred to
before, with a view inside its element count, satisfies its clause -/
theorem arr_shared {x y : Nat} (I : Inv σ) (I' : Inv σ') (E : Ext A D σ σ')
    (hdesc : DescKept σ σ')
    (X : Proper σ (· = .array) x) (hp : (σ.obj x).ptr ≠ 0)
    (hc : ArrClause σ x) (hy : y < σ.n) (hsy : stamped σ' y) (hky : σ.kind y = .array)
    (hpy : (σ'.obj y).ptr = (σ.obj x).ptr)
    (hle : (σ'.obj y).off + (σ'.obj y).len ≤ (σ.blk (σ.blk (σ.obj x).ptr).up).anm) : ArrClause σ' y := by
  obtain ⟨hup, hmlt⟩ := up_stable I I' E X.array rfl hp hy hsy (Or.inr hky) hpy
  have h := hc.2 hp
  have g := E.sameGhost hmlt
  have d := hdesc _ hmlt
  refine ⟨fun hz => absurd (hpy ▸ hz) hp, fun _ => ?_⟩
  unfold ArrOk at h ⊢
  rw [hpy, hup, E.ext, d.1, d.2.1, d.2.2, g.size]
  exact ⟨hle, h.2⟩

theorem arr_other {a : Nat} (I : Inv σ) (I' : Inv σ') (E : Ext A D σ σ')
    (hdesc : DescKept σ σ')
    (Aa : Proper σ (· = .array) a) (ho : σ'.obj a = σ.obj a)
    (hc : ArrClause σ a) : ArrClause σ' a := by
  by_cases hp : (σ.obj a).ptr = 0
  · exact clause_empty (by unfold EmptyView; rw [ho]; exact ⟨hp, hc.1 hp⟩)
  · exact arr_shared I I' E hdesc Aa hp hc Aa.lt (by unfold stamped; rw [ho]; exact Aa.stamp) Aa.kind (by rw [ho])
      (by rw [ho]; exact (hc.2 hp).1)

end

theorem ainv_frame {op : Op} {σ σ' : State} {v : Val} (I : Inv σ) (I' : Inv σ') (AI : AInv σ)
    (hn : ∀ d s, op ≠ .rawCopy d s) (h : exec op σ = .ok v σ')
    (hdesc : DescKept σ σ')
    (hw : ∀ a, a ∈ op.writes → a < σ.n → σ.kind a = .array → stamped σ' a → ArrClause σ' a) :
    AInv σ' := by
  have E := exec_ext hn h
  refine ⟨fun a ha hs hk => ?_, fun e => by rw [E.ext]; exact AI.ext_lt e⟩
  rw [E.n] at ha; rw [E.kind] at hk
  by_cases haw : a ∈ op.writes
  · exact hw a haw ha hk hs
  · have ho := E.objs a haw
    have hs0 : stamped σ a := by unfold stamped at hs ⊢; rw [← ho]; exact hs
    exact arr_other I I' E hdesc ⟨ha, hs0, hk⟩ ho (AI.arr a ha hs0 hk)

theorem exec_desc {op : Op} {σ σ' : State} {v : Val} (hn : ∀ d s, op ≠ .rawCopy d s)
    (hD : op.writesDesc = false) (h : exec op σ = .ok v σ') :
    DescKept σ σ' :=
  (exec_ext hn h).desc hD

/-- the functions on guarded, unique, shared and weak pointers (everything but the `cstl_array_*`
functions and the client's bitwise copy) write no array object -/
def Op.plain : Op → Bool
  | .aInit _ | .aSize _ | .aSet .. | .aRelease _ | .aAlloc .. | .aReset _ | .aData _ | .aAt _ _
  | .aSlice .. | .aUnslice _ _ | .rawCopy _ _ => false
  | _ => true

theorem plain_writes {op : Op} {σ : State} {a : Nat} (hp : op.plain = true) (hd : op.dom σ)
    (ha : a ∈ op.writes) : σ.kind a ≠ .array := by
  -- the domain gives the kind of each written object
  cases op with
  | gGet _ | uGet _ | sUnique _ | sGet _ => cases ha
  | gInit _ | uRelease _ | uReset _ | sReset _ | wReset _ => cases List.mem_singleton.mp ha; rw [hd.2]; nofun
  | gSet _ _ | uInit _ | uAlloc _ _ _ _ _ | sInit _ | sAlloc _ _ _ _ _ | wInit _ | gCopy _ _ | wFrom _ _ =>
    cases List.mem_singleton.mp ha; rw [hd.1.2]; nofun
  | sShare _ _ | wLock _ _ => cases List.mem_singleton.mp ha; rw [hd.2.2]; nofun
  | gSwap _ _ | uSwap _ _ | sSwap _ _ | wSwap _ _ =>
    rcases List.mem_cons.mp ha with rfl | ha
    · rw [hd.1.2]; nofun
    · cases List.mem_singleton.mp ha; rw [hd.2.2]; nofun
  | _ => cases hp

theorem ainv_plain {op : Op} {σ σ' : State} {v : Val} (hp : op.plain = true) (I : Inv σ) (I' : Inv σ')
    (AI : AInv σ) (hd : op.dom σ) (h : exec op σ = .ok v σ') : AInv σ' := by
  have hn : ∀ d s, op ≠ .rawCopy d s := fun d s e => by subst e; cases hp
  have hD : op.writesDesc = false := by
    cases op with
    | aAlloc _ _ _ _ _ | aSet _ _ _ _ _ _ => cases hp
    | _ => rfl
  exact ainv_frame I I' AI hn h (exec_desc hn hD h)
    fun a ha _ hk _ => absurd hk (plain_writes hp hd ha)

theorem ainv_objs_only {σ σ' : State} (AI : AInv σ) (hn : σ'.n = σ.n) (hk : σ'.kind = σ.kind)
    (hb : σ'.blk = σ.blk) (he : σ'.extSize = σ.extSize) {t : Nat}
    (ho : ∀ x, x ≠ t → σ'.obj x = σ.obj x)
    (ht : t < σ.n → σ.kind t = .array → stamped σ' t → ArrClause σ' t) : AInv σ' := by
  refine ⟨fun a ha hs hka => ?_, fun e => by rw [he]; exact AI.ext_lt e⟩
  rw [hn] at ha; rw [hk] at hka
  by_cases hat : a = t
  · subst hat; exact ht ha hka hs
  · have hoa := ho a hat
    have hs0 : stamped σ a := by unfold stamped at hs ⊢; rw [← hoa]; exact hs
    exact clause_congr hoa hb he (AI.arr a ha hs0 hka)

theorem ainv_one {op : Op} {σ σ' : State} {v : Val} {t : Nat} (I : Inv σ) (I' : Inv σ') (AI : AInv σ)
    (hn : ∀ d s, op ≠ .rawCopy d s) (hw : op.writes = [t]) (h : exec op σ = .ok v σ') (hdesc : DescKept σ σ')
    (ht : stamped σ' t → ArrClause σ' t) : AInv σ' :=
  ainv_frame I I' AI hn h hdesc fun x hx _ _ hs => by
    rw [hw] at hx; cases List.mem_singleton.mp hx; exact ht hs

/-- a call (slice, unslice) after which `t` refers to the descriptor of the array object `x`, with a view inside its
element count -/
theorem ainv_view {op : Op} {σ σ' : State} {v : Val} {x t : Nat} (I : Inv σ) (I' : Inv σ') (AI : AInv σ)
    (hn : ∀ d s, op ≠ .rawCopy d s) (hw : op.writes = [t]) (hD : op.writesDesc = false) (h : exec op σ = .ok v σ')
    (X : Proper σ (· = .array) x) (hp : (σ.obj x).ptr ≠ 0) (T : Proper σ (· = .array) t)
    (hpt : (σ'.obj t).ptr = (σ.obj x).ptr)
    (hle : ArrOk (σ.obj x) (σ.blk (σ.blk (σ.obj x).ptr).up) σ.extSize →
      (σ'.obj t).off + (σ'.obj t).len ≤ (σ.blk (σ.blk (σ.obj x).ptr).up).anm) : AInv σ' :=
  have hc := AI.arr x X.lt X.stamp X.kind
  ainv_one I I' AI hn hw h (exec_desc hn hD h) fun hst =>
    arr_shared I I' (exec_ext hn h) (exec_desc hn hD h) X hp hc T.lt hst T.kind hpt (hle (hc.2 hp))

theorem ainv_aReset {σ σ' : State} {a : Nat} {v : Val} (I : Inv σ) (I' : Inv σ')
    (h : exec (.aReset a) σ = .ok v σ') (ho : EmptyView σ' a) (AI : AInv σ) : AInv σ' :=
  ainv_one I I' AI (by simp) rfl h (exec_desc (by simp) rfl h) fun _ => clause_empty ho

theorem ainv_rawCopy {σ : State} {d s : Nat} (AI : AInv σ) (hd : (Op.rawCopy d s).dom σ) :
    AInv (rawCopy d s σ) := by
  obtain ⟨_, hdn, _, _, hself⟩ := hd
  refine ainv_objs_only AI rfl rfl rfl rfl (t := d) (fun x hx => if_neg hx) fun _ hka hst => ?_
  have ho : (rawCopy d s σ).obj d = σ.obj s := if_pos rfl
  have hs' : (σ.obj s).self = d := (congrArg Obj.self ho).symm.trans hst
  rcases hself with rfl | hne
  · exact clause_congr ho rfl rfl (AI.arr d hdn hs' hka)
  · exact absurd hs' hne

theorem ainv_aInit {σ : State} (a : Nat) (AI : AInv σ) : AInv (aInit a σ) := by
  refine ainv_objs_only AI rfl rfl rfl rfl (t := a) (fun x hx => (if_neg hx).trans (if_neg hx)) fun _ _ _ => ?_
  have ho : (aInit a σ).obj a = { σ.obj a with self := a, ptr := 0, off := 0, len := 0 } := by
    simp [aInit, sInit]
  exact clause_empty (by unfold EmptyView; rw [ho]; exact ⟨rfl, rfl, rfl⟩)

/-- the view of the whole of a freshly allocated buffer -/
theorem clause_alloc {σ : State} {a nm sz d n0 : Nat}
    (V : FreshView n0 σ a nm d
      { live := true, size := (HDR + nm * sz) % W, ownerD := d, clrG := 0, asz := sz, anm := nm, abuf := 0 })
    (hfit : fits nm sz = true) (hnm : nm < W) (hsz : sz < W) : ArrClause σ a := by
  refine ⟨fun h0 => absurd (V.ptr ▸ h0) V.ne0, fun _ => ?_⟩
  have hlt := fits_lt hfit
  unfold ArrOk
  rw [V.ptr, V.up, V.desc, V.off, V.len]
  dsimp only
  exact ⟨by omega, by omega, hnm, hsz, fun _ => ⟨(Nat.mod_eq_of_lt hlt).symm, Nat.mod_lt _ (by simp [W])⟩,
    fun h0 => absurd rfl h0⟩

/-- the view of the whole of an external buffer that has room -/
theorem clause_set {σ : State} {a e nm sz d n0 : Nat}
    (V : FreshView n0 σ a nm d
      { live := true, size := HDR, ownerD := d, clrG := 0, asz := sz, anm := nm, abuf := e })
    (he0 : e ≠ 0) (hnm : nm < W) (hsz : sz < W) (hroom : nm * sz ≤ σ.extSize e) (hext : σ.extSize e < W) :
    ArrClause σ a := by
  refine ⟨fun h0 => absurd (V.ptr ▸ h0) V.ne0, fun _ => ?_⟩
  unfold ArrOk
  rw [V.ptr, V.up, V.desc, V.off, V.len]
  dsimp only
  exact ⟨by omega, by omega, hnm, hsz, fun h0 => absurd h0 he0, fun _ => hroom⟩

/-- the bounds check of `cstl_array_slice` on plain numbers: `off ≤ anm`, so the wrapped `anm - off` is the true
difference (`wrap_sub`), and `(off + beg) % W + (en - beg) ≤ off + en ≤ anm` -/
theorem slice_inside {off len beg en anm : Nat} (hol : off + len ≤ anm) (hanm : anm < W) (h1 : ¬ en < beg)
    (h2 : ¬ en > (anm + W - off) % W) : (off + beg) % W + (en - beg) ≤ anm := by
  have hle := Nat.mod_le (off + beg) W
  rw [wrap_sub (Nat.le_trans (Nat.le_add_right _ _) hol) hanm] at h2
  omega

end Cstl.Mem
