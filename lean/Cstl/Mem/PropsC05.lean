import Cstl.Mem.Exec
/-
C05 — shared memory is destroyed exactly once, exactly when its last owner lets
go.

Reading guide.  `Inv σ` is the ownership invariant: for every live bookkeeping
block `d`, `hard d` = number of (stamped) shared/array objects pointing to `d`
(`nH σ d`), `soft d` = owners + weak pointers (`nH σ d + nW σ d`); the managed
memory `up d` is live iff `hard d > 0`; the bookkeeping block is live iff it is
referenced.  `LogInv σ` ties the event log to the `live` flags (a block is live
iff it was allocated and not yet freed; nothing is freed twice).  Both hold in
the initial state and after every program (`run_inv`, `run_logInv`), for any
number of objects and blocks, any malloc answers, with stray copies lying
around.
-/
namespace Cstl.Mem

theorem inv_init (n : Nat) (kind : Nat → Kind) (es : Nat → Nat) : Inv (State.init n kind es) :=
  -- no block is live, no object holds a pointer, the log is empty: most clauses hold vacuously
  { zero := rfl
    fresh := fun _ _ => rfl
    next_pos := by simp [State.init]
    ref_ok := fun a d _ h hd => by rcases h with h | h <;> exact absurd h.2.2.symm hd
    log_ok := .nil
    data_cnt := by intros; simp_all [State.init]
    data_pos := by intros; simp_all [State.init]
    data_up0 := by intros; simp_all [State.init]
    data_up := by intros; simp_all [State.init]
    uniq_ok := by intros; simp_all [State.init]
    uniq_inj := by intros; simp_all [State.init]
    log_lt := by intros; simp_all [State.init]
    owner_lt := by intros; simp_all [State.init]
    owner_inj := by intros; simp_all [State.init]
    mem_owned := by intros; simp_all [State.init] }

theorem step_ok {op : Op} {σ σ' : State} {v : Val} (h : step op σ = .ok v σ') :
    (∃ d s, σ' = rawCopy d s σ) ∨ Steps (· ∈ op.writes) op.writesDesc σ σ' := by
  obtain ⟨_, h⟩ := step_eq_ok.mp h
  by_cases hr : ∃ d s, op = .rawCopy d s
  · obtain ⟨d, s, rfl⟩ := hr
    cases h; exact Or.inl ⟨d, s, rfl⟩
  · have hs := steps_exec op σ (fun d s e => hr ⟨d, s, e⟩)
    rw [h] at hs; exact Or.inr hs

theorem step_logInv {op : Op} {σ σ' : State} {v : Val} (L : LogInv σ) (h : step op σ = .ok v σ') :
    LogInv σ' := by
  rcases step_ok h with ⟨d, s, rfl⟩ | hs
  · exact ⟨L.live_iff, L.alloc_lt, L.free_once, L.free_alloc⟩
  · exact hs.logInv L

theorem run_logInv {ops : List Op} {σ σ' : State} {vs : List Val} (L : LogInv σ)
    (h : run ops σ = .ok vs σ') : LogInv σ' :=
  run_induct (fun _ _ _ _ L h1 => step_logInv L h1) L h

/-- **Inv over arbitrary histories**: from the initial state of any number of objects of any kinds,
after any program (any operations, arguments, malloc answers, bitwise copies) that ran to
completion, the ownership invariant and the log invariant hold. -/
theorem reachable_inv {n : Nat} {kind : Nat → Kind} {es : Nat → Nat} {ops : List Op} {σ : State}
    {vs : List Val} (h : run ops (State.init n kind es) = .ok vs σ) : Inv σ ∧ LogInv σ :=
  ⟨(run_inv (inv_init n kind es) h).1, run_logInv (LogInv.init n kind es) h⟩

-- `counts_exact` on a concrete history: two owners and a weak reference left on block 1
example : ∃ σ vs, run [.sAlloc 0 8 1 true true, .sShare 0 1, .wFrom 2 0, .sReset 0, .wLock 2 0]
    (State.init 3 (fun a => if a = 2 then .weak else .shared) (fun _ => 0)) = .ok vs σ ∧
    (σ.blk 1).hard = 2 ∧ (σ.blk 1).soft = 3 := by
  refine ⟨_, _, rfl, ?_, ?_⟩ <;> decide

/-- `hard` = number of owners, `soft` = owners + weak references, for every live bookkeeping block -/
theorem counts_exact {σ : State} (I : Inv σ) {d : Nat} (hl : (σ.blk d).live = true)
    (hd : (σ.blk d).isData = true) :
    (σ.blk d).hard = nH σ d ∧ (σ.blk d).soft = nH σ d + nW σ d := I.data_cnt d hl hd

/-- the managed memory of a live bookkeeping block is there exactly while an
owner exists -/
theorem mem_live_iff {σ : State} (I : Inv σ) {d : Nat} (hl : (σ.blk d).live = true)
    (hd : (σ.blk d).isData = true) :
    ((σ.blk d).up ≠ 0 ∧ (σ.blk (σ.blk d).up).live = true) ↔ 0 < nH σ d := by
  have hc := (I.data_cnt d hl hd).1
  constructor
  · intro ⟨hu, _⟩
    by_cases h0 : (σ.blk d).hard = 0
    · exact absurd (I.data_up0 d hl hd h0).1 hu
    · omega
  · intro h
    have := I.data_up d hl hd (by omega)
    exact ⟨this.1, this.2.1⟩

/-- a bookkeeping block is live exactly while something refers to it -/
theorem data_live_iff {σ : State} (I : Inv σ) {d : Nat} (hd0 : d ≠ 0) (hd : (σ.blk d).isData = true) :
    (σ.blk d).live = true ↔ 0 < nH σ d + nW σ d := by
  constructor
  · intro hl
    have := I.data_cnt d hl hd
    have := I.data_pos d hl hd
    omega
  · intro h
    by_cases h1 : 0 < nH σ d
    · obtain ⟨x, hx, hr⟩ := nH_pos.mp h1
      exact (I.ref_ok x d hx (Or.inl hr) hd0).1
    · obtain ⟨x, hx, hr⟩ := nW_pos.mp (by omega : 0 < nW σ d)
      exact (I.ref_ok x d hx (Or.inr hr) hd0).1

theorem step_ext {op : Op} {σ σ' : State} {v : Val} (h : step op σ = .ok v σ') :
    (∃ evs, σ'.log = σ.log ++ evs) ∧ σ.next ≤ σ'.next ∧
    (∀ b, b < σ.next → Blk.SameGhost (σ.blk b) (σ'.blk b)) := by
  rcases step_ok h with ⟨d, s, rfl⟩ | hs
  · exact ⟨⟨[], by simp [rawCopy]⟩, Nat.le_refl _, fun _ _ => .refl _⟩
  · exact ⟨hs.ext.log, hs.ext.next, fun _ => hs.ext.sameGhost⟩

/-- a block that is live before an operation: the operation logs its release iff it is dead
afterwards, and if it is client memory the registered clear callback (if any) runs in the same
operation, immediately before -/
theorem release_in_op {op : Op} {σ σ' : State} {v : Val} (I : Inv σ) (L : LogInv σ)
    (h : step op σ = .ok v σ') {b : Nat} (hl : (σ.blk b).live = true) :
    ∃ evs, σ'.log = σ.log ++ evs ∧
      (Ev.free b ∈ evs ↔ (σ'.blk b).live = false) ∧
      (Ev.free b ∈ evs → (σ.blk b).isData = false →
        ((σ.blk b).clrG ≠ 0 → ∃ pre post,
            evs = pre ++ [Ev.clr (σ.blk b).clrG b (σ.blk b).privG, Ev.free b] ++ post) ∧
        ((σ.blk b).clrG = 0 → ∀ f pr, Ev.clr f b pr ∉ σ'.log)) := by
  obtain ⟨⟨evs, hlog⟩, hnext, hghost⟩ := step_ext h
  obtain ⟨I', _⟩ := step_inv I h
  have L' := step_logInv L h
  have hlt := I.live_lt hl
  have hg := hghost b hlt
  have hnotfreed : Ev.free b ∉ σ.log := ((L.live_iff _).mp hl).2
  have halloc : ∃ sz, Ev.alloc b sz ∈ σ'.log := by
    obtain ⟨sz, hs⟩ := ((L.live_iff _).mp hl).1
    exact ⟨sz, by rw [hlog]; simp [hs]⟩
  refine ⟨evs, hlog, ?_, ?_⟩
  · have := L'.live_iff b
    rw [hlog] at this
    constructor
    · intro hin
      cases hv : (σ'.blk b).live with
      | false => rfl
      | true => exact absurd (by simp [hin]) (this.mp hv).2
    · intro hdead
      apply Classical.byContradiction
      intro hin
      have := this.mpr ⟨by rw [← hlog]; exact halloc, fun hm => (List.mem_append.mp hm).elim hnotfreed hin⟩
      rw [hdead] at this; cases this
  · intro hin hd
    obtain ⟨e1, e2, he⟩ := List.append_of_mem hin
    have hlog' : σ'.log = (σ.log ++ e1) ++ Ev.free b :: e2 := by rw [hlog, he]; simp
    constructor
    · intro hc
      obtain ⟨l0, h0⟩ := (I'.log_ok.evOk _ _ _ hlog').2 b rfl (by rw [hg.isData]; exact hd) (by rw [hg.clrG]; exact hc)
      rw [hg.clrG, hg.privG] at h0
      rcases append_eq_snoc h0 with ⟨_, hbad⟩ | ⟨e1', he1⟩
      · exact absurd hbad (I.log_ok.not_end_clr _ _ _ _)
      · exact ⟨e1', e2, by rw [he, he1]; simp⟩
    · intro hc f pr hmem
      obtain ⟨l1, l2, hsp⟩ := List.append_of_mem hmem
      obtain ⟨_, _, hf0, hfc, _⟩ := (I'.log_ok.evOk _ _ _ hsp).1 f b pr rfl
      rw [hg.clrG, hc] at hfc
      exact hf0 hfc

/-- **destroy_exactly_at_last_owner.**  Let `d` be a bookkeeping block with at least one owner and
`m` its managed memory.  An operation releases `m` (logs `free m`) if and only if afterwards no
owner of `d` is left — never earlier (while an owner remains), never later (the very operation
that removes the last owner releases it). -/
theorem destroy_exactly_at_last_owner {op : Op} {σ σ' : State} {v : Val} (I : Inv σ) (L : LogInv σ)
    (h : step op σ = .ok v σ') {d : Nat} (hl : (σ.blk d).live = true) (hd : (σ.blk d).isData = true)
    (hown : 0 < nH σ d) :
    ∃ evs, σ'.log = σ.log ++ evs ∧ (Ev.free (σ.blk d).up ∈ evs ↔ nH σ' d = 0) := by
  obtain ⟨_, _, hghost⟩ := step_ext h
  obtain ⟨I', _⟩ := step_inv I h
  have hc := (I.data_cnt d hl hd).1
  obtain ⟨hm0, hml, hmd, hmo, _, _⟩ := I.data_up d hl hd (by omega)
  have hd0 : d ≠ 0 := I.live_ne0 hl
  have hg := hghost _ (I.live_lt hml)
  obtain ⟨evs, hlog, hfree_iff, _⟩ := release_in_op I L h hml
  refine ⟨evs, hlog, ?_⟩
  rw [hfree_iff]
  constructor
  · intro hdead
    apply Classical.byContradiction
    intro hne
    have hpos : 0 < nH σ' d := by omega
    obtain ⟨x, hx, hr⟩ := nH_pos.mp hpos
    obtain ⟨hl', hd'⟩ := I'.ref_ok x d hx (Or.inl hr) hd0
    have hc' := (I'.data_cnt d hl' hd').1
    have hm' := I'.data_up d hl' hd' (by omega)
    rw [MemOk.up_eq I I' hghost hd0 (I.data_up d hl hd (by omega)) hm'] at hm'
    rw [hm'.live] at hdead; cases hdead
  · intro hz
    cases hv : (σ'.blk (σ.blk d).up).live with
    | false => rfl
    | true =>
      have ho := (I'.mem_owned _ hv (by rw [hg.isData]; exact hmd)).2 (by rw [hg.ownerD, hmo]; exact hd0)
      rw [hg.ownerD, hmo] at ho
      obtain ⟨hl', hd', hup'⟩ := ho
      have hc' := (I'.data_cnt d hl' hd').1
      have := (I'.data_up0 d hl' hd' (by omega)).1
      rw [this] at hup'; exact absurd hup'.symm hm0

/-- nothing is ever freed twice (managed memory, bookkeeping blocks, unique pointers' memory) -/
theorem free_at_most_once {σ : State} (L : LogInv σ) (b : Nat) : σ.log.count (Ev.free b) ≤ 1 :=
  L.free_once b

/-- co-owners see the same address: `get` through any two owners of the same allocation -/
theorem get_same {σ : State} {a b : Nat} (I : Inv σ) (ha : a < σ.n) (hb : b < σ.n)
    (hsa : stamped σ a) (hsb : stamped σ b) (hka : σ.kind a = .shared) (hkb : σ.kind b = .shared)
    (hp : (σ.obj a).ptr = (σ.obj b).ptr) (hp0 : (σ.obj a).ptr ≠ 0) :
    ∃ m, m ≠ 0 ∧ (σ.blk m).live = true ∧ sGet a σ = .ok m σ ∧ sGet b σ = .ok m σ := by
  have A : Owner σ a := ⟨ha, hsa, Or.inl hka⟩
  have hm := (owner_facts I A hp0).mem
  refine ⟨(σ.blk (σ.obj a).ptr).up, hm.ne0, hm.live, ?_, ?_⟩
  · rw [sGet_eval I A]; simp [hp0]
  · rw [sGet_eval I ⟨hb, hsb, Or.inl hkb⟩, ← hp]; simp [hp0]

/-- **lock_iff.**  Locking the weak pointer `w` into `s` (which first lets go of what it had) makes
`s` an owner of `w`'s allocation if and only if an owner of it still exists at that moment. -/
theorem lock_iff {σ : State} {w s : Nat} (I : Inv σ) (hw : w < σ.n) (hs : s < σ.n)
    (hsw : stamped σ w) (hss : stamped σ s) (hkw : σ.kind w = .weak) (hks : σ.kind s = .shared) :
    ∃ σ1 σ', sReset s σ = .ok () σ1 ∧ wLock w s σ = .ok () σ' ∧ Inv σ' ∧
      ((σ'.obj s).ptr ≠ 0 ↔ ((σ.obj w).ptr ≠ 0 ∧ 0 < nH σ1 (σ.obj w).ptr)) ∧
      ((σ'.obj s).ptr ≠ 0 → (σ'.obj s).ptr = (σ.obj w).ptr) := by
  obtain ⟨σ', σ1, h1, h2, I', _, ho⟩ := wLock_inv I ⟨hw, hsw, hkw⟩ ⟨hs, hss, Or.inl hks⟩
  refine ⟨σ1, σ', h1, h2, I', ?_⟩
  rw [ho]; simp only [if_true]
  by_cases hn : 0 < nH σ1 (σ.obj w).ptr <;> simp [hn]

/-- **unique_iff.**  `cstl_shared_ptr_unique` answers true exactly when the pointer is empty or no
other shared or weak pointer refers to its allocation. -/
theorem unique_iff {σ : State} {a : Nat} (I : Inv σ) (ha : a < σ.n) (hsa : stamped σ a)
    (hk : σ.kind a = .shared) :
    ∃ u, sUnique a σ = .ok u σ ∧
      (u = true ↔ ((σ.obj a).ptr = 0 ∨ ∀ x, x < σ.n → x ≠ a →
        ¬ HRef σ.obj σ.kind (σ.obj a).ptr x ∧ ¬ WRef σ.obj σ.kind (σ.obj a).ptr x)) := by
  have A : Owner σ a := ⟨ha, hsa, Or.inl hk⟩
  refine ⟨_, sUnique_eval I A, ?_⟩
  by_cases hp : (σ.obj a).ptr = 0
  · simp [hp]
  · have O := owner_facts I A hp
    have hsoft := O.soft
    have hra : HRef σ.obj σ.kind (σ.obj a).ptr a := ⟨hsa, Or.inl hk, rfl⟩
    simp only [hp, if_false, beq_iff_eq, false_or]
    constructor
    · intro h1 x hx hxa
      constructor
      · intro hr
        have := cnt_two (p := HRef σ.obj σ.kind (σ.obj a).ptr) ha hx (fun e => hxa e.symm) hra hr
        unfold nH at hsoft; omega
      · intro hr
        have h1' : 0 < nW σ (σ.obj a).ptr := nW_pos.mpr ⟨x, hx, hr⟩
        have h2' : 0 < nH σ (σ.obj a).ptr := nH_pos.mpr ⟨a, ha, hra⟩
        omega
    · intro hall
      have h1 : nH σ (σ.obj a).ptr = 1 := cnt_only ha hra (fun x hx hxa => (hall x hx hxa).1)
      have h2 : nW σ (σ.obj a).ptr = 0 := cnt_zero.mpr (fun x hx hr => by
        by_cases hxa : x = a
        · subst hxa; rw [hr.2.1] at hk; cases hk
        · exact (hall x hx hxa).2 hr)
      omega

/-- **no_leak.**  When every pointer object has been reset, no block is live, and every block that
was ever allocated has been freed exactly once. -/
theorem no_leak {σ : State} (I : Inv σ) (L : LogInv σ)
    (hall : ∀ a, a < σ.n → stamped σ a → σ.kind a ≠ .guarded → (σ.obj a).ptr = 0) :
    (∀ b, (σ.blk b).live = false) ∧
    (∀ b sz, Ev.alloc b sz ∈ σ.log → σ.log.count (Ev.free b) = 1) := by
  have hdata : ∀ d, (σ.blk d).live = true → (σ.blk d).isData = true → False := by
    intro d hl hd
    have hc := I.data_cnt d hl hd
    have hp := (I.data_pos d hl hd).1
    have hd0 := I.live_ne0 hl
    by_cases h1 : 0 < nH σ d
    · obtain ⟨x, hx, hr⟩ := nH_pos.mp h1
      have := hall x hx hr.1 (by rcases hr.2.1 with h | h <;> simp [h])
      exact hd0 (by rw [← hr.2.2, this])
    · obtain ⟨x, hx, hr⟩ := nW_pos.mp (by omega : 0 < nW σ d)
      have := hall x hx hr.1 (by simp [hr.2.1])
      exact hd0 (by rw [← hr.2.2, this])
  have hdead : ∀ b, (σ.blk b).live = false := by
    intro b
    cases hv : (σ.blk b).live with
    | false => rfl
    | true =>
      exfalso
      cases hd : (σ.blk b).isData with
      | true => exact hdata b hv hd
      | false =>
        have ho := I.mem_owned b hv hd
        by_cases h0 : (σ.blk b).ownerD = 0
        · obtain ⟨a, ha, hs, hk, hp⟩ := ho.1 h0
          have := hall a ha hs (by simp [hk])
          exact I.live_ne0 hv (by rw [← hp, this])
        · obtain ⟨hl', hd', _⟩ := ho.2 h0
          exact hdata _ hl' hd'
  refine ⟨hdead, fun b sz hb => ?_⟩
  have h1 := L.free_once b
  have : Ev.free b ∈ σ.log := by
    apply Classical.byContradiction
    intro hn
    have := (L.live_iff b).mpr ⟨⟨sz, hb⟩, hn⟩
    rw [hdead b] at this; cases this
  have : 0 < σ.log.count (Ev.free b) := List.count_pos_iff.mpr this
  omega

/-- in every reachable log: each clear callback is the registered one, runs on client memory and is
immediately followed by the release of exactly that memory; and each release of client memory with
a registered callback is immediately preceded by it.  With `free_at_most_once`: the callback runs
exactly once per destroyed allocation, right before its only release. -/
theorem clear_then_free {σ : State} (I : Inv σ) :
    (∀ l1 l2 f b pr, σ.log = l1 ++ Ev.clr f b pr :: l2 →
      ∃ l3, l2 = Ev.free b :: l3 ∧ f ≠ 0 ∧ f = (σ.blk b).clrG ∧ pr = (σ.blk b).privG ∧
        (σ.blk b).isData = false) ∧
    (∀ l1 l2 b, σ.log = l1 ++ Ev.free b :: l2 → (σ.blk b).isData = false → (σ.blk b).clrG ≠ 0 →
      ∃ l0, l1 = l0 ++ [Ev.clr (σ.blk b).clrG b (σ.blk b).privG]) :=
  ⟨fun l1 l2 f b pr h => (I.log_ok.evOk l1 _ l2 h).1 f b pr rfl,
   fun l1 l2 b h => (I.log_ok.evOk l1 _ l2 h).2 b rfl⟩

/-- **clear, then free, in the operation that removes the last owner.**  When the operation leaves
`d` without owner, its log entries contain `clear(m); free(m)` back to back if a clear callback
`c` was registered at allocation (`upClr`), and no callback on `m` ever runs if none was. -/
theorem clear_exactly_at_last_owner {op : Op} {σ σ' : State} {v : Val} (I : Inv σ) (L : LogInv σ)
    (h : step op σ = .ok v σ') {d : Nat} (hl : (σ.blk d).live = true) (hd : (σ.blk d).isData = true)
    (hown : 0 < nH σ d) (hgone : nH σ' d = 0) :
    ∃ evs, σ'.log = σ.log ++ evs ∧
      ((σ.blk d).upClr ≠ 0 → ∃ pre post,
          evs = pre ++ [Ev.clr (σ.blk d).upClr (σ.blk d).up 0, Ev.free (σ.blk d).up] ++ post) ∧
      ((σ.blk d).upClr = 0 → Ev.free (σ.blk d).up ∈ evs ∧ ∀ f pr, Ev.clr f (σ.blk d).up pr ∉ σ'.log) := by
  have hc := (I.data_cnt d hl hd).1
  have hm := I.data_up d hl hd (by omega)
  unfold MemOk at hm
  obtain ⟨hm0, hml, hmd, hmo, hmc, hmp⟩ := hm
  obtain ⟨evs1, hlog1, hiff⟩ := destroy_exactly_at_last_owner I L h hl hd hown
  obtain ⟨evs, hlog, _, hcl⟩ := release_in_op I L h hml
  have : evs1 = evs := List.append_cancel_left (hlog1.symm.trans hlog)
  subst this
  have hin := hiff.mpr hgone
  have := hcl hin hmd
  rw [hmc, hmp] at this
  exact ⟨evs1, hlog, this.1, fun h0 => ⟨hin, this.2 h0⟩⟩

/-- **unique pointers.**  Memory owned by a unique pointer object is released by an operation iff no
unique pointer object holds it afterwards (across alloc, release, swap and reset: a swap moves the
ownership, the memory stays); the registered clear callback runs in that same operation,
immediately before the release, with the registered argument; never a second time
(`free_at_most_once`). -/
theorem unique_clear_then_free_once {op : Op} {σ σ' : State} {v : Val} (I : Inv σ) (L : LogInv σ)
    (h : step op σ = .ok v σ') {a : Nat} (ha : a < σ.n) (hs : stamped σ a) (hk : σ.kind a = .unique)
    (hp : (σ.obj a).ptr ≠ 0) :
    ∃ evs, σ'.log = σ.log ++ evs ∧
      (Ev.free (σ.obj a).ptr ∈ evs ↔
        ¬ ∃ a', a' < σ'.n ∧ stamped σ' a' ∧ σ'.kind a' = .unique ∧ (σ'.obj a').ptr = (σ.obj a).ptr) ∧
      (Ev.free (σ.obj a).ptr ∈ evs →
        ((σ.obj a).clr ≠ 0 → ∃ pre post,
          evs = pre ++ [Ev.clr (σ.obj a).clr (σ.obj a).ptr (σ.obj a).priv, Ev.free (σ.obj a).ptr] ++ post) ∧
        ((σ.obj a).clr = 0 → ∀ f pr, Ev.clr f (σ.obj a).ptr pr ∉ σ'.log)) := by
  have U := uniq_facts I ⟨ha, hs, hk⟩ hp
  obtain ⟨evs, hlog, hiff, hcl⟩ := release_in_op I L h U.live
  obtain ⟨_, _, hghost⟩ := step_ext h
  obtain ⟨I', _⟩ := step_inv I h
  have hg := hghost _ (I.live_lt U.live)
  refine ⟨evs, hlog, ?_, ?_⟩
  · rw [hiff]
    constructor
    · intro hdead ⟨a', ha', hs', hk', hp'⟩
      have := ((I'.uniq_ok a' ha' hs' hk').2 (by rw [hp']; exact hp)).1
      rw [hp', hdead] at this; cases this
    · intro hno
      cases hv : (σ'.blk (σ.obj a).ptr).live with
      | false => rfl
      | true =>
        exact absurd ((I'.mem_owned _ hv (by rw [hg.isData]; exact U.isData)).1 (by rw [hg.ownerD]; exact U.ownerD)) hno
  · intro hin
    have := hcl hin U.isData
    rw [U.clrG, U.privG] at this
    exact this

/-! ### non-vacuity: the hypotheses above are met by concrete, non-trivial histories -/

/-- three shared objects 0,1,2, a weak object 3, a unique object 4 -/
def exKind (a : Nat) : Kind := if a = 3 then .weak else if a = 4 then .unique else .shared

/-- an allocation with clear callback 7, shared by objects 0 and 1 and referred to weakly by object 3, is left
with the one owner 1 after object 0 let go; object 4 is a unique pointer with callback 2 -/
def exProg : List Op := [.sAlloc 0 8 7 true true, .sShare 0 1, .wFrom 3 0, .sReset 0, .uAlloc 4 16 2 9 true]

example : ∃ σ vs, run exProg (State.init 5 exKind (fun _ => 0)) = .ok vs σ ∧
    -- hypotheses of `destroy_exactly_at_last_owner` / `clear_exactly_at_last_owner` for d = 1 …
    (σ.blk 1).live = true ∧ (σ.blk 1).isData = true ∧ 0 < nH σ 1 ∧ (σ.blk 1).upClr ≠ 0 ∧
    -- … and the last owner going away in one more step
    (∃ v σ', step (.sReset 1) σ = .ok v σ' ∧ nH σ' 1 = 0 ∧
      σ'.log = σ.log ++ [Ev.clr 7 2 0, Ev.free 2]) ∧
    -- hypotheses of `lock_iff` (w = 3, s = 2), `unique_iff`, `get_same`, `unique_clear_then_free_once`
    (σ.obj 3).self = 3 ∧ (σ.obj 2).self = 2 ∧ (σ.obj 1).self = 1 ∧ (σ.obj 4).self = 4 ∧
    (σ.obj 4).ptr ≠ 0 ∧ (σ.obj 4).clr ≠ 0 := by
  refine ⟨_, _, rfl, by decide, by decide, by decide, by decide, ⟨_, _, rfl, by decide, by decide⟩,
    by decide, by decide, by decide, by decide, by decide, by decide⟩

example : ∃ σ vs, run (exProg ++ [.sReset 1, .wReset 3, .uReset 4])
      (State.init 5 exKind (fun _ => 0)) = .ok vs σ ∧
    -- hypothesis of `no_leak`: everything was reset; three blocks allocated, two callbacks, three frees
    (∀ a, a < 5 → (σ.obj a).ptr = 0) ∧ σ.log.length = 8 := by
  refine ⟨_, _, rfl, by decide, by decide⟩

end Cstl.Mem
