import Cstl.Mem.Exec
/-
C20 — bitwise-copied smart pointers are caught before they can double-free.

`stamped σ a` : the object at address `a` carries its own address in its
`cstl_guarded_ptr` (it was initialised or written by the library at `a`);
a bitwise copy (`Op.rawCopy`) to another address leaves the *source's* address in
the copy, so the copy is not stamped.  `Op.reads op` lists the argument objects
through which the call reads, transfers or releases the pointer (every public
function × argument position except the overwrite-only ones in `Op.overwrites`
and `cstl_array_size`, which does not look at the pointer).
-/
namespace Cstl.Mem

/-- **stray_aborts.**  For every entry point and every argument position through which it reads,
transfers or releases the pointer: if the object in that position is a stray copy (whether its
pointer is NULL or not, whatever it points to, live or long freed), the call aborts; and before the
abort nothing happened (`Before.nothing`), or only the plain `off`/`len` words of the stray object
itself were overwritten (`Before.fields`: slice/unslice into a stray target), or a *different*,
well-stamped argument was reset by the library exactly as in the C order of calls
(`Before.coReset`: share / weak-from / weak-lock reset their target first). -/
theorem stray_aborts {op : Op} {σ : State} {x : Nat} (I : Inv σ) (hd : op.dom σ) (hx : x ∈ op.reads)
    (hs : ¬ stamped σ x) : ∃ σ', step op σ = .stop .abort σ' ∧ Before σ x σ' := by
  obtain ⟨σ', h, b⟩ := exec_stray I hd hx hs
  exact ⟨σ', (step_of_dom hd).trans h, b⟩

/-- nothing was read, transferred or released *through the stray object*: at the abort it still holds
the same pointer and stamp, and the log, the blocks and all other objects are as before, except for
the complete library reset of the well-stamped co-argument in the `coReset` case -/
theorem stray_untouched {σ σ' : State} {x : Nat} (b : Before σ x σ') :
    (σ'.obj x).self = (σ.obj x).self ∧ (σ'.obj x).ptr = (σ.obj x).ptr ∧
    (σ'.obj x).clr = (σ.obj x).clr ∧ (σ'.obj x).priv = (σ.obj x).priv ∧
    ((σ'.log = σ.log ∧ σ'.blk = σ.blk ∧ ∀ y, y ≠ x → σ'.obj y = σ.obj y) ∨
     (∃ y, y ≠ x ∧ stamped σ y ∧ (sReset y σ = .ok () σ' ∨ wReset y σ = .ok () σ') ∧ σ'.obj x = σ.obj x)) := by
  cases b with
  | nothing => exact ⟨rfl, rfl, rfl, rfl, Or.inl ⟨rfl, rfl, fun _ _ => rfl⟩⟩
  | fields off len =>
    refine ⟨by simp, by simp, by simp, by simp, Or.inl ⟨rfl, rfl, fun y hy => by simp [hy]⟩⟩
  | coReset y σ1 hne hsy hr =>
    have hox : σ'.obj x = σ.obj x := by
      have hxy : ¬ (x = y) := fun e => hne e.symm
      rcases hr with hr | hr
      · exact (Ext.of_steps (steps_sReset (A := (· = y)) (D := false) y rfl (Steps.refl σ)) hr).objs x hxy
      · exact (Ext.of_steps (steps_wReset (A := (· = y)) (D := false) y rfl (Steps.refl σ)) hr).objs x hxy
    exact ⟨by rw [hox], by rw [hox], by rw [hox], by rw [hox], Or.inr ⟨y, hne, hsy, hr, hox⟩⟩

/-- the argument objects a call overwrites without reading them (`init`, `set`, copy destination) -/
def Op.overwrites : Op → List Nat
  | .gInit a | .gSet a _ | .uInit a | .sInit a | .wInit a | .aInit a => [a]
  | .gCopy d _ => [d]
  | _ => []

/-- **overwrite_only.**  `init`, `set` and the destination of `copy` never read the object they
overwrite: the call succeeds whether or not that object is a stray copy, afterwards the object is
properly stamped, and its new pointer is the written value — independent of the stale pointer and
stamp it held (the result is literally the same for any other old `self`/`ptr`). -/
theorem overwrite_only {op : Op} {σ : State} {x : Nat} (hx : x ∈ op.overwrites) (hxr : x ∉ op.reads)
    (hr : ∀ y, y ∈ op.reads → stamped σ y) :
    ∃ σ', exec op σ = .ok .unit σ' ∧ stamped σ' x ∧
      (∀ s p, ∃ σ'', exec op (σ.setObj x { σ.obj x with self := s, ptr := p }) = .ok .unit σ'' ∧
        σ''.obj x = σ'.obj x) := by
  cases op with
  | gInit a | gSet a _ | uInit a | sInit a | wInit a | aInit a =>
    cases List.mem_singleton.mp hx
    exact ⟨_, rfl, by simp [stamped, gInit, uInit, sInit, aInit],
      fun s p => ⟨_, rfl, by simp [gInit, uInit, sInit, aInit, gSet]⟩⟩
  | gCopy d s =>
    cases List.mem_singleton.mp hx
    have hsx : s ≠ x := by intro e; apply hxr; simp [Op.reads, e]
    have hs : (σ.obj s).self = s := hr s (by simp [Op.reads])
    refine ⟨gSet x (σ.obj s).ptr σ, by simp [exec, unitR, gCopy, gGet_eval hs], by simp [stamped], ?_⟩
    intro s' p
    have hs2 : ((σ.setObj x { σ.obj x with self := s', ptr := p }).obj s).self = s := by simp [hsx, hs]
    refine ⟨gSet x (σ.obj s).ptr (σ.setObj x { σ.obj x with self := s', ptr := p }), ?_, by simp [gSet]⟩
    simp [exec, unitR, gCopy, gGet_eval hs2, hsx]
  | _ => cases hx

def AllStamped (σ : State) : Prop := ∀ a, a < σ.n → stamped σ a

/-- **stamped_preserved.**  Library calls only ever stamp an object with its own address: an object
that is properly stamped stays so (only the client's bitwise copy produces stray objects). -/
theorem stamped_preserved {op : Op} {σ σ' : State} {v : Val} (hn : ∀ d s, op ≠ .rawCopy d s)
    (h : step op σ = .ok v σ') : ∀ x, stamped σ x → stamped σ' x := by
  intro x hx
  exact ((exec_ext hn (step_eq_ok.mp h).2).self x).elim (fun e => e.trans hx) id

/-- **the original keeps working.**  A bitwise copy changes nothing but the destination bytes: the
source (and every other object) is as before, the invariant still holds — so every theorem about
properly stamped objects continues to apply to them — and the copy itself is a stray object. -/
theorem original_keeps_working {σ : State} {dst src : Nat} (I : Inv σ) (hd : (Op.rawCopy dst src).dom σ) :
    ∃ σ', step (.rawCopy dst src) σ = .ok .unit σ' ∧ Inv σ' ∧ (∀ x, x ≠ dst → σ'.obj x = σ.obj x) ∧
      σ'.blk = σ.blk ∧ σ'.log = σ.log ∧ (dst ≠ src → ¬ stamped σ' dst) := by
  have hd' := hd
  obtain ⟨_, hdn, hk, hnh, hself⟩ := hd
  refine ⟨rawCopy dst src σ, step_of_dom hd', rawCopy_inv I hnh hself,
    fun x hx => by simp [rawCopy, hx], rfl, rfl, ?_⟩
  intro hne
  rcases hself with h | h
  · exact absurd h hne
  · simpa [stamped, rawCopy] using h

/-- **stamped_never_aborts.**  With every object properly stamped, a call never aborts because of the
guard: it succeeds (keeping the invariant and the stamps), or it is outside the documented domain,
or it is one of the bounds-checked array calls (`at`, `slice`, `unslice`) stopping on its own
documented check. -/
theorem stamped_never_aborts {op : Op} {σ : State} (I : Inv σ) (hS : AllStamped σ) :
    match step op σ with
    | .ok _ σ' => Inv σ' ∧ ((∀ d s, op ≠ .rawCopy d s) → AllStamped σ')
    | .stop k σ' => k = .badop ∨ (op.mayAbort ∧ (k = .abort ∨ k = .segv) ∧ σ' = σ) := by
  by_cases hd : op.dom σ
  · have hg := exec_stamped I hd (fun x _ hx => hS x hx)
    have hst := step_of_dom hd
    rw [hst]
    cases hr : exec op σ with
    | ok v σ' =>
      rw [hr] at hg
      refine ⟨hg.1, fun hn a ha => ?_⟩
      have : step op σ = .ok v σ' := by rw [hst, hr]
      exact stamped_preserved hn this a (hS a (by rw [← (exec_same hr).n]; exact ha))
    | stop k σ' =>
      rw [hr] at hg
      exact Or.inr hg
  · rw [step_not_dom hd]; exact Or.inl rfl

def NoRaw (ops : List Op) : Prop := ∀ op, op ∈ ops → ∀ d s, op ≠ .rawCopy d s

/-- **histories of properly moved objects never abort on the guard.**  From a state in which every
object is properly stamped (e.g. the initial one), a program without bitwise copies either runs to
completion — invariant and stamps intact — or stops outside the documented domain or on the bounds
check of an `at` / `slice` / `unslice` call. -/
theorem properly_moved_never_abort {ops : List Op} {σ : State} (I : Inv σ) (hS : AllStamped σ)
    (hn : NoRaw ops) :
    match run ops σ with
    | .ok _ σ' => Inv σ' ∧ AllStamped σ'
    | .stop k _ => k = .badop ∨ ((k = .abort ∨ k = .segv) ∧ ∃ op, op ∈ ops ∧ op.mayAbort) := by
  induction ops generalizing σ with
  | nil => exact ⟨I, hS⟩
  | cons op ops ih =>
    have h1 := stamped_never_aborts (op := op) I hS
    simp only [run]
    cases hr : step op σ with
    | stop k σ1 =>
      rw [hr] at h1
      simp only [bind_stop]
      rcases h1 with h | ⟨hm, hk, _⟩
      · exact Or.inl h
      · exact Or.inr ⟨hk, op, by simp, hm⟩
    | ok v σ1 =>
      rw [hr] at h1
      simp only [bind_ok]
      have hS1 := h1.2 (hn op (by simp))
      have ih' := ih h1.1 hS1 (fun o ho => hn o (by simp [ho]))
      cases hr2 : run ops σ1 with
      | ok vs σ2 => rw [hr2] at ih'; simpa using ih'
      | stop k σ2 =>
        rw [hr2] at ih'
        simp only [bind_stop]
        rcases ih' with h | ⟨hk, o, ho, hm⟩
        · exact Or.inl h
        · exact Or.inr ⟨hk, o, by simp [ho], hm⟩

theorem allStamped_init (n : Nat) (kind : Nat → Kind) (es : Nat → Nat) :
    AllStamped (State.init n kind es) := fun a _ => by simp [stamped, State.init]

/-! ### non-vacuity -/

/-- shared objects 0,1,2; weak 3; array 4,5 -/
def exKind20 (a : Nat) : Kind := if a = 3 then .weak else if a = 4 ∨ a = 5 then .array else .shared

example : ∃ σ vs, run [.sAlloc 0 8 1 true true, .wFrom 3 0, .rawCopy 1 0, .sGet 0]
      (State.init 6 exKind20 (fun _ => 0)) = .ok vs σ ∧
    -- a stray copy of an owning object: hypotheses of `stray_aborts` for reset / share / lock …
    (σ.obj 1).self ≠ 1 ∧ (σ.obj 1).ptr ≠ 0 ∧
    step (.sReset 1) σ = .stop .abort σ ∧ step (.sGet 1) σ = .stop .abort σ ∧
    (∃ σ', step (.sShare 1 2) σ = .stop .abort σ') ∧
    -- … while the original keeps working
    (∃ v σ', step (.sReset 0) σ = .ok v σ') := by
  refine ⟨_, _, rfl, by decide, by decide, rfl, rfl, ⟨_, rfl⟩, ⟨_, _, rfl⟩⟩

end Cstl.Mem
