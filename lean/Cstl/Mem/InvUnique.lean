import Cstl.Mem.Inv
namespace Cstl.Mem

/-- the unique pointer object `a` after `cstl_unique_ptr_init` -/
def clearedObj (σ : State) (a : Nat) : Obj := { σ.obj a with self := a, ptr := 0, clr := 0, priv := 0 }

theorem uInit_eq (σ : State) (a : Nat) : uInit a σ = σ.setObj a (clearedObj σ a) := by
  refine State.ext rfl rfl (fun x => ?_) (fun _ => rfl) rfl rfl rfl
  by_cases hx : x = a
  · subst hx; simp [uInit, clearedObj, gSet]
  · simp [uInit, clearedObj, gSet, hx]

theorem uniq_facts {σ : State} {a : Nat} (I : Inv σ) (A : Proper σ (· = .unique) a) (hp : (σ.obj a).ptr ≠ 0) :
    UMemOk σ a (σ.obj a).ptr :=
  (I.uniq_ok a A.lt A.stamp A.kind).2 hp

theorem uReset_null {σ : State} {a : Nat} (hs : (σ.obj a).self = a) (hp : (σ.obj a).ptr = 0)
    (hc : (σ.obj a).clr = 0) : uReset a σ = .ok () (uInit a σ) := by
  simp [uReset, gGet_eval hs, hp, hc, dispose_eval0, free_zero]

/-- the state after the unique pointer `a` let go of its memory (`evs` = what was logged) -/
def uGoneState (σ : State) (a : Nat) (evs : List Ev) : State :=
  σ.upd (σ.setObj a (clearedObj σ a)).obj
    (fun b => if b = (σ.obj a).ptr then { σ.blk (σ.obj a).ptr with live := false } else σ.blk b)
    (σ.log ++ evs) σ.next

/-- what the unique pointer `a` logs when it lets go of its memory -/
def uGoneEvs (σ : State) (a : Nat) : List Ev :=
  (if (σ.obj a).clr ≠ 0 then [.clr (σ.obj a).clr (σ.obj a).ptr (σ.obj a).priv] else []) ++ [.free (σ.obj a).ptr]

theorem uGone_inv {σ : State} {a : Nat} (I : Inv σ) (A : Proper σ (· = .unique) a) (hp : (σ.obj a).ptr ≠ 0) :
    Inv (uGoneState σ a (uGoneEvs σ a)) := by
  have U := uniq_facts I A hp
  obtain ⟨ha, hs, hk⟩ := A
  refine I.uniq_step ⟨rfl, rfl, rfl⟩ (Nat.le_refl _) (m := (σ.obj a).ptr) ha hk
    (fun x hx => by simp only [uGoneState, upd_obj, setObj_obj, hx, if_false])
    (fun b hb => by simp only [uGoneState, upd_blk, hb, if_false])
    (Or.inl ⟨U.live, U.isData, U.ownerD, by simp only [uGoneState, upd_blk, if_true]; exact ⟨rfl, rfl, rfl, rfl, rfl⟩⟩)
    (Or.inr rfl) (fun x hx hxa hsx hkx e => hxa (I.uniq_inj x a hx ha hsx hs hkx hk e (by rw [e]; exact hp)))
    (fun L => ?_) (fun b hb => ?_) (fun _ => ?_) (fun h => ?_)
  · simp only [uGoneState, uGoneEvs, upd_log, ← List.append_assoc]
    refine LogOk.dispose L ?_ ?_ ?_
    all_goals simp only [upd_blk, if_true]
    · exact U.isData
    · exact U.clrG.symm
    · exact U.privG.symm
  · simp only [uGoneState, uGoneEvs, upd_log, List.mem_append, List.mem_singleton, Ev.free.injEq] at hb
    rcases hb with hb | hb | hb
    · exact Or.inl hb
    · split at hb
      · simp at hb
      · cases hb
    · exact Or.inr (hb ▸ U.live)
  · simp only [uGoneState, upd_obj, setObj_obj, if_true, clearedObj]
    exact ⟨fun _ => trivial, fun h => absurd rfl h⟩
  · simp only [uGoneState, upd_blk, if_true] at h; cases h

theorem uInit_inv {σ : State} {a : Nat} (I : Inv σ) (hnh : ¬ σ.holds a) : Inv (uInit a σ) := by
  rw [uInit_eq]
  exact I.setObj _ (Or.inr (Or.inr ⟨hnh, fun h => h.2 rfl, fun _ _ => rfl⟩))

theorem uReset_inv {σ : State} {a : Nat} (I : Inv σ) (A : Proper σ (· = .unique) a) :
    ∃ σ', uReset a σ = .ok () σ' ∧ Inv σ' ∧ Same σ σ' ∧
      (∀ x, σ'.obj x = if x = a then clearedObj σ a else σ.obj x) := by
  have ⟨ha, hs, hk⟩ := A
  unfold stamped at hs
  by_cases hp : (σ.obj a).ptr = 0
  · have hc := (I.uniq_ok a ha hs hk).1 hp
    refine ⟨uInit a σ, uReset_null hs hp hc, uInit_inv I (by simp [State.holds, hp]), ⟨rfl, rfl, rfl⟩, ?_⟩
    intro x; rw [uInit_eq]; rfl
  · have hl := (uniq_facts I A hp).live
    refine ⟨_, ?_, uGone_inv I A hp, ⟨rfl, rfl, rfl⟩, fun x => rfl⟩
    rw [uReset, gGet_eval hs, bind_ok, dispose_eval _ _ hp hl, bind_ok]
    refine congrArg (Res.ok _) (State.ext rfl rfl (fun x => ?_) (fun _ => rfl) rfl ?_ rfl)
    · rw [uInit_eq]; rfl
    · simp only [uGoneState, uGoneEvs, upd_log, List.append_assoc]; rfl

/-- `cstl_unique_ptr_release` followed by the caller's clear-then-free -/
theorem uRelease_inv {σ : State} {a : Nat} (I : Inv σ) (A : Proper σ (· = .unique) a) :
    ∃ σ', exec (.uRelease a) σ = .ok (.rel (σ.obj a).ptr (σ.obj a).clr (σ.obj a).priv) σ' ∧ Inv σ' ∧ Same σ σ' ∧
      (∀ x, σ'.obj x = if x = a then clearedObj σ a else σ.obj x) := by
  have ⟨ha, hs, hk⟩ := A
  unfold stamped at hs
  by_cases hp : (σ.obj a).ptr = 0
  · have hc := (I.uniq_ok a ha hs hk).1 hp
    refine ⟨uInit a σ, ?_, uInit_inv I (by simp [State.holds, hp]), ⟨rfl, rfl, rfl⟩, ?_⟩
    · simp [exec, uRelease, userDispose, gGet_eval hs, hp, hc, dispose_eval0, free_zero]
    · intro x; rw [uInit_eq]; rfl
  · have hl := (uniq_facts I A hp).live
    refine ⟨_, ?_, uGone_inv I A hp, ⟨rfl, rfl, rfl⟩, fun x => rfl⟩
    simp only [exec, uRelease, userDispose, gGet_eval hs, bind_ok]
    rw [dispose_eval (σ := uInit a σ) _ _ hp hl, bind_ok]
    refine congrArg (Res.ok _) (State.ext rfl rfl (fun x => ?_) (fun _ => rfl) rfl ?_ rfl)
    · rw [upd_obj, uInit_eq]; rfl
    · simp only [uGoneState, uGoneEvs, upd_log, List.append_assoc]; rfl

/-- the empty unique pointer `a` takes a freshly allocated block -/
theorem uTake_inv {σ : State} {a : Nat} (sz clr priv : Nat) (I : Inv σ) (A : Proper σ (· = .unique) a)
    (hp : (σ.obj a).ptr = 0) :
    Inv (σ.upd (σ.setObj a { σ.obj a with self := a, ptr := σ.next, clr := clr, priv := priv }).obj
      (fun b => if b = σ.next then { live := true, size := sz, clrG := clr, privG := priv } else σ.blk b)
      (σ.log ++ [Ev.alloc σ.next sz]) (σ.next + 1)) := by
  obtain ⟨ha, hs, hk⟩ := A
  have hnp := I.next_pos
  refine I.uniq_step ⟨rfl, rfl, rfl⟩ (Nat.le_succ _) (m := σ.next) ha hk
    (fun x hx => by rw [upd_obj, setObj_obj, if_neg hx]) (fun b hb => by rw [upd_blk, if_neg hb])
    (Or.inr ⟨rfl, rfl, by rw [upd_blk, if_pos rfl], by rw [upd_blk, if_pos rfl]⟩) (Or.inl hp)
    (fun x hx _ hsx hkx e => ?_) (fun L => .alloc _ _ L) (fun b hb => Or.inl (by simpa using hb))
    (fun _ => ?_) (fun _ => ?_)
  · -- memory that is owned already is not the new block
    have := I.live_lt ((I.uniq_ok x hx hsx hkx).2 (by rw [e]; omega)).1
    omega
  · simp only [setObj_obj, if_true, UMemOk, upd_obj, upd_blk, and_self]
    exact ⟨fun h => absurd h (by omega), fun _ => trivial⟩
  · simp only [stamped, upd_obj, setObj_obj, if_true, and_self]

theorem uAlloc_inv {σ : State} {a sz clr priv : Nat} {ans : Bool} (I : Inv σ) (A : Proper σ (· = .unique) a) :
    ∃ σ', uAlloc a sz clr priv ans σ = .ok () σ' ∧ Inv σ' ∧ Same σ σ' ∧
      (∀ x, x ≠ a → σ'.obj x = σ.obj x) := by
  obtain ⟨σ1, h1, I1, S1, ho1⟩ := uReset_inv I A
  have hox : ∀ x, x ≠ a → σ1.obj x = σ.obj x := fun x hx => by rw [ho1]; simp [hx]
  have hoa : (σ1.obj a).self = a ∧ (σ1.obj a).ptr = 0 := by rw [ho1]; simp [clearedObj]
  simp only [uAlloc, h1, bind_ok]
  by_cases hsz : sz > 0
  · by_cases hM : ans = false ∨ LIMIT < sz
    · exact ⟨σ1.emit (.allocFail sz), by simp [hsz, malloc_fail _ hM], I1.allocFail sz, ⟨S1.n, S1.kind, S1.ext⟩, hox⟩
    · have hans : ans = true := by cases ans <;> simp_all
      have hlim : sz ≤ LIMIT := by omega
      have hne : σ1.next ≠ 0 := Nat.ne_of_gt I1.next_pos
      refine ⟨_, ?_, uTake_inv sz clr priv I1 (A.to S1 hoa.1) hoa.2, ⟨S1.n, S1.kind, S1.ext⟩, ?_⟩
      · simp only [hsz, if_true, malloc_ok _ hans hlim, ne_eq, hne, not_false_eq_true, gSet_upd, setObj_upd,
          upd_obj, if_true]
        refine congrArg (Res.ok ()) (State.ext rfl rfl (fun x => ?_) (fun _ => rfl) rfl rfl rfl)
        simp only [upd_obj, setObj_obj, ite_shadow]
      · intro x hx; simp [hx, hox x hx]
  · exact ⟨σ1, by simp [hsz], I1, S1, hox⟩

/-- the objects after `cstl_unique_ptr_swap(a, b)`: pointer, clear function and its argument exchanged -/
def swapObj (σ : State) (a b : Nat) : Nat → Obj := fun x =>
  if x = b then { σ.obj b with ptr := (σ.obj a).ptr, clr := (σ.obj a).clr, priv := (σ.obj a).priv }
  else if x = a then { σ.obj a with ptr := (σ.obj b).ptr, clr := (σ.obj b).clr, priv := (σ.obj b).priv }
  else σ.obj x

theorem uSwap_inv {σ : State} {a b : Nat} (I : Inv σ) (A : Proper σ (· = .unique) a)
    (B : Proper σ (· = .unique) b) :
    ∃ σ', uSwap a b σ = .ok () σ' ∧ Inv σ' ∧ Same σ σ' := by
  obtain ⟨ha, hsa, hka⟩ := A
  obtain ⟨hb, hsb, hkb⟩ := B
  unfold stamped at hsa hsb
  refine ⟨σ.upd (swapObj σ a b) σ.blk σ.log σ.next, ?_, ?_, ⟨rfl, rfl, rfl⟩⟩
  · simp only [uSwap, gSwap_eval hsa hsb, bind_ok]
    congr 1
    refine State.ext rfl rfl (fun x => ?_) (fun _ => rfl) rfl rfl rfl
    by_cases hxb : x = b
    · subst hxb
      by_cases hxa : x = a
      · subst hxa; simp [swapObj]; exact hsa.symm
      · have hax : a ≠ x := fun e => hxa e.symm
        simp [swapObj, hxa, hax]; exact hsb.symm
    · by_cases hxa : x = a
      · subst hxa; simp [swapObj, hxb, Ne.symm hxb]; exact hsa.symm
      · simp [swapObj, hxa, hxb]
  · refine I.swapClaims ha hb (hka.trans hkb.symm) fun x => ?_
    unfold swapObj swapIdx
    by_cases h1 : x = b
    · subst h1; simp [hsa, hsb]
    · by_cases h2 : x = a
      · subst h2; simp [h1, hsa, hsb]
      · simp [h1, h2]

end Cstl.Mem
