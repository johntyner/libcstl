import Cstl.Mem.PropsC05
import Cstl.Mem.PropsC20
import Cstl.Mem.PropsC14
