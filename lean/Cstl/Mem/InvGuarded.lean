import Cstl.Mem.Inv
namespace Cstl.Mem

theorem gSet_guarded_inv {σ : State} {a : Nat} (p : Nat) (I : Inv σ)
    (hk : σ.kind a = .guarded) : Inv (gSet a p σ) :=
  I.setObj _ (Or.inl hk)

/-- `cstl_shared_ptr_init`, `cstl_weak_ptr_init` and the shared pointer at the head of `cstl_array_init`, on an
object that holds nothing -/
theorem sInit_inv {σ : State} {a : Nat} (I : Inv σ)
    (hk : σ.kind a = .shared ∨ σ.kind a = .weak ∨ σ.kind a = .array) (hnh : ¬ σ.holds a) :
    Inv (gSet a 0 σ) :=
  I.setObj _ (Or.inr (Or.inr ⟨hnh, fun h => h.2 rfl, fun hu => by rcases hk with h | h | h <;> rw [h] at hu <;> cases hu⟩))

/-- the view fields of an array object are invisible to the ownership invariant -/
theorem fields_inv {σ : State} {a : Nat} (off len : Nat) (I : Inv σ) :
    Inv (σ.setObj a { σ.obj a with off := off, len := len }) :=
  I.setObj _ (Or.inr (Or.inl ⟨rfl, rfl, rfl, rfl⟩))

theorem rawCopy_inv {σ : State} {dst src : Nat} (I : Inv σ)
    (hnh : ¬ σ.holds dst) (hself : dst = src ∨ (σ.obj src).self ≠ dst) :
    Inv (rawCopy dst src σ) := by
  rcases hself with rfl | hne
  · exact I.setObj _ (Or.inr (Or.inl ⟨rfl, rfl, rfl, rfl⟩))
  · exact I.setObj _ (Or.inr (Or.inr ⟨hnh, fun h => hne h.1, fun _ h => absurd h hne⟩))

end Cstl.Mem
