import Cstl.Mem.Tie
import Cstl.Mem.PropsC05
/-
The side conditions of the tie theorems of `Cstl/Mem/Tie.lean` (`NoSelfUp`,
`SoftSmall`, `ManagedLive`, `end < 2^64`; `d ≠ 0` holds where the functions on
`&data->up` are called) hold in every state that satisfies
the ownership invariant `Inv` of C05 (hence in every state any client program
reaches, `reachable_inv`) as long as fewer than 2^31 pointer objects exist, for
every call inside the documented domain.  Consequently the model's `exec`,
`step` and `run` ARE the same dispatch over the definitions generated from the
C text (`execC`, `stepC`, `runC`), for every history.
-/
namespace Cstl.Mem.Tie
open Cstl.Mem Cstl.Gen.MemC

theorem noSelfUp_of_inv {σ : State} (I : Inv σ) {a : Nat} (ha : a < σ.n)
    (hk : σ.kind a = .shared ∨ σ.kind a = .array) : NoSelfUp σ a :=
  fun hst hp => (owner_facts I ⟨ha, hst, hk⟩ hp).up_ne

theorem softSmall_of_inv {σ : State} (I : Inv σ) (hn : σ.n < 2147483648) {a : Nat} (ha : a < σ.n)
    (hk : σ.kind a = .shared ∨ σ.kind a = .array) : SoftSmall σ a := by
  intro hst hp _
  -- soft = owners + weak references ≤ 2 · n < 2^32
  have h := (owner_facts I ⟨ha, hst, hk⟩ hp).soft
  have h1 := cnt_le (HRef σ.obj σ.kind (σ.obj a).ptr) σ.n
  have h2 := cnt_le (WRef σ.obj σ.kind (σ.obj a).ptr) σ.n
  unfold nH nW at h
  omega

theorem managedLive_of_inv {σ : State} (I : Inv σ) {a : Nat} (ha : a < σ.n)
    (hk : σ.kind a = .shared ∨ σ.kind a = .array) : ManagedLive σ a := by
  intro ra σ1 h hra
  by_cases hst : stamped σ a
  · rw [sGet_eval I ⟨ha, hst, hk⟩] at h
    cases h
    by_cases hp : (σ.obj a).ptr = 0
    · exact absurd (if_pos hp) hra
    · rw [if_neg hp]
      exact (owner_facts I ⟨ha, hst, hk⟩ hp).mem.live
  · rw [sGet_stray hst] at h; cases h

/-- `exec` with every library call replaced by the definition generated from its C text -/
def execC (fuel : Nat) : Op → State → Res Val
  | .gInit a, σ => unitR (c_cstl_guarded_ptr_init (.obj a) σ)
  | .gSet a p, σ => unitR (c_cstl_guarded_ptr_set (.obj a) p σ)
  | .gGet a, σ => c_cstl_guarded_ptr_get (.obj a) σ >>- fun p σ => .ok (.nat p) σ
  | .gCopy d s, σ => unitR (c_cstl_guarded_ptr_copy (.obj d) (.obj s) σ)
  | .gSwap a b, σ => unitR (c_cstl_guarded_ptr_swap (.obj a) (.obj b) σ)
  | .uInit a, σ => unitR (c_cstl_unique_ptr_init (.obj a) σ)
  | .uAlloc a sz c p ans, σ => unitR (c_cstl_unique_ptr_alloc (.obj a) sz c p ans σ)
  | .uGet a, σ => c_cstl_unique_ptr_get (.obj a) σ >>- fun p σ => .ok (.nat p) σ
  | .uRelease a, σ =>
      c_cstl_unique_ptr_release (.obj a) true true σ >>- fun r σ =>
      userDispose r σ >>- fun _ σ => .ok (.rel r.1 r.2.1 r.2.2) σ
  | .uSwap a b, σ => unitR (c_cstl_unique_ptr_swap (.obj a) (.obj b) σ)
  | .uReset a, σ => unitR (c_cstl_unique_ptr_reset (.obj a) σ)
  | .sInit a, σ => unitR (c_cstl_shared_ptr_init (.obj a) σ)
  | .sAlloc a sz c ad am, σ => unitR (c_cstl_shared_ptr_alloc (.obj a) sz c ad am σ)
  | .sUnique a, σ => c_cstl_shared_ptr_unique (.obj a) σ >>- fun b σ => .ok (.bool b) σ
  | .sGet a, σ => c_cstl_shared_ptr_get (.obj a) σ >>- fun p σ => .ok (.nat p) σ
  | .sShare e n, σ => unitR (c_cstl_shared_ptr_share (.obj e) (.obj n) σ)
  | .sSwap a b, σ => unitR (c_cstl_shared_ptr_swap (.obj a) (.obj b) σ)
  | .sReset a, σ => unitR (c_cstl_shared_ptr_reset (.obj a) σ)
  | .wInit a, σ => unitR (c_cstl_weak_ptr_init (.obj a) σ)
  | .wFrom w s, σ => unitR (c_cstl_weak_ptr_from (.obj w) (.obj s) σ)
  | .wLock w s, σ => unitR (c_cstl_weak_ptr_lock fuel (.obj w) (.obj s) σ)
  | .wSwap a b, σ => unitR (c_cstl_weak_ptr_swap (.obj a) (.obj b) σ)
  | .wReset a, σ => unitR (c_cstl_weak_ptr_reset (.obj a) σ)
  | .aInit a, σ => unitR (c_cstl_array_init (.obj a) σ)
  | .aSize a, σ => c_cstl_array_size (.obj a) σ >>- fun n σ => .ok (.nat n) σ
  | .aSet a e nm sz ad am, σ => unitR (c_cstl_array_set (.obj a) (.ext e 0) nm sz ad am σ)
  | .aRelease a, σ => c_cstl_array_release (.obj a) true σ >>- fun l σ => .ok (.loc l) σ
  | .aAlloc a nm sz ad am, σ => unitR (c_cstl_array_alloc (.obj a) nm sz ad am σ)
  | .aReset a, σ => unitR (c_cstl_array_reset (.obj a) σ)
  | .aData a, σ => c_cstl_array_data (.obj a) σ >>- fun l σ => .ok (.loc l) σ
  | .aAt a i, σ => c_cstl_array_at (.obj a) i σ >>- fun l σ => .ok (.loc l) σ
  | .aSlice a b e s, σ => unitR (c_cstl_array_slice (.obj a) b e (.obj s) σ)
  | .aUnslice s a, σ => unitR (c_cstl_array_unslice (.obj s) (.obj a) σ)
  | .rawCopy d s, σ => .ok .unit (rawCopy d s σ)

def stepC (fuel : Nat) (op : Op) (σ : State) : Res Val :=
  if op.dom σ then execC fuel op σ else .stop .badop σ

def runC (fuel : Nat) : List Op → State → Res (List Val)
  | [], σ => .ok [] σ
  | op :: ops, σ => stepC fuel op σ >>- fun v σ => runC fuel ops σ >>- fun vs σ => .ok (v :: vs) σ

/-- **Every in-domain call on a state satisfying the ownership invariant is its translation** (the spin
loop of `cstl_weak_ptr_lock` given any fuel ≥ 1). -/
theorem exec_tie (fuel : Nat) (op : Op) (σ : State) (I : Inv σ) (hn : σ.n < 2147483648) (hd : op.dom σ) :
    exec op σ = execC (fuel + 1) op σ := by
  cases op with
  | gInit a | gSet a _ | uInit a | sInit a | wInit a | aInit a | aSize a =>
    simp [exec, execC, gInit_tie, gSet_tie, uInit_tie, sInit_tie, wInit_tie, aInit_tie, aSize_tie, unitR]
  | gGet a | gCopy _ _ | gSwap _ _ | uAlloc _ _ _ _ _ | uGet a | uRelease a | uSwap _ _ | uReset a | sGet a
  | sSwap _ _ | wFrom _ _ | wReset a | aData a | aAt _ _ =>
    simp only [exec, execC, gGet_tie, gCopy_tie, gSwap_tie, uAlloc_tie, uGet_tie, uRelease_tie, uSwap_tie,
      uReset_tie, sGet_tie, sSwap_tie, wFrom_tie, wReset_tie, aData_tie, aAt_tie]
  | wSwap a b => simp only [exec, execC, wSwap_tie]
  | sAlloc a sz c ad am =>
    simp only [exec, execC, sAlloc_tie a sz c ad am σ (noSelfUp_of_inv I hd.1.1 (Or.inl hd.1.2))]
  | sUnique a =>
    simp only [exec, execC, sUnique_tie a σ (softSmall_of_inv I hn hd.1 (Or.inl hd.2))]
  | sShare e n =>
    simp only [exec, execC, sShare_tie e n σ (noSelfUp_of_inv I hd.2.1 (Or.inl hd.2.2))]
  | sReset a => simp only [exec, execC, sReset_tie a σ (noSelfUp_of_inv I hd.1 (Or.inl hd.2))]
  | wLock w s =>
    simp only [exec, execC, wLock_tie fuel w s σ (noSelfUp_of_inv I hd.2.1 (Or.inl hd.2.2))]
  | aSet a e nm sz ad am =>
    simp only [exec, execC, aSet_tie a e nm sz ad am σ (noSelfUp_of_inv I hd.1.1 (Or.inr hd.1.2))]
  | aRelease a =>
    simp only [exec, execC, aRelease_tie a σ (noSelfUp_of_inv I hd.1 (Or.inr hd.2))
      (softSmall_of_inv I hn hd.1 (Or.inr hd.2))]
  | aAlloc a nm sz ad am =>
    simp only [exec, execC, aAlloc_tie a nm sz ad am σ (noSelfUp_of_inv I hd.1.1 (Or.inr hd.1.2))]
  | aReset a => simp only [exec, execC, aReset_tie a σ (noSelfUp_of_inv I hd.1 (Or.inr hd.2))]
  | aSlice a b e s =>
    simp only [exec, execC, aSlice_tie a b e s σ (noSelfUp_of_inv I hd.2.1.1 (Or.inr hd.2.1.2))
      (managedLive_of_inv I hd.1.1 (Or.inr hd.1.2)) hd.2.2.2]
  | aUnslice s a =>
    simp only [exec, execC, aUnslice_tie s a σ (noSelfUp_of_inv I hd.1.1 (Or.inr hd.1.2))
      (managedLive_of_inv I hd.2.1 (Or.inr hd.2.2))]
  | rawCopy d s => rfl

theorem step_tie (fuel : Nat) (op : Op) (σ : State) (I : Inv σ) (hn : σ.n < 2147483648) :
    step op σ = stepC (fuel + 1) op σ := by
  by_cases hd : op.dom σ
  · rw [step_of_dom hd, stepC, if_pos hd]; exact exec_tie fuel op σ I hn hd
  · rw [step_not_dom hd, stepC, if_neg hd]

/-- **Every history**: a client program run on the model and run on the translations of the C
functions give the same result, event log and final state (or the same stop in the same state). -/
theorem run_tie (fuel : Nat) (ops : List Op) (σ : State) (I : Inv σ) (hn : σ.n < 2147483648) :
    run ops σ = runC (fuel + 1) ops σ := by
  induction ops generalizing σ with
  | nil => rfl
  | cons op ops ih =>
    simp only [run, runC, ← step_tie fuel op σ I hn]
    cases h : step op σ with
    | stop k σ1 => rfl
    | ok v σ1 =>
      have h1 := step_inv I h
      simp only [bind_ok]
      rw [ih σ1 h1.1 (by rw [h1.2.n]; exact hn)]

/-- from the initial state of fewer than 2^31 pointer objects -/
theorem run_init_tie (fuel n : Nat) (kind : Nat → Kind) (es : Nat → Nat) (ops : List Op) (hn : n < 2147483648) :
    run ops (State.init n kind es) = runC (fuel + 1) ops (State.init n kind es) :=
  run_tie fuel ops _ (inv_init n kind es) hn

end Cstl.Mem.Tie
