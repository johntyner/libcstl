import Cstl.Gen.MemC
import Cstl.Mem.Lemmas
/-
Translator tie for the mem area (C05 / C14 / C20, and the sequential reading of
the functions C06 is about): the definitions in `Cstl/Gen/MemC.lean` are
regenerated by tools/c2lean_mem.py from the clang AST of /repo's
include/cstl/memory.h, src/memory.c, include/cstl/array.h and src/array.c on
every check run; the theorems below (hand-written, fixed) state that the
hand-written model functions of `Cstl/Mem/Model.lean` are exactly those
translations (in the vocabulary of `Cstl/Mem/CPrim.lean`).  A change to one of
the C functions that alters its sequence of accesses makes the corresponding
equality fail.

Most equalities are unconditional.  Six side conditions appear, each marking
a place where Model.lean is not literally the C text; every one of them holds
in every state a client program can reach (`Cstl/Mem/TieExec.lean`:
`exec_tie`, `run_tie`):

* `d ≠ 0` for the functions applied to `&data->up` — they are only called
  after `data != NULL`; the translation reports a NULL dereference as segv,
  the model's `up*` functions do not look at `d = 0` specially.
* `(σ.blk d).live = true` (`upSet_tie`, `upInit_tie`): the model's `upInit`
  writes block `d` without asking whether it is there, the translated stores
  go through `acc`.  Where they are used the block was just read or allocated;
  after the `free` inside `cstl_unique_ptr_reset` that is what `NoSelfUp` is for.
* `NoSelfUp` (`upReset_tie` and everything that resets a shared pointer):
  `cstl_unique_ptr_reset` re-initialises `*up` AFTER `free(ptr)`; the model
  writes the block without asking whether it is still there.  They differ
  only if a bookkeeping block manages itself (`data->up.gp.ptr == data`).
* `SoftSmall` (`sUnique_tie`, `aRelease_tie`): `cstl_shared_ptr_unique` stores
  `atomic_load(&soft)` in an `int`; the model compares the `size_t` value.
  They differ once `soft ≡ 1 (mod 2^32)`, `soft ≠ 1` (≥ 2^32 + 1 references).
* `ManagedLive` (`aSlice_tie`, `aUnslice_tie`): the model asks whether the
  descriptor block is still live before anything else; the C code evaluates
  `end < beg` first (slice) resp. stores `a->off = 0` first (unslice).  They
  differ (abort vs. use-after-free report, resp. the value of `a->off` in the
  stopped state) only on a dangling descriptor.
* `end < 2^64` (`aSlice_tie`): `end - beg` is `size_t` arithmetic in C,
  natural-number subtraction in the model.
-/
namespace Cstl.Mem.Tie
open Cstl.Mem Cstl.Gen.MemC

theorem bind_unit (r : Res Unit) : (r >>- fun _ σ => Res.ok () σ) = r := by
  cases r <;> rfl

theorem bind_congr {α β : Type} {r : Res α} {f g : α → State → Res β}
    (h : ∀ v σ, r = .ok v σ → f v σ = g v σ) : (r >>- f) = (r >>- g) := by
  cases r with
  | ok v σ => exact h v σ rfl
  | stop k σ => rfl

theorem ite_ok {α : Type} {c : Prop} [Decidable c] {x y : Res α} {v : α} {σ : State}
    (h : (if c then x else y) = .ok v σ) : (c ∧ x = .ok v σ) ∨ (¬ c ∧ y = .ok v σ) := by
  by_cases hc : c
  · rw [if_pos hc] at h; exact Or.inl ⟨hc, h⟩
  · rw [if_neg hc] at h; exact Or.inr ⟨hc, h⟩

theorem bind_assoc {α β γ : Type} (r : Res α) (f : α → State → Res β) (g : β → State → Res γ) :
    ((r >>- f) >>- g) = (r >>- fun v σ => f v σ >>- g) := by
  cases r <;> rfl

theorem setObj_setObj (σ : State) (a : Nat) (o o' : Obj) : (σ.setObj a o).setObj a o' = σ.setObj a o' := by
  unfold State.setObj
  congr 1
  funext x
  by_cases h : x = a <;> simp [h]

theorem setBlk_setBlk (σ : State) (b : Nat) (k k' : Blk) : (σ.setBlk b k).setBlk b k' = σ.setBlk b k' := by
  unfold State.setBlk
  congr 1
  funext x
  by_cases h : x = b <;> simp [h]

theorem ite_ne0_congr {α : Type} {d : Nat} {x x' y : α} (h : d ≠ 0 → x = x') :
    (if d ≠ 0 then x else y) = (if d ≠ 0 then x' else y) :=
  ite_congr rfl h fun _ => rfl

theorem acc_eq (d : Nat) (σ : State) (hd : d ≠ 0) :
    acc d σ = if (σ.blk d).live = true then .ok () σ else .stop .asan σ := by
  simp [acc, hd]

/-- the model's test whether block `d` is still there is the first access to `d` in the translation -/
theorem live_eq_acc {α : Type} {d : Nat} {σ : State} {x : Res α} {f : Unit → State → Res α} (hd : d ≠ 0)
    (h : (σ.blk d).live = true → x = f () σ) :
    (if (σ.blk d).live = true then x else .stop .asan σ) = (acc d σ >>- f) := by
  rw [acc_eq d σ hd]
  by_cases hl : (σ.blk d).live = true
  · simp [hl, h hl]
  · simp [hl]

theorem acc_live {d : Nat} {σ : State} (hd : d ≠ 0) (hl : (σ.blk d).live = true) : acc d σ = .ok () σ := by
  simp [acc, hd, hl]

theorem gSet_tie (a p : Nat) (σ : State) :
    c_cstl_guarded_ptr_set (.obj a) p σ = .ok () (gSet a p σ) := by
  simp [c_cstl_guarded_ptr_set, stPtr, stStamp, gSet, setObj_setObj]

theorem gInit_tie (a : Nat) (σ : State) :
    c_cstl_guarded_ptr_init (.obj a) σ = .ok () (gInit a σ) := by
  simp [c_cstl_guarded_ptr_init, gInit, gSet_tie]

theorem gGetConst_tie (a : Nat) (σ : State) : gGet a σ = c_cstl_guarded_ptr_get_const (.obj a) σ := by
  simp only [c_cstl_guarded_ptr_get_const, stampOk, ldPtr, gGet, abortM, bind_ok]
  by_cases h : (σ.obj a).self = a <;> simp [h]

theorem gGet_tie (a : Nat) (σ : State) : gGet a σ = c_cstl_guarded_ptr_get (.obj a) σ := by
  simp only [c_cstl_guarded_ptr_get, gGetConst_tie]

theorem gCopy_tie (dst src : Nat) (σ : State) :
    gCopy dst src σ = c_cstl_guarded_ptr_copy (.obj dst) (.obj src) σ := by
  simp only [c_cstl_guarded_ptr_copy, gCopy, ← gGetConst_tie, gSet_tie]

theorem gSwap_tie (a b : Nat) (σ : State) :
    gSwap a b σ = c_cstl_guarded_ptr_swap (.obj a) (.obj b) σ := by
  simp only [c_cstl_guarded_ptr_swap, gSwap, ← gGet_tie, gSet_tie, bind_ok]

theorem uSet_tie (a p c pr : Nat) (σ : State) :
    (c_cstl_guarded_ptr_set (.obj a) p σ >>- fun _ σ => stClr (.obj a) c σ >>- fun _ σ => stPriv (.obj a) pr σ) =
      .ok () ((gSet a p σ).setObj a { (gSet a p σ).obj a with clr := c, priv := pr }) := by
  simp [gSet_tie, stClr, stPriv, setObj_setObj]

theorem uInit_tie (a : Nat) (σ : State) :
    c_cstl_unique_ptr_init (.obj a) σ = .ok () (uInit a σ) :=
  uSet_tie a 0 0 0 σ

theorem uGet_tie (a : Nat) (σ : State) : uGet a σ = c_cstl_unique_ptr_get (.obj a) σ := by
  simp only [c_cstl_unique_ptr_get, c_cstl_unique_ptr_get_const, uGet, gGetConst_tie]

/-- `cstl_unique_ptr_release(up, &clr, &priv)` with both out-parameters present -/
theorem uRelease_tie (a : Nat) (σ : State) :
    uRelease a σ = c_cstl_unique_ptr_release (.obj a) true true σ := by
  simp only [c_cstl_unique_ptr_release, uRelease, ← uGet_tie, uGet, uInit_tie, ldClr, ldPriv, bind_ok, if_true]

theorem uSwap_tie (a b : Nat) (σ : State) :
    uSwap a b σ = c_cstl_unique_ptr_swap (.obj a) (.obj b) σ := by
  simp only [c_cstl_unique_ptr_swap, uSwap, ← gSwap_tie, swapClr]

theorem uReset_tie (a : Nat) (σ : State) : uReset a σ = c_cstl_unique_ptr_reset (.obj a) σ := by
  simp only [c_cstl_unique_ptr_reset, uReset, ← gGet_tie, uInit_tie, ldClr, ldPriv, callClr, freeM, dispose,
    bind_ok]
  refine bind_congr fun p σ1 _ => ?_
  by_cases h : (σ1.obj a).clr = 0 <;> simp [h]

theorem uAlloc_tie (a sz clr priv : Nat) (ans : Bool) (σ : State) :
    uAlloc a sz clr priv ans σ = c_cstl_unique_ptr_alloc (.obj a) sz clr priv ans σ := by
  simp only [c_cstl_unique_ptr_alloc, uAlloc, ← uReset_tie, mallocM, ghost_cstl_unique_ptr_alloc, bind_ok,
    uSet_tie]

theorem upGetG_tie (d : Nat) (σ : State) (hd : d ≠ 0) : upGet d σ = c_cstl_guarded_ptr_get (.up d) σ := by
  simp only [c_cstl_guarded_ptr_get, c_cstl_guarded_ptr_get_const, stampOk, ldPtr, upGet, abortM, bind_assoc]
  refine live_eq_acc hd fun hl => ?_
  by_cases ho : (σ.blk d).upOk = true <;> simp [acc_live hd hl, ho]

theorem upGet_tie (d : Nat) (σ : State) (hd : d ≠ 0) : upGet d σ = c_cstl_unique_ptr_get (.up d) σ := by
  simp only [c_cstl_unique_ptr_get, c_cstl_unique_ptr_get_const, upGetG_tie d σ hd, c_cstl_guarded_ptr_get]

theorem upSet_tie (d p c : Nat) (σ : State) (hd : d ≠ 0) (hl : (σ.blk d).live = true) :
    (c_cstl_guarded_ptr_set (.up d) p σ >>- fun _ σ => stClr (.up d) c σ >>- fun _ σ => stPriv (.up d) 0 σ) =
      .ok () (σ.setBlk d { σ.blk d with upOk := true, up := p, upClr := c }) := by
  simp [c_cstl_guarded_ptr_set, stPtr, stStamp, stClr, stPriv, acc_eq _ _ hd, hl, setBlk_setBlk]

theorem upInit_tie (d : Nat) (σ : State) (hd : d ≠ 0) (hl : (σ.blk d).live = true) :
    c_cstl_unique_ptr_init (.up d) σ = .ok () (upInit d σ) :=
  upSet_tie d 0 0 σ hd hl

theorem upGet_ok {d p : Nat} {σ σ1 : State} (h : upGet d σ = .ok p σ1) :
    σ1 = σ ∧ p = (σ.blk d).up ∧ (σ.blk d).live = true := by
  rcases ite_ok h with ⟨hl, h1⟩ | ⟨_, h1⟩
  · rcases ite_ok h1 with ⟨_, h2⟩ | ⟨_, h2⟩
    · cases h2; exact ⟨rfl, rfl, hl⟩
    · cases h2
  · cases h1

theorem free_live_other {p d : Nat} {σ σ1 : State} {u : Unit} (h : free p σ = .ok u σ1) (hne : p ≠ d) :
    (σ1.blk d).live = (σ.blk d).live := by
  rcases ite_ok h with ⟨_, h1⟩ | ⟨_, h1⟩
  · cases h1; rfl
  · rcases ite_ok h1 with ⟨_, h2⟩ | ⟨_, h2⟩
    · cases h2; simp [Ne.symm hne]
    · cases h2

/-- The model writes the re-initialised unique pointer into block `d` without asking whether `d` is
still there; the C code (and its translation) touches `data->up` after `free(ptr)`.  The two agree
unless the bookkeeping block manages ITSELF (`data->up.gp.ptr == data`), a state no sequence of
library calls produces. -/
theorem upReset_tie (d : Nat) (σ : State) (hd : d ≠ 0) (hs : (σ.blk d).up ≠ d) :
    upReset d σ = c_cstl_unique_ptr_reset (.up d) σ := by
  simp only [c_cstl_unique_ptr_reset, upReset, ← upGetG_tie d σ hd]
  refine bind_congr fun p σ1 h => ?_
  obtain ⟨rfl, rfl, hl⟩ := upGet_ok h
  -- whatever the callback logged, block `d` is still there after the `free`
  have key : ∀ σ2 : State, σ2.blk = σ1.blk →
      (free (σ1.blk d).up σ2 >>- fun _ σ => Res.ok () (upInit d σ)) =
      (free (σ1.blk d).up σ2 >>- fun _ σ => c_cstl_unique_ptr_init (.up d) σ) := fun σ2 h2 =>
    bind_congr fun _ σ3 h3 => (upInit_tie d σ3 hd (by rw [free_live_other h3 hs, h2]; exact hl)).symm
  simp only [ldClr, ldPriv, callClr, freeM, dispose, acc_live hd hl, bind_ok]
  by_cases hc : (σ1.blk d).upClr = 0
  · simp only [hc, ne_eq, not_true_eq_false, if_false, bind_ok]
    exact key σ1 rfl
  · simp only [hc, ne_eq, not_false_eq_true, if_true, bind_ok]
    exact key _ rfl

theorem dispose_live_other {p c pr d : Nat} {σ σ1 : State} {u : Unit} (h : dispose p c pr σ = .ok u σ1)
    (hne : p ≠ d) : (σ1.blk d).live = (σ.blk d).live := by
  rw [free_live_other h hne]
  split <;> rfl

theorem upReset_live {d : Nat} {σ σ1 : State} {u : Unit} (hs : (σ.blk d).up ≠ d) (h : upReset d σ = .ok u σ1) :
    (σ1.blk d).live = true := by
  obtain ⟨p, σ2, h2, h3⟩ := bind_eq_ok h
  obtain ⟨rfl, rfl, hl⟩ := upGet_ok h2
  obtain ⟨_, σ3, h4, h5⟩ := bind_eq_ok h3
  cases h5
  simp [upInit, dispose_live_other h4 hs, hl]

theorem malloc_live (sz : Nat) (ans : Bool) (g : Blk) (σ : State) (d : Nat) (hl : (σ.blk d).live = true) :
    ((malloc sz ans g σ).2.blk d).live = true := by
  unfold malloc
  split
  · by_cases hd : d = σ.next <;> simp [hd, hl]
  · simpa using hl

theorem upAlloc_tie (d sz clr : Nat) (ans : Bool) (σ : State) (hd : d ≠ 0) (hs : (σ.blk d).up ≠ d) :
    upAlloc d sz clr ans σ = c_cstl_unique_ptr_alloc (.up d) sz clr 0 ans σ := by
  simp only [c_cstl_unique_ptr_alloc, upAlloc, ← upReset_tie d σ hd hs]
  refine bind_congr fun _ σ1 h => ?_
  have hl2 := malloc_live sz ans { ownerD := d, clrG := clr } σ1 d (upReset_live hs h)
  by_cases hsz : sz > 0
  · rw [if_pos hsz, if_pos hsz, mallocM, bind_ok, ghost_cstl_unique_ptr_alloc]
    by_cases h2 : (malloc sz ans { ownerD := d, clrG := clr } σ1).1 = 0
    · rw [if_neg (fun h => h h2), if_neg (fun h => h h2)]
    · rw [if_pos h2, if_pos h2, upSet_tie _ _ _ _ hd hl2]
  · rw [if_neg hsz, if_neg hsz]

/-- the bookkeeping block the object at `a` points to does not manage itself (see `upReset_tie`) -/
def NoSelfUp (σ : State) (a : Nat) : Prop :=
  (σ.obj a).self = a → (σ.obj a).ptr ≠ 0 → (σ.blk (σ.obj a).ptr).up ≠ (σ.obj a).ptr

theorem gGet_ok {a d : Nat} {σ σ1 : State} (h : gGet a σ = .ok d σ1) :
    σ1 = σ ∧ d = (σ.obj a).ptr ∧ (σ.obj a).self = a := by
  rcases ite_ok h with ⟨hst, h1⟩ | ⟨_, h1⟩
  · cases h1; exact ⟨rfl, rfl, hst⟩
  · cases h1

theorem sInit_tie (a : Nat) (σ : State) : c_cstl_shared_ptr_init (.obj a) σ = .ok () (sInit a σ) := by
  simp [c_cstl_shared_ptr_init, sInit, gSet_tie]

theorem wInit_tie (a : Nat) (σ : State) : c_cstl_weak_ptr_init (.obj a) σ = .ok () (sInit a σ) := by
  simp [c_cstl_weak_ptr_init, sInit_tie]

theorem wReset_tie (a : Nat) (σ : State) : wReset a σ = c_cstl_weak_ptr_reset (.obj a) σ := by
  simp only [c_cstl_weak_ptr_reset, wReset, ← gGet_tie, gSet_tie, bind_ok, fetchSub, bind_assoc]
  refine bind_congr fun d σ1 _ => ite_ne0_congr fun hd => live_eq_acc hd fun hl => ?_
  rfl

theorem sReset_tie (a : Nat) (σ : State) (hs : NoSelfUp σ a) :
    sReset a σ = c_cstl_shared_ptr_reset (.obj a) σ := by
  simp only [c_cstl_shared_ptr_reset, sReset, ← gGet_tie, ← wReset_tie, fetchSub, bind_assoc]
  refine bind_congr fun d σ1 h => ite_ne0_congr fun hd => live_eq_acc hd fun hl => ?_
  obtain ⟨rfl, rfl, hst⟩ := gGet_ok h
  simp only [bind_ok, Blk.ctr, Blk.setCtr]
  rw [← upReset_tie _ _ hd (by simpa using hs hst hd)]

theorem sSwap_tie (a b : Nat) (σ : State) : sSwap a b σ = c_cstl_shared_ptr_swap (.obj a) (.obj b) σ := by
  simp only [c_cstl_shared_ptr_swap, sSwap, gSwap_tie]

theorem wSwap_tie (a b : Nat) (σ : State) : sSwap a b σ = c_cstl_weak_ptr_swap (.obj a) (.obj b) σ := by
  simp only [c_cstl_weak_ptr_swap, sSwap_tie]

theorem sGetConst_tie (a : Nat) (σ : State) : sGet a σ = c_cstl_shared_ptr_get_const (.obj a) σ := by
  simp only [c_cstl_shared_ptr_get_const, sGet, ← gGetConst_tie, c_cstl_unique_ptr_get_const]
  refine bind_congr fun d σ1 _ => ite_ne0_congr fun hd => ?_
  rw [upGetG_tie d σ1 hd, c_cstl_guarded_ptr_get]

theorem sGet_tie (a : Nat) (σ : State) : sGet a σ = c_cstl_shared_ptr_get (.obj a) σ := by
  simp only [c_cstl_shared_ptr_get, sGetConst_tie]

theorem malloc_fst (sz : Nat) (ans : Bool) (g : Blk) (σ : State) (h : (malloc sz ans g σ).1 ≠ 0) :
    (malloc sz ans g σ).1 = σ.next ∧ ((malloc sz ans g σ).2.blk σ.next).live = true := by
  unfold malloc at h ⊢
  split
  · simp
  · rename_i hc; simp [hc] at h

theorem sAlloc_tie (a sz clr : Nat) (ansD ansM : Bool) (σ : State) (hs : NoSelfUp σ a) :
    sAlloc a sz clr ansD ansM σ = c_cstl_shared_ptr_alloc (.obj a) sz clr ansD ansM σ := by
  simp only [c_cstl_shared_ptr_alloc, sAlloc, ← sReset_tie a σ hs]
  refine bind_congr fun _ σ1 _ => ?_
  by_cases hsz : sz > 0
  · simp only [hsz, if_true, mallocM, bind_ok, ghost_cstl_shared_ptr_alloc,
      show sizeof_cstl_shared_ptr_data = DSZ from rfl]
    generalize hr : malloc DSZ ansD { isData := true } σ1 = r
    refine ite_ne0_congr fun hd => ?_
    have hm := malloc_fst DSZ ansD { isData := true } σ1 (by rw [hr]; exact hd)
    rw [hr] at hm
    have hl : (r.2.blk r.1).live = true := by rw [hm.1]; exact hm.2
    simp only [atomicInit, flagClear, acc_eq _ _ hd, hl, if_true, bind_ok, Blk.setCtr, setBlk_setBlk, setBlk_blk]
    rw [upInit_tie _ _ hd (by simp), bind_ok,
      ← upAlloc_tie _ _ _ _ _ hd (by simp [upInit]; exact fun e => hd e.symm)]
    refine bind_congr fun _ σ2 _ => ?_
    rw [← upGet_tie _ _ hd]
    refine bind_congr fun m σ3 _ => ?_
    by_cases hm0 : m = 0
    · rw [if_neg (fun h => h hm0), if_neg (fun h => h hm0), bind_ok]; rfl
    · rw [if_pos hm0, if_pos hm0, gSet_tie, bind_ok, bind_ok, freeM, free, if_pos rfl]
  · simp [hsz]

/-- `int count = atomic_load(&data->ref.soft)` truncates: the model compares the `size_t` value.  The two agree
while fewer than 2^32 pointer objects refer to the bookkeeping block. -/
def SoftSmall (σ : State) (a : Nat) : Prop :=
  (σ.obj a).self = a → (σ.obj a).ptr ≠ 0 → (σ.blk (σ.obj a).ptr).live = true →
    (σ.blk (σ.obj a).ptr).soft < 4294967296

theorem castInt_eq_one {x : Nat} (h : x < 4294967296) : castInt x = 1 ↔ x = 1 := by
  unfold castInt
  split <;> omega

theorem sUnique_tie (a : Nat) (σ : State) (hc : SoftSmall σ a) :
    sUnique a σ = c_cstl_shared_ptr_unique (.obj a) σ := by
  simp only [c_cstl_shared_ptr_unique, sUnique, ← gGetConst_tie]
  refine bind_congr fun d σ1 h => ?_
  obtain ⟨rfl, rfl, hst⟩ := gGet_ok h
  by_cases hd : (σ1.obj a).ptr = 0
  · simp [hd]
  · simp only [ne_eq, hd, not_false_eq_true, if_true, atomicLoad, bind_assoc]
    refine live_eq_acc hd fun hl => ?_
    simp only [bind_ok, Blk.ctr, castInt_eq_one (hc hst hd hl)]
    by_cases hx : (σ1.blk (σ1.obj a).ptr).soft = 1 <;> simp [hx]

theorem sShare_tie (e n : Nat) (σ : State) (hs : NoSelfUp σ n) :
    sShare e n σ = c_cstl_shared_ptr_share (.obj e) (.obj n) σ := by
  simp only [c_cstl_shared_ptr_share, sShare, ← sReset_tie n σ hs, ← gCopy_tie, ← gGet_tie, fetchAdd, bind_assoc]
  refine bind_congr fun _ σ1 _ => bind_congr fun _ σ2 _ => bind_congr fun d σ3 _ =>
    ite_ne0_congr fun hd => live_eq_acc hd fun hl => ?_
  simp [acc_eq _ _ hd, hl, Blk.ctr, Blk.setCtr]

theorem wFrom_tie (w s : Nat) (σ : State) :
    wFrom w s σ = c_cstl_weak_ptr_from (.obj w) (.obj s) σ := by
  simp only [c_cstl_weak_ptr_from, wFrom, ← wReset_tie, ← gCopy_tie, ← gGet_tie, fetchAdd, bind_assoc]
  refine bind_congr fun _ σ1 _ => bind_congr fun _ σ2 _ => bind_congr fun d σ3 _ =>
    ite_ne0_congr fun hd => live_eq_acc hd fun hl => ?_
  simp [Blk.ctr, Blk.setCtr]

/-- the spin loop in a sequential execution: one `test_and_set`, which finds the flag free -/
theorem lockLoop_tie (d fuel : Nat) (σ : State) : c_cstl_weak_ptr_lock_loop1 d (fuel + 1) σ = acc d σ := by
  simp only [c_cstl_weak_ptr_lock_loop1, flagTas]
  cases acc d σ <;> simp

/-- for every amount of fuel ≥ 1 given to the spin loop -/
theorem wLock_tie (fuel w s : Nat) (σ : State) (hs : NoSelfUp σ s) :
    wLock w s σ = c_cstl_weak_ptr_lock (fuel + 1) (.obj w) (.obj s) σ := by
  simp only [c_cstl_weak_ptr_lock, wLock, ← sReset_tie s σ hs, ← gCopy_tie, ← gGet_tie, lockLoop_tie, gSet_tie]
  refine bind_congr fun _ σ1 _ => bind_congr fun _ σ2 _ => bind_congr fun d σ3 _ =>
    ite_ne0_congr fun hd => live_eq_acc hd fun hl => ?_
  by_cases h0 : (σ3.blk d).hard > 0 <;>
    simp [fetchAdd, fetchSub, flagClear, acc_eq _ _ hd, hl, Blk.ctr, Blk.setCtr, h0]

theorem aInit_tie (a : Nat) (σ : State) : c_cstl_array_init (.obj a) σ = .ok () (aInit a σ) := by
  simp [c_cstl_array_init, sInit_tie, stLen, stOff, aInit, setObj_setObj]

theorem aSize_tie (a : Nat) (σ : State) : c_cstl_array_size (.obj a) σ = .ok (aSize a σ) σ := by
  simp [c_cstl_array_size, ldLen, aSize]

theorem aReset_tie (a : Nat) (σ : State) (hs : NoSelfUp σ a) :
    aReset a σ = c_cstl_array_reset (.obj a) σ := by
  simp only [c_cstl_array_reset, aReset, ← sReset_tie a σ hs]
  refine bind_congr fun _ σ1 _ => ?_
  simp [stLen, stOff, setObj_setObj]

theorem free_obj {p : Nat} {σ σ1 : State} {u : Unit} (h : free p σ = .ok u σ1) : σ1.obj = σ.obj := by
  rcases ite_ok h with ⟨_, h1⟩ | ⟨_, h1⟩
  · cases h1; rfl
  · rcases ite_ok h1 with ⟨_, h2⟩ | ⟨_, h2⟩
    · cases h2; rfl
    · cases h2

theorem wReset_ptr {a : Nat} {σ σ1 : State} {u : Unit} (h : wReset a σ = .ok u σ1) : (σ1.obj a).ptr = 0 := by
  obtain ⟨d, σ2, h2, h3⟩ := bind_eq_ok h
  obtain ⟨rfl, rfl, _⟩ := gGet_ok h2
  rcases ite_ok h3 with ⟨_, h4⟩ | ⟨hd, h4⟩
  · rcases ite_ok h4 with ⟨_, h5⟩ | ⟨_, h5⟩
    · rcases ite_ok h5 with ⟨_, h6⟩ | ⟨_, h6⟩
      · rw [free_obj h6]; simp
      · cases h6; simp
    · cases h5
  · cases h4; exact Decidable.of_not_not hd

theorem sReset_ptr {a : Nat} {σ σ1 : State} {u : Unit} (h : sReset a σ = .ok u σ1) : (σ1.obj a).ptr = 0 := by
  obtain ⟨d, σ2, h2, h3⟩ := bind_eq_ok h
  obtain ⟨rfl, rfl, _⟩ := gGet_ok h2
  rcases ite_ok h3 with ⟨_, h4⟩ | ⟨hd, h4⟩
  · rcases ite_ok h4 with ⟨_, h5⟩ | ⟨_, h5⟩
    · obtain ⟨_, σ3, _, h6⟩ := bind_eq_ok h5
      exact wReset_ptr h6
    · cases h5
  · cases h4; exact Decidable.of_not_not hd

theorem aReset_ptr {a : Nat} {σ σ1 : State} {u : Unit} (h : aReset a σ = .ok u σ1) : (σ1.obj a).ptr = 0 := by
  obtain ⟨_, σ3, h3, h4⟩ := bind_eq_ok h
  cases h4
  simp [sReset_ptr h3]

theorem sGet_ok {a ra : Nat} {σ σ1 : State} (h : sGet a σ = .ok ra σ1) : σ1 = σ := by
  obtain ⟨d, σ2, h2, h3⟩ := bind_eq_ok h
  obtain ⟨rfl, rfl, _⟩ := gGet_ok h2
  rcases ite_ok h3 with ⟨_, h4⟩ | ⟨_, h4⟩
  · exact (upGet_ok h4).1
  · cases h4; rfl

theorem sUnique_ok {a : Nat} {u : Bool} {σ σ1 : State} (h : sUnique a σ = .ok u σ1) : σ1 = σ := by
  obtain ⟨d, σ2, h2, h3⟩ := bind_eq_ok h
  obtain ⟨rfl, rfl, _⟩ := gGet_ok h2
  rcases ite_ok h3 with ⟨_, h4⟩ | ⟨_, h4⟩
  · rcases ite_ok h4 with ⟨_, h5⟩ | ⟨_, h5⟩
    · cases h5; rfl
    · cases h5
  · cases h4; rfl

theorem fits_iff (nm sz : Nat) :
    (sz = 0 ∨ nm ≤ (18446744073709551615 + W - sizeof_cstl_raw_array) % W / sz) ↔ fits nm sz = true := by
  have : (18446744073709551615 + W - sizeof_cstl_raw_array) % W = W - 1 - HDR := by decide
  simp [fits, this]

theorem bytes_eq (nm sz : Nat) : (sizeof_cstl_raw_array + nm * sz % W) % W = (HDR + nm * sz) % W :=
  Nat.add_mod_mod _ _ _

theorem aAlloc_tie (a nm sz : Nat) (ansD ansM : Bool) (σ : State) (hs : NoSelfUp σ a) :
    aAlloc a nm sz ansD ansM σ = c_cstl_array_alloc (.obj a) nm sz ansD ansM σ := by
  simp only [c_cstl_array_alloc, aAlloc, ← aReset_tie a σ hs, ← sGet_tie, stSz, bind_assoc]
  refine bind_congr fun _ σ1 h => ?_
  have hs1 : NoSelfUp σ1 a := fun _ hne => absurd (aReset_ptr h) hne
  simp only [fits_iff, bytes_eq, ← sAlloc_tie a _ 0 ansD ansM σ1 hs1]
  refine bind_congr fun _ σ2 _ => bind_congr fun ra σ3 _ => ite_ne0_congr fun hra => live_eq_acc hra fun hl => ?_
  simp [stNm, stBuf, stLen, acc_eq _ _ hra, hl, encBuf, show sizeof_cstl_raw_array = HDR from rfl, setBlk_setBlk]

/-- `cstl_array_set(a, buf, nm, sz)` with `buf` = the start of external buffer `e` -/
theorem aSet_tie (a e nm sz : Nat) (ansD ansM : Bool) (σ : State) (hs : NoSelfUp σ a) :
    aSet a e nm sz ansD ansM σ = c_cstl_array_set (.obj a) (.ext e 0) nm sz ansD ansM σ := by
  simp only [c_cstl_array_set, aSet, ← aAlloc_tie a 0 sz ansD ansM σ hs, ← sGet_tie, stNm, bind_assoc]
  refine bind_congr fun _ σ2 _ => bind_congr fun ra σ3 _ => ite_ne0_congr fun hra => live_eq_acc hra fun hl => ?_
  simp [stBuf, stLen, acc_eq _ _ hra, hl, encBuf, setBlk_setBlk]

theorem bufLoc_inline (ra : Nat) (k : Blk) :
    (bufLoc ra k 0 ≠ Loc.heap ra sizeof_cstl_raw_array) ↔ k.abuf ≠ 0 := by
  unfold bufLoc
  by_cases h : k.abuf = 0
  · simp [h, show sizeof_cstl_raw_array = 24 from rfl, HDR, W]
  · simp [h]

theorem aData_tie (a : Nat) (σ : State) : aData a σ = c_cstl_array_data (.obj a) σ := by
  simp only [c_cstl_array_data, c_cstl_array_data_const, aData, ← sGetConst_tie, ldBuf]
  exact bind_congr fun ra σ1 _ => ite_ne0_congr fun hra => live_eq_acc hra fun _ => rfl

theorem locAdd_bufLoc (ra : Nat) (k : Blk) (x : Nat) : Loc.add (bufLoc ra k 0) (x % W) = bufLoc ra k (x % W) := by
  unfold bufLoc
  split
  · rw [Loc.add, Nat.mod_add_mod, Nat.add_zero]
  · rw [Loc.add, Nat.mod_add_mod, Nat.zero_add]

theorem aAt_tie (a i : Nat) (σ : State) : aAt a i σ = c_cstl_array_at (.obj a) i σ := by
  simp only [c_cstl_array_at, c_cstl_array_at_const, aAt, ← sGetConst_tie, ldLen, ldOff, ldBuf, ldSz, abortM,
    c_priv_cstl_raw_array_at, bind_ok, bind_assoc]
  split
  · rfl
  · refine bind_congr fun ra σ1 h => ?_
    cases sGet_ok h
    by_cases hra : ra = 0
    · simp [hra, acc]
    · rw [if_neg hra]
      refine live_eq_acc hra fun hl => ?_
      simp only [acc_live hra hl, bind_ok, locAdd_bufLoc]

/-- the descriptor the array object at `a` refers to has not been freed -/
def ManagedLive (σ : State) (a : Nat) : Prop :=
  ∀ ra σ1, sGet a σ = .ok ra σ1 → ra ≠ 0 → (σ.blk ra).live = true

/-- `cstl_array_release(a, &buf)`: the value stored in `buf` -/
theorem aRelease_tie (a : Nat) (σ : State) (hs : NoSelfUp σ a) (hc : SoftSmall σ a) :
    aRelease a σ = c_cstl_array_release (.obj a) true σ := by
  simp only [c_cstl_array_release, aRelease, ← sGetConst_tie]
  refine bind_congr fun ra σ1 h => ?_
  cases sGet_ok h
  by_cases hra : ra = 0
  · simp [hra]
  · simp only [ne_eq, hra, not_false_eq_true, if_true, ldBuf, acc_eq _ _ hra]
    by_cases hl : (σ.blk ra).live = true
    · simp only [hl, if_true, bind_ok, bufLoc_inline]
      by_cases hb : (σ.blk ra).abuf = 0
      · simp [hb]
      · simp only [ne_eq, hb, not_false_eq_true, if_true, decide_true, ← sUnique_tie a σ hc, bind_assoc]
        refine bind_congr fun u σ2 hu => ?_
        cases sUnique_ok hu
        by_cases hu1 : u = true
        · simp only [hu1, decide_true, if_true, bind_ok, hl, ← aReset_tie a σ hs]
          cases aReset a σ <;> rfl
        · simp [hu1]
    · simp [hl]

theorem noSelfUp_fields {σ : State} {s off len : Nat} (hs : NoSelfUp σ s) :
    NoSelfUp (σ.setObj s { σ.obj s with off := off, len := len }) s := by
  intro hst hne
  simpa using hs (by simpa using hst) (by simpa using hne)

/-- The C code evaluates `ra == NULL || end < beg || end > ra->nm - a->off` from left to right and only
then touches `ra`; the model asks whether the descriptor is still there first.  The two agree when the
descriptor has not been freed (`ManagedLive`).  `end - beg` is computed in `size_t`. -/
theorem aSlice_tie (a beg «end» s : Nat) (σ : State) (hs : NoSelfUp σ s) (hm : ManagedLive σ a)
    (he : «end» < W) :
    aSlice a beg «end» s σ = c_cstl_array_slice (.obj a) beg «end» (.obj s) σ := by
  simp only [c_cstl_array_slice, aSlice, ← sGetConst_tie]
  refine bind_congr fun ra σ1 h => ?_
  cases sGet_ok h
  by_cases hra : ra = 0
  · rw [if_pos hra, if_pos (Or.inl hra), bind_ok, if_pos rfl]; rfl
  · have hl := hm ra σ h hra
    simp only [hra, if_false, hl, if_true, false_or, ldNm, ldOff, stOff, stLen, acc_eq _ _ hra, bind_ok, abortM]
    -- (from here on by explicit rewriting: `simp` on this goal yields a proof the kernel checks very slowly)
    by_cases hlt : «end» < beg
    · rw [if_pos (Or.inl hlt), if_pos hlt]
      rfl
    · rw [if_neg hlt, bind_ok]
      by_cases hgt : «end» > ((σ.blk ra).anm + W - (σ.obj a).off) % W
      · rw [if_pos (Or.inr hgt), if_pos (decide_eq_true hgt)]
      · have hd : ¬ decide («end» > ((σ.blk ra).anm + W - (σ.obj a).off) % W) = true := by simpa using hgt
        rw [if_neg (fun h => h.elim hlt hgt), if_neg hd]
        simp only [setObj_setObj, setObj_obj, if_true, wrap_sub (Nat.le_of_not_lt hlt) he, ne_eq, Place.obj.injEq]
        by_cases has : a = s
        · simp only [has, not_true_eq_false, if_false]
        · simp only [has, not_false_eq_true, if_true]
          rw [← sShare_tie a s _ (noSelfUp_fields hs)]

/-- The C code stores `a->off = 0` before it reads `ra->nm`; the model asks whether the descriptor is
still there before it writes.  The two agree when the descriptor has not been freed. -/
theorem aUnslice_tie (s a : Nat) (σ : State) (hs : NoSelfUp σ a) (hm : ManagedLive σ s) :
    aUnslice s a σ = c_cstl_array_unslice (.obj s) (.obj a) σ := by
  simp only [c_cstl_array_unslice, aUnslice, ← sGetConst_tie]
  refine bind_congr fun ra σ1 h => ?_
  cases sGet_ok h
  by_cases hra : ra = 0
  · rw [if_pos hra, if_pos hra]; rfl
  · have hl := hm ra σ h hra
    simp only [hra, if_false, hl, if_true, ldNm, stOff, stLen, acc_eq _ _ hra, bind_ok, setObj_blk,
      setObj_setObj, ne_eq, Place.obj.injEq]
    by_cases has : a = s
    · simp [has]
    · simp only [has, not_false_eq_true, if_true, setObj_obj, if_true]
      rw [← sShare_tie s a _ (noSelfUp_fields hs)]

end Cstl.Mem.Tie
