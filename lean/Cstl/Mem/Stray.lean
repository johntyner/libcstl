import Cstl.Mem.InvArray
/-
C20 at the level of the library functions: a call through a stray copy
(`self ≠ address`) aborts, and what happened before the abort.  Where a function
has two pointer arguments the suffix of `*_stray_x` is the C parameter that is
the stray one (`_e`/`_n` of share, `_w`/`_s` of weak-from and lock, `_a`/`_s` of
slice and unslice).
-/
namespace Cstl.Mem

theorem sReset_stray {σ : State} {a : Nat} (h : ¬ stamped σ a) : sReset a σ = .stop .abort σ :=
  bind_stop_of_stop (gGet_stray h)
theorem wReset_stray {σ : State} {a : Nat} (h : ¬ stamped σ a) : wReset a σ = .stop .abort σ :=
  bind_stop_of_stop (gGet_stray h)
theorem uReset_stray {σ : State} {a : Nat} (h : ¬ stamped σ a) : uReset a σ = .stop .abort σ :=
  bind_stop_of_stop (gGet_stray h)
theorem uAlloc_stray {σ : State} {a sz c p : Nat} {ans : Bool} (h : ¬ stamped σ a) :
    uAlloc a sz c p ans σ = .stop .abort σ :=
  bind_stop_of_stop (uReset_stray h)
theorem uGet_stray {σ : State} {a : Nat} (h : ¬ stamped σ a) : uGet a σ = .stop .abort σ := gGet_stray h
theorem uRelease_stray {σ : State} {a : Nat} (h : ¬ stamped σ a) : uRelease a σ = .stop .abort σ :=
  bind_stop_of_stop (gGet_stray h)
theorem sAlloc_stray {σ : State} {a sz c : Nat} {ad am : Bool} (h : ¬ stamped σ a) :
    sAlloc a sz c ad am σ = .stop .abort σ :=
  bind_stop_of_stop (sReset_stray h)
theorem sUnique_stray {σ : State} {a : Nat} (h : ¬ stamped σ a) : sUnique a σ = .stop .abort σ :=
  bind_stop_of_stop (gGet_stray h)
theorem sGet_stray {σ : State} {a : Nat} (h : ¬ stamped σ a) : sGet a σ = .stop .abort σ :=
  bind_stop_of_stop (gGet_stray h)
theorem aReset_stray {σ : State} {a : Nat} (h : ¬ stamped σ a) : aReset a σ = .stop .abort σ :=
  bind_stop_of_stop (sReset_stray h)
theorem aAlloc_stray {σ : State} {a nm sz : Nat} {ad am : Bool} (h : ¬ stamped σ a) :
    aAlloc a nm sz ad am σ = .stop .abort σ :=
  bind_stop_of_stop (aReset_stray h)
theorem aSet_stray {σ : State} {a e nm sz : Nat} {ad am : Bool} (h : ¬ stamped σ a) :
    aSet a e nm sz ad am σ = .stop .abort σ :=
  bind_stop_of_stop (aAlloc_stray h)
theorem aRelease_stray {σ : State} {a : Nat} (h : ¬ stamped σ a) : aRelease a σ = .stop .abort σ :=
  bind_stop_of_stop (sGet_stray h)
theorem aData_stray {σ : State} {a : Nat} (h : ¬ stamped σ a) : aData a σ = .stop .abort σ :=
  bind_stop_of_stop (sGet_stray h)
theorem aAt_stray {σ : State} {a i : Nat} (h : ¬ stamped σ a) : aAt a i σ = .stop .abort σ := by
  unfold aAt; split
  · rfl
  · exact bind_stop_of_stop (sGet_stray h)

theorem gCopy_stray {σ : State} {d s : Nat} (h : ¬ stamped σ s) : gCopy d s σ = .stop .abort σ :=
  bind_stop_of_stop (gGet_stray h)

theorem gSwap_stray {σ : State} {a b : Nat} (h : ¬ stamped σ a ∨ ¬ stamped σ b) :
    gSwap a b σ = .stop .abort σ := by
  by_cases ha : stamped σ a
  · rw [gSwap, gGet_eval ha, bind_ok]
    exact bind_stop_of_stop (gGet_stray (h.resolve_left (fun n => n ha)))
  · exact bind_stop_of_stop (gGet_stray ha)

theorem uSwap_stray {σ : State} {a b : Nat} (h : ¬ stamped σ a ∨ ¬ stamped σ b) :
    uSwap a b σ = .stop .abort σ :=
  bind_stop_of_stop (gSwap_stray h)

theorem stray_of_obj {σ σ1 : State} {x : Nat} (ho : σ1.obj x = σ.obj x) (h : ¬ stamped σ x) : ¬ stamped σ1 x := by
  unfold stamped at h ⊢; rw [ho]; exact h

theorem stray_after_reset {α : Type} {r : Res Unit} {σ σ1 : State} {x d : Nat} {f : Unit → State → Res α}
    (h1 : r = .ok () σ1) (ho : σ1.obj x = σ.obj x) (h : ¬ stamped σ x) :
    (r >>- fun _ σ => gCopy d x σ >>- f) = .stop .abort σ1 := by
  rw [h1, bind_ok]; exact bind_stop_of_stop (gCopy_stray (stray_of_obj ho h))

theorem sShare_stray_n {σ : State} {e n : Nat} (h : ¬ stamped σ n) : sShare e n σ = .stop .abort σ :=
  bind_stop_of_stop (sReset_stray h)

/-- share: a stray source aborts right after the (proper) target was reset -/
theorem sShare_stray_e {σ : State} {e n : Nat} (I : Inv σ) (N : Owner σ n) (h : ¬ stamped σ e) :
    ∃ σ1, sReset n σ = .ok () σ1 ∧ sShare e n σ = .stop .abort σ1 := by
  obtain ⟨σ1, h1, _, _, ho1⟩ := sReset_inv I N
  have hen : e ≠ n := by rintro rfl; exact h N.stamp
  exact ⟨σ1, h1, stray_after_reset h1 (by rw [ho1, if_neg hen]) h⟩

theorem wFrom_stray_w {σ : State} {w s : Nat} (h : ¬ stamped σ w) : wFrom w s σ = .stop .abort σ :=
  bind_stop_of_stop (wReset_stray h)

theorem wFrom_stray_s {σ : State} {w s : Nat} (I : Inv σ) (Wk : Proper σ (· = .weak) w) (h : ¬ stamped σ s) :
    ∃ σ1, wReset w σ = .ok () σ1 ∧ wFrom w s σ = .stop .abort σ1 := by
  obtain ⟨σ1, h1, _, _, ho1⟩ := wReset_inv I Wk
  have hne : s ≠ w := by rintro rfl; exact h Wk.stamp
  exact ⟨σ1, h1, stray_after_reset h1 (by rw [ho1, if_neg hne]) h⟩

theorem wLock_stray_s {σ : State} {w s : Nat} (h : ¬ stamped σ s) : wLock w s σ = .stop .abort σ :=
  bind_stop_of_stop (sReset_stray h)

theorem wLock_stray_w {σ : State} {w s : Nat} (I : Inv σ) (Sh : Owner σ s) (h : ¬ stamped σ w) :
    ∃ σ1, sReset s σ = .ok () σ1 ∧ wLock w s σ = .stop .abort σ1 := by
  obtain ⟨σ1, h1, _, _, ho1⟩ := sReset_inv I Sh
  have hne : w ≠ s := by rintro rfl; exact h Sh.stamp
  exact ⟨σ1, h1, stray_after_reset h1 (by rw [ho1, if_neg hne]) h⟩

theorem aSlice_stray_a {σ : State} {a b e s : Nat} (h : ¬ stamped σ a) : aSlice a b e s σ = .stop .abort σ :=
  bind_stop_of_stop (sGet_stray h)

/-- slice into a stray target: abort on bad bounds, else right after the plain `off`/`len` words of
the target were written -/
theorem aSlice_stray_s {σ : State} {a b e s : Nat} (I : Inv σ) (A : Proper σ (· = .array) a)
    (h : ¬ stamped σ s) :
    aSlice a b e s σ = .stop .abort σ ∨
    aSlice a b e s σ = .stop .abort (σ.setObj s { σ.obj s with off := ((σ.obj a).off + b) % W, len := e - b }) := by
  have has : a ≠ s := by rintro rfl; exact h A.stamp
  rw [aSlice_eval I A, if_pos has]
  split
  · exact Or.inl rfl
  · exact Or.inr (sShare_stray_n (mt stamped_fields.mp h))

theorem aUnslice_stray_s {σ : State} {s a : Nat} (h : ¬ stamped σ s) : aUnslice s a σ = .stop .abort σ :=
  bind_stop_of_stop (sGet_stray h)

theorem aUnslice_stray_a {σ : State} {s a : Nat} (I : Inv σ) (S : Proper σ (· = .array) s)
    (h : ¬ stamped σ a) :
    aUnslice s a σ = .stop .abort σ ∨
    aUnslice s a σ = .stop .abort
      (σ.setObj a { σ.obj a with off := 0, len := (σ.blk (σ.blk (σ.obj s).ptr).up).anm }) := by
  have has : s ≠ a := by rintro rfl; exact h S.stamp
  rw [aUnslice_eval I S, if_pos has]
  split
  · exact Or.inl rfl
  · exact Or.inr (sShare_stray_n (mt stamped_fields.mp h))

end Cstl.Mem
