import Cstl.Mem.InvSharedOps
import Cstl.Mem.InvSharedAlloc
import Cstl.Mem.InvGuarded
namespace Cstl.Mem

/-- `k'` is `k` but for the array descriptor (`asz`, `anm`, `abuf`), which the ownership invariant does not read -/
structure Blk.SameButDesc (k k' : Blk) : Prop where
  live : k'.live = k.live
  size : k'.size = k.size
  isData : k'.isData = k.isData
  ownerD : k'.ownerD = k.ownerD
  clrG : k'.clrG = k.clrG
  privG : k'.privG = k.privG
  hard : k'.hard = k.hard
  soft : k'.soft = k.soft
  upOk : k'.upOk = k.upOk
  up : k'.up = k.up
  upClr : k'.upClr = k.upClr

theorem Inv.setBlk_words {σ : State} {m : Nat} (I : Inv σ) (hl : (σ.blk m).live = true) (k : Blk)
    (hk : Blk.SameButDesc (σ.blk m) k) : Inv (σ.setBlk m k) := by
  have hb : ∀ b, Blk.SameButDesc (σ.blk b) ((σ.setBlk m k).blk b) := by
    intro b
    rw [setBlk_blk]
    split
    · subst_vars; exact hk
    · exact ⟨rfl, rfl, rfl, rfl, rfl, rfl, rfl, rfl, rfl, rfl, rfl⟩
  refine Inv.frame I rfl (fun b hd => ?_)
    (fun b => ⟨(hb b).size, (hb b).isData, (hb b).ownerD, (hb b).clrG, (hb b).privG⟩) id (fun _ h => Or.inl h) ⟨?_, I.uniq_inj⟩ ?_ ?_ ?_
  · rw [setBlk_blk, if_neg (fun e => by rw [e, hl] at hd; cases hd)]
  · intro x hx hs hkx
    have := I.uniq_ok x hx hs hkx
    unfold UMemOk at this ⊢
    rw [(hb _).live, (hb _).isData, (hb _).ownerD, (hb _).clrG, (hb _).privG]; exact this
  · intro x c hx hr hc
    rw [(hb c).live, (hb c).isData]; exact I.ref_ok x c hx hr hc
  · intro c hlc hd
    rw [(hb c).live] at hlc; rw [(hb c).isData] at hd
    have D := I.dataOk hlc hd
    refine ⟨by rw [(hb c).hard, (hb c).soft]; exact D.cnt, by rw [(hb c).soft, (hb c).upOk]; exact D.pos,
      by rw [(hb c).hard, (hb c).up, (hb c).upClr]; exact D.up0, fun hh => ?_⟩
    rw [(hb c).hard] at hh
    have M := D.up hh
    unfold MemOk at M ⊢
    rw [(hb c).up, (hb c).upClr, (hb _).live, (hb _).isData, (hb _).ownerD, (hb _).clrG, (hb _).privG]
    exact M
  · intro b hlb hd
    rw [(hb b).live] at hlb; rw [(hb b).isData] at hd
    have M := I.mem_owned b hlb hd
    rw [(hb b).ownerD, (hb _).live, (hb _).isData, (hb _).up]
    exact M

theorem desc_inv {σ : State} {m : Nat} (asz anm abuf : Nat) (I : Inv σ) (hl : (σ.blk m).live = true) :
    Inv (σ.setBlk m { σ.blk m with asz := asz, anm := anm, abuf := abuf }) :=
  I.setBlk_words hl _ ⟨rfl, rfl, rfl, rfl, rfl, rfl, rfl, rfl, rfl, rfl, rfl⟩

theorem aReset_inv {σ : State} {a : Nat} (I : Inv σ) (A : Proper σ (· = .array) a) :
    ∃ σ', aReset a σ = .ok () σ' ∧ Inv σ' ∧ Same σ σ' ∧
      (∀ x, σ'.obj x = if x = a then { σ.obj a with ptr := 0, off := 0, len := 0 } else σ.obj x) := by
  obtain ⟨σ1, h1, I1, S1, ho1⟩ := sReset_inv I A.array
  refine ⟨_, by simp only [aReset, h1, bind_ok], fields_inv (a := a) 0 0 I1,
    ⟨S1.n, S1.kind, S1.ext⟩, ?_⟩
  intro x
  by_cases hx : x = a
  · subst hx; simp [ho1]
  · simp [hx, ho1]

/-- the descriptor words of the blocks that existed before are as they were -/
def DescKept (σ σ' : State) : Prop :=
  ∀ b, b < σ.next → (σ'.blk b).asz = (σ.blk b).asz ∧ (σ'.blk b).anm = (σ.blk b).anm ∧
    (σ'.blk b).abuf = (σ.blk b).abuf

def EmptyView (σ : State) (a : Nat) : Prop := (σ.obj a).ptr = 0 ∧ (σ.obj a).len = 0 ∧ (σ.obj a).off = 0

/-- the array object `a` is the only reference to the bookkeeping block `d`, allocated no earlier
than `n0`, whose descriptor block is the next one and reads `k`, and views all `nm` elements of it -/
structure FreshView (n0 : Nat) (σ : State) (a nm d : Nat) (k : Blk) : Prop where
  ptr : (σ.obj a).ptr = d
  ne0 : d ≠ 0
  fresh : n0 ≤ d
  off : (σ.obj a).off = 0
  len : (σ.obj a).len = nm
  up : (σ.blk d).up = d + 1
  soft : (σ.blk d).soft = 1
  desc : σ.blk (d + 1) = k

/-- the end of `cstl_array_alloc` and of `cstl_array_set`: the descriptor words are updated by `f`
and the object gets its length -/
def descTail (a nm : Nat) (f : Blk → Blk) (σ : State) : Res Unit :=
  sGet a σ >>- fun ra σ =>
  if ra ≠ 0 then
    if (σ.blk ra).live = true then
      let σ := σ.setBlk ra (f (σ.blk ra))
      .ok () (σ.setObj a { σ.obj a with len := nm })
    else .stop .asan σ
  else .ok () σ

theorem aAlloc_eq (a nm sz : Nat) (ad am : Bool) (σ : State) :
    aAlloc a nm sz ad am σ =
      (aReset a σ >>- fun _ σ =>
        (if fits nm sz = true then sAlloc a ((HDR + nm * sz) % W) 0 ad am σ else .ok () σ) >>- fun _ σ =>
        descTail a nm (fun k => { k with asz := sz, anm := nm, abuf := 0 }) σ) := rfl

theorem aSet_eq (a e nm sz : Nat) (ad am : Bool) (σ : State) :
    aSet a e nm sz ad am σ =
      (aAlloc a 0 sz ad am σ >>- fun _ σ => descTail a nm (fun k => { k with anm := nm, abuf := e }) σ) := rfl

theorem descTail_null {σ : State} {a nm : Nat} {f : Blk → Blk} (hs : (σ.obj a).self = a)
    (hp : (σ.obj a).ptr = 0) : descTail a nm f σ = .ok () σ := by
  rw [descTail, sGet, gGet_eval hs, bind_ok, if_neg (fun h => h hp), bind_ok, if_neg (fun h => h rfl)]

theorem descTail_set {σ : State} {a nm d m : Nat} {f : Blk → Blk} (I : Inv σ) (A : Proper σ (· = .array) a)
    (hp : (σ.obj a).ptr = d) (hd : d ≠ 0)
    (hm : (σ.blk d).up = m) (hf : ∀ k, ∃ s n b, f k = { k with asz := s, anm := n, abuf := b }) :
    descTail a nm f σ = .ok () ((σ.setBlk m (f (σ.blk m))).setObj a { σ.obj a with len := nm }) ∧
    Inv ((σ.setBlk m (f (σ.blk m))).setObj a { σ.obj a with len := nm }) := by
  subst hp hm
  have hm := (owner_facts I A.array hd).mem
  obtain ⟨s, n, b, hfk⟩ := hf (σ.blk (σ.blk (σ.obj a).ptr).up)
  refine ⟨?_, by rw [hfk]; exact fields_inv (σ.obj a).off nm (desc_inv s n b I hm.live)⟩
  simp only [descTail, sGet_eval I A.array, hd, if_false, bind_ok, ne_eq, hm.ne0, not_false_eq_true,
    if_true, hm.live]
  rfl

theorem freshView_desc {σ : State} {a nm d n0 : Nat} {f : Blk → Blk} {k : Blk} (hp : (σ.obj a).ptr = d)
    (hoff : (σ.obj a).off = 0) (hn0 : n0 ≤ d) (hd0 : d ≠ 0) (hup : (σ.blk d).up = d + 1)
    (hsoft : (σ.blk d).soft = 1) (hk : f (σ.blk (d + 1)) = k) :
    FreshView n0 ((σ.setBlk (d + 1) (f (σ.blk (d + 1)))).setObj a { σ.obj a with len := nm }) a nm d k := by
  have hne : ¬ d = d + 1 := by omega
  refine ⟨?_, hd0, hn0, ?_, ?_, ?_, ?_, ?_⟩ <;>
    simp only [setObj_obj, setObj_blk, setBlk_blk, if_true, hne, if_false]
  · exact hp
  · exact hoff
  · exact hup
  · exact hsoft
  · exact hk

/-- `cstl_array_alloc`: the descriptors of the blocks that existed before are untouched; afterwards the
object is empty, or the view of the whole of a fresh buffer -/
theorem aAlloc_inv {σ : State} {a nm sz : Nat} {ad am : Bool} (I : Inv σ) (A : Proper σ (· = .array) a) :
    ∃ σ', aAlloc a nm sz ad am σ = .ok () σ' ∧ Inv σ' ∧ Same σ σ' ∧ DescKept σ σ' ∧
      ((EmptyView σ' a ∧ (fits nm sz = false ∨ ad = false ∨ am = false ∨ LIMIT < (HDR + nm * sz) % W)) ∨
       ((∃ d, FreshView σ.next σ' a nm d
          { live := true, size := (HDR + nm * sz) % W, ownerD := d, clrG := 0, asz := sz, anm := nm, abuf := 0 }) ∧
        fits nm sz = true ∧ ad = true ∧ am = true)) := by
  obtain ⟨σ1, h1, I1, S1, ho1⟩ := aReset_inv I A
  have E1 := Ext.of_steps (steps_aReset (A := fun _ => True) (D := false) a trivial (Steps.refl σ)) h1
  have hoa1 : σ1.obj a = { σ.obj a with ptr := 0, off := 0, len := 0 } := by rw [ho1, if_pos rfl]
  have hs1 : (σ1.obj a).self = a := by rw [hoa1]; exact A.stamp
  have A1 := A.to S1 hs1
  rw [aAlloc_eq, h1, bind_ok]
  by_cases hf : fits nm sz = true
  · obtain ⟨σ2, h2, I2, S2, _, hres⟩ :=
      sAlloc_inv (sz := (HDR + nm * sz) % W) (clr := 0) (ad := ad) (am := am) I1 A1.array
    have E2 := Ext.of_steps (steps_sAlloc (A := fun _ => True) (D := false) a ((HDR + nm * sz) % W) 0 ad am trivial
      (Steps.refl σ1)) h2
    have hdesc : DescKept σ σ2 := (E1.trans E2).desc rfl
    rw [if_pos hf, h2, bind_ok]
    rcases hres with ⟨hoa2, hwhy⟩ | ⟨d, hoa2, hd0, hfresh, _, _, had, ham, hbd, hbm⟩
    · refine ⟨σ2, descTail_null (by rw [hoa2]; exact hs1) (by rw [hoa2]), I2, S1.trans S2, hdesc,
        Or.inl ⟨⟨by rw [hoa2], by rw [hoa2, hoa1], by rw [hoa2, hoa1]⟩, ?_⟩⟩
      rcases hwhy with h0 | h0
      · -- header + nm * sz is never 0
        rw [Nat.mod_eq_of_lt (fits_lt hf)] at h0
        simp [HDR] at h0
      · exact Or.inr h0
    · obtain ⟨h3, I3⟩ := descTail_set (nm := nm) (f := fun k => { k with asz := sz, anm := nm, abuf := 0 }) I2
        (A1.to S2 (by unfold stamped; rw [hoa2]; exact hs1)) (by rw [hoa2]) hd0 (m := d + 1) (by rw [hbd])
        (fun k => ⟨_, _, _, rfl⟩)
      have hlt : σ.next ≤ d := Nat.le_trans E1.next hfresh
      refine ⟨_, h3, I3, (S1.trans S2).trans ⟨rfl, rfl, rfl⟩, fun b hb => ?_, Or.inr ?_⟩
      · have hbne : b ≠ d + 1 := by omega
        simp only [setObj_blk, setBlk_blk, hbne, if_false]
        exact hdesc b hb
      · exact ⟨⟨d, freshView_desc (f := fun k => { k with asz := sz, anm := nm, abuf := 0 }) (by rw [hoa2])
          (by rw [hoa2, hoa1]) hlt hd0 (by rw [hbd]) (by rw [hbd]) (by rw [hbm])⟩, hf, had, ham⟩
  · rw [if_neg hf, bind_ok]
    refine ⟨σ1, descTail_null hs1 (by rw [hoa1]), I1, S1, E1.desc rfl,
      Or.inl ⟨⟨by rw [hoa1], by rw [hoa1], by rw [hoa1]⟩, Or.inl ?_⟩⟩
    cases hfv : fits nm sz with
    | true => exact absurd hfv hf
    | false => rfl

theorem aSet_inv {σ : State} {a e nm sz : Nat} {ad am : Bool} (I : Inv σ) (A : Proper σ (· = .array) a) :
    ∃ σ', aSet a e nm sz ad am σ = .ok () σ' ∧ Inv σ' ∧ Same σ σ' ∧ DescKept σ σ' ∧
      ((EmptyView σ' a ∧ (ad = false ∨ am = false)) ∨
       ((∃ d, FreshView σ.next σ' a nm d
          { live := true, size := HDR, ownerD := d, clrG := 0, asz := sz, anm := nm, abuf := e }) ∧
        ad = true ∧ am = true)) := by
  obtain ⟨σ1, h1, I1, S1, hd1, hres⟩ := aAlloc_inv (nm := 0) (sz := sz) (ad := ad) (am := am) I A
  have E1 := Ext.of_steps (steps_aAlloc (A := fun _ => True) (D := true) a 0 sz ad am trivial rfl (Steps.refl σ)) h1
  have hs1 : (σ1.obj a).self = a := (E1.self a).elim (fun h => h.trans A.stamp) id
  rw [aSet_eq, h1, bind_ok]
  rcases hres with ⟨hz, hwhy⟩ | ⟨⟨d, V⟩, _, had, ham⟩
  · refine ⟨σ1, descTail_null hs1 hz.1, I1, S1, hd1, Or.inl ⟨hz, ?_⟩⟩
    rcases hwhy with h0 | h0 | h0 | h0
    · simp [fits] at h0
    · exact Or.inl h0
    · exact Or.inr h0
    · simp [HDR, LIMIT, W] at h0
  · obtain ⟨h3, I3⟩ := descTail_set (nm := nm) (f := fun k => { k with anm := nm, abuf := e }) I1 (A.to S1 hs1) V.ptr
      V.ne0 V.up (fun k => ⟨_, _, _, rfl⟩)
    refine ⟨_, h3, I3, S1.trans ⟨rfl, rfl, rfl⟩, fun b hb => ?_, Or.inr ?_⟩
    · have hbne : b ≠ d + 1 := by have := V.fresh; omega
      simp only [setObj_blk, setBlk_blk, hbne, if_false]
      exact hd1 b hb
    · exact ⟨⟨d, freshView_desc (f := fun k => { k with anm := nm, abuf := e }) V.ptr V.off V.fresh V.ne0 V.up V.soft
        (by rw [V.desc]; simp [HDR, W])⟩, had, ham⟩

theorem aRelease_eval {σ : State} {a : Nat} (I : Inv σ) (A : Proper σ (· = .array) a) :
    aRelease a σ =
      if (σ.obj a).ptr ≠ 0 ∧ (σ.blk (σ.blk (σ.obj a).ptr).up).abuf ≠ 0 ∧ (σ.blk (σ.obj a).ptr).soft = 1 then
        aReset a σ >>- fun _ σ' => .ok (bufLoc (σ.blk (σ.obj a).ptr).up (σ.blk (σ.blk (σ.obj a).ptr).up) 0) σ'
      else .ok .null σ := by
  rw [aRelease, sGet_eval I A.array, bind_ok]
  by_cases hp : (σ.obj a).ptr = 0
  · rw [if_pos hp, if_neg (fun h => h rfl), if_neg (fun h => h.1 hp)]
  · have hm := (owner_facts I A.array hp).mem
    rw [if_neg hp, if_pos hm.ne0, if_pos hm.live]
    by_cases hb : (σ.blk (σ.blk (σ.obj a).ptr).up).abuf = 0
    · rw [if_neg (fun h => h hb), if_neg (fun h => h.2.1 hb)]
    · rw [if_pos hb, sUnique_eval I A.array, bind_ok, if_neg hp]
      by_cases hu : (σ.blk (σ.obj a).ptr).soft = 1
      · rw [if_pos (by simp [hu]), if_pos ⟨hp, hb, hu⟩]
      · rw [if_neg (by simp [hu]), if_neg (fun h => hu h.2.2)]

theorem aRelease_inv {σ : State} {a : Nat} (I : Inv σ) (A : Proper σ (· = .array) a) :
    ∃ l σ', aRelease a σ = .ok l σ' ∧ Inv σ' ∧ Same σ σ' ∧
      (σ' = σ ∨ (aReset a σ = .ok () σ' ∧ EmptyView σ' a)) := by
  rw [aRelease_eval I A]
  split
  · obtain ⟨σ1, h1, I1, S1, ho⟩ := aReset_inv I A
    exact ⟨_, σ1, by rw [h1]; rfl, I1, S1, Or.inr ⟨h1, by unfold EmptyView; rw [ho]; simp⟩⟩
  · exact ⟨_, σ, rfl, I, .refl σ, Or.inl rfl⟩

theorem aData_eval {σ : State} {a : Nat} (I : Inv σ) (A : Proper σ (· = .array) a) :
    aData a σ = .ok (if (σ.obj a).ptr = 0 then .null
      else bufLoc (σ.blk (σ.obj a).ptr).up (σ.blk (σ.blk (σ.obj a).ptr).up) 0) σ := by
  rw [aData, sGet_eval I A.array, bind_ok]
  by_cases hp : (σ.obj a).ptr = 0
  · rw [if_pos hp, if_neg (fun h => h rfl), if_pos hp]
  · have hm := (owner_facts I A.array hp).mem
    rw [if_neg hp, if_pos hm.ne0, if_pos hm.live, if_neg hp]

/-- a NULL descriptor would be dereferenced only if the object claimed a length without a buffer -/
theorem aAt_eval {σ : State} {a i : Nat} (I : Inv σ) (A : Proper σ (· = .array) a) :
    aAt a i σ =
      if i ≥ (σ.obj a).len then .stop .abort σ
      else if (σ.obj a).ptr = 0 then .stop .segv σ
      else .ok (bufLoc (σ.blk (σ.obj a).ptr).up (σ.blk (σ.blk (σ.obj a).ptr).up)
        ((((σ.obj a).off + i) % W) * (σ.blk (σ.blk (σ.obj a).ptr).up).asz % W)) σ := by
  by_cases hi : i ≥ (σ.obj a).len
  · rw [aAt, if_pos hi, if_pos hi]
  · rw [aAt, if_neg hi, if_neg hi, sGet_eval I A.array, bind_ok]
    by_cases hp : (σ.obj a).ptr = 0
    · rw [if_pos hp, if_pos rfl, if_pos hp]
    · have hm := (owner_facts I A.array hp).mem
      rw [if_neg hp, if_neg hm.ne0, if_pos hm.live, if_neg hp]

theorem stamped_fields {σ : State} {s x off len : Nat} :
    stamped (σ.setObj s { σ.obj s with off := off, len := len }) x ↔ stamped σ x := by
  unfold stamped
  by_cases h : x = s
  · subst h; simp
  · simp [h]

theorem Proper.fields {σ : State} {K : Kind → Prop} {x s off len : Nat} (A : Proper σ K x) :
    Proper (σ.setObj s { σ.obj s with off := off, len := len }) K x :=
  ⟨A.lt, stamped_fields.mpr A.stamp, A.kind⟩

/-- the common end of `cstl_array_slice` and `cstl_array_unslice`: the view words of `t` are written, and `t` (if it
is another object) comes to share what `x` owns -/
theorem view_inv {σ : State} {x t off len : Nat} (I : Inv σ) (X : Proper σ (· = .array) x)
    (T : Proper σ (· = .array) t) :
    ∃ σ', (if x ≠ t then sShare x t (σ.setObj t { σ.obj t with off := off, len := len })
        else .ok () (σ.setObj t { σ.obj t with off := off, len := len })) = .ok () σ' ∧ Inv σ' ∧ Same σ σ' ∧
      (∀ y, σ'.obj y = if y = t then { σ.obj t with ptr := (σ.obj x).ptr, off := off, len := len } else σ.obj y) := by
  have I1 := fields_inv (a := t) off len I
  by_cases hxt : x = t
  · subst hxt
    refine ⟨_, by rw [if_neg (fun h => h rfl)], I1, ⟨rfl, rfl, rfl⟩, fun y => ?_⟩
    by_cases hy : y = x <;> simp [hy]
  · obtain ⟨σ2, h2, I2, S2, ho2⟩ := sShare_inv I1 X.fields.array T.fields.array
    refine ⟨σ2, by rw [if_pos hxt, h2], I2, ⟨S2.n, S2.kind, S2.ext⟩, fun y => ?_⟩
    rw [ho2]
    by_cases hy : y = t
    · subst hy; simp [hxt]
    · simp [hy]

theorem aSlice_eval {σ : State} {a beg en s : Nat} (I : Inv σ) (A : Proper σ (· = .array) a) :
    aSlice a beg en s σ =
      if (σ.obj a).ptr = 0 ∨ en < beg ∨
          en > ((σ.blk (σ.blk (σ.obj a).ptr).up).anm + W - (σ.obj a).off) % W then .stop .abort σ
      else if a ≠ s then
        sShare a s (σ.setObj s { σ.obj s with off := ((σ.obj a).off + beg) % W, len := en - beg })
      else .ok () (σ.setObj s { σ.obj s with off := ((σ.obj a).off + beg) % W, len := en - beg }) := by
  rw [aSlice, sGet_eval I A.array, bind_ok]
  by_cases hp : (σ.obj a).ptr = 0
  · rw [if_pos hp, if_pos rfl, if_pos (Or.inl hp)]
  · have hm := (owner_facts I A.array hp).mem
    rw [if_neg hp, if_neg hm.ne0, if_pos hm.live]
    by_cases hc : en < beg ∨ en > ((σ.blk (σ.blk (σ.obj a).ptr).up).anm + W - (σ.obj a).off) % W
    · rw [if_pos hc, if_pos (Or.inr hc)]
    · have hc' : ¬ ((σ.obj a).ptr = 0 ∨ en < beg ∨
          en > ((σ.blk (σ.blk (σ.obj a).ptr).up).anm + W - (σ.obj a).off) % W) := fun h => h.elim hp hc
      rw [if_neg hc, if_neg hc']

theorem aSlice_inv {σ : State} {a beg en s : Nat} (I : Inv σ) (A : Proper σ (· = .array) a)
    (T : Proper σ (· = .array) s) :
    (((σ.obj a).ptr = 0 ∨ en < beg ∨
        en > ((σ.blk (σ.blk (σ.obj a).ptr).up).anm + W - (σ.obj a).off) % W) → aSlice a beg en s σ = .stop .abort σ) ∧
    (¬ ((σ.obj a).ptr = 0 ∨ en < beg ∨
        en > ((σ.blk (σ.blk (σ.obj a).ptr).up).anm + W - (σ.obj a).off) % W) →
      ∃ σ', aSlice a beg en s σ = .ok () σ' ∧ Inv σ' ∧ Same σ σ' ∧
        (∀ x, σ'.obj x = if x = s then
            { σ.obj s with ptr := (σ.obj a).ptr, off := ((σ.obj a).off + beg) % W, len := en - beg }
          else σ.obj x)) := by
  rw [aSlice_eval I A]
  exact ⟨fun hc => if_pos hc, fun hc => by rw [if_neg hc]; exact view_inv I A T⟩

theorem aUnslice_eval {σ : State} {s a : Nat} (I : Inv σ) (S : Proper σ (· = .array) s) :
    aUnslice s a σ =
      if (σ.obj s).ptr = 0 then .stop .abort σ
      else if s ≠ a then
        sShare s a (σ.setObj a { σ.obj a with off := 0, len := (σ.blk (σ.blk (σ.obj s).ptr).up).anm })
      else .ok () (σ.setObj a { σ.obj a with off := 0, len := (σ.blk (σ.blk (σ.obj s).ptr).up).anm }) := by
  rw [aUnslice, sGet_eval I S.array, bind_ok]
  by_cases hp : (σ.obj s).ptr = 0
  · rw [if_pos hp, if_pos rfl, if_pos hp]
  · have hm := (owner_facts I S.array hp).mem
    rw [if_neg hp, if_neg hm.ne0, if_pos hm.live, if_neg hp]
    by_cases has : a = s
    · rw [if_neg (fun h => h has), if_neg (fun h => h has.symm)]
    · rw [if_pos has, if_pos (fun e => has e.symm)]

theorem aUnslice_inv {σ : State} {s a : Nat} (I : Inv σ) (A : Proper σ (· = .array) a)
    (S : Proper σ (· = .array) s) :
    ((σ.obj s).ptr = 0 → aUnslice s a σ = .stop .abort σ) ∧
    ((σ.obj s).ptr ≠ 0 →
      ∃ σ', aUnslice s a σ = .ok () σ' ∧ Inv σ' ∧ Same σ σ' ∧
        (∀ x, σ'.obj x = if x = a then
            { σ.obj a with ptr := (σ.obj s).ptr, off := 0, len := (σ.blk (σ.blk (σ.obj s).ptr).up).anm }
          else σ.obj x)) := by
  rw [aUnslice_eval I S]
  exact ⟨fun hp => if_pos hp, fun hp => by rw [if_neg hp]; exact view_inv I S A⟩

end Cstl.Mem
