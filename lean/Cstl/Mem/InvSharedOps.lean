import Cstl.Mem.InvSharedReset
namespace Cstl.Mem

/-- `cstl_shared_ptr_share` after the reset of its target -/
def shareTail (e n : Nat) (σ : State) : Res Unit :=
  gCopy n e σ >>- fun _ σ =>
  gGet n σ >>- fun d σ =>
  if d ≠ 0 then
    if (σ.blk d).live = true then
      let σ := σ.setBlk d { σ.blk d with hard := (σ.blk d).hard + 1 }
      .ok () (σ.setBlk d { σ.blk d with soft := (σ.blk d).soft + 1 })
    else .stop .asan σ
  else .ok () σ

theorem sShare_eq (e n : Nat) (σ : State) : sShare e n σ = (sReset n σ >>- fun _ σ => shareTail e n σ) := rfl

/-- `cstl_weak_ptr_from` after the reset of its target -/
def fromTail (w s : Nat) (σ : State) : Res Unit :=
  gCopy w s σ >>- fun _ σ =>
  gGet w σ >>- fun d σ =>
  if d ≠ 0 then
    if (σ.blk d).live = true then
      .ok () (σ.setBlk d { σ.blk d with soft := (σ.blk d).soft + 1 })
    else .stop .asan σ
  else .ok () σ

theorem wFrom_eq (w s : Nat) (σ : State) : wFrom w s σ = (wReset w σ >>- fun _ σ => fromTail w s σ) := rfl

/-- `cstl_weak_ptr_lock` after the reset of its target -/
def lockTail (w s : Nat) (σ : State) : Res Unit :=
  gCopy s w σ >>- fun _ σ =>
  gGet s σ >>- fun d σ =>
  if d ≠ 0 then
    if (σ.blk d).live = true then
      let old := (σ.blk d).hard
      let σ := σ.setBlk d { σ.blk d with hard := old + 1 }
      if old > 0 then
        .ok () (σ.setBlk d { σ.blk d with soft := (σ.blk d).soft + 1 })
      else
        let σ := σ.setBlk d { σ.blk d with hard := (σ.blk d).hard - 1 }
        .ok () (gSet s 0 σ)
    else .stop .asan σ
  else .ok () σ

theorem wLock_eq (w s : Nat) (σ : State) : wLock w s σ = (sReset s σ >>- fun _ σ => lockTail w s σ) := rfl

/-- The object `a`, stamped and empty, becomes a reference to the live bookkeeping block `d`, whose counts go up
by `dh` (1 for an owner, 0 for a weak reference) and 1. -/
theorem Inv.addRef {σ : State} {a d dh : Nat} (I : Inv σ) (ha : a < σ.n) (hs : (σ.obj a).self = a)
    (hp : (σ.obj a).ptr = 0) (hl : (σ.blk d).live = true) (hd : (σ.blk d).isData = true)
    (hk : (dh = 1 ∧ (σ.kind a = .shared ∨ σ.kind a = .array) ∧ (σ.blk d).hard ≠ 0) ∨ (dh = 0 ∧ σ.kind a = .weak)) :
    Inv (σ.upd (gSet a d σ).obj
      (fun b => if b = d then { σ.blk d with hard := (σ.blk d).hard + dh, soft := (σ.blk d).soft + 1 } else σ.blk b)
      σ.log σ.next) := by
  obtain ⟨hcnt, hpos, hup0, hup⟩ := I.dataOk hl hd
  have hd0 := I.live_ne0 hl
  have hka : σ.kind a ≠ .unique := by rcases hk with ⟨-, h | h, -⟩ | ⟨-, h⟩ <;> rw [h] <;> decide
  have hcnt' : nH (gSet a d σ) d = nH σ d + dh ∧ nW (gSet a d σ) d + dh = nW σ d + 1 := by
    rcases hk with ⟨h1, h2, -⟩ | ⟨h1, h2⟩
    · have := refs_gSet_owner d d ha hs h2
      rw [hp, if_neg (Ne.symm hd0), if_pos rfl] at this; omega
    · have := refs_gSet_weak d d ha hs h2
      rw [hp, if_neg (Ne.symm hd0), if_pos rfl] at this; omega
  refine Inv.retarget I ⟨rfl, rfl, rfl⟩ rfl (a := a) (d := d) (m := d)
    (hka := hka)
    (hobj := fun x hx => by simp only [upd_obj, gSet_obj, hx, if_false])
    (hao := fun c h => Or.inr ((ref_ptr h).symm.trans hp))
    (han := fun c h => Or.inl ((ref_ptr h).symm.trans (by simp)))
    (hblk := fun b hb _ => by simp only [upd_blk, hb, if_false])
    (hdl := hl)
    (hdd := hd)
    (hdg := by simp only [upd_blk, if_true]; exact ⟨rfl, rfl, rfl, rfl, rfl⟩)
    (hd := fun _ => ?_)
    (hdr := fun hl' => ?_)
    (hdu := fun _ _ => ?_)
    (hm := fun h => absurd rfl h)
    (hlog := id)
    (hlt := fun _ h => Or.inl h)
  · have hmd : (σ.blk d).hard ≠ 0 → (σ.blk d).up ≠ d := fun hh => (hup hh).ne hd
    refine ⟨?_, ?_, ?_, fun hh => ?_⟩
    all_goals simp only [upd_blk, if_true, nH_upd_gSet, nW_upd_gSet] at *
    · exact ⟨by omega, by omega⟩
    · exact ⟨by omega, hpos.2⟩
    · exact fun h => hup0 (by omega)
    · have hh' : (σ.blk d).hard ≠ 0 := by
        rcases hk with ⟨-, -, h⟩ | ⟨h, -⟩
        · exact h
        · rw [h] at hh; exact hh
      unfold MemOk
      simp only [upd_blk, if_true, if_neg (hmd hh')]; exact hup hh'
  · simp only [upd_blk, if_true, hl] at hl'; cases hl'
  · simp only [upd_blk, if_true, hl, and_self]

/-- an empty owner object `n` takes a share of what `e` owns -/
theorem shareTail_inv {σ : State} {e n : Nat} (I : Inv σ) (E : Owner σ e) (N : Owner σ n)
    (hn0 : (σ.obj n).ptr = 0) :
    ∃ σ', shareTail e n σ = .ok () σ' ∧ Inv σ' ∧ Same σ σ' ∧
      (∀ x, σ'.obj x = if x = n then { σ.obj n with ptr := (σ.obj e).ptr } else σ.obj x) := by
  have hse : (σ.obj e).self = e := E.stamp
  have hsn : (σ.obj n).self = n := N.stamp
  have hobj := obj_ptr (σ.obj e).ptr hsn
  by_cases hp : (σ.obj e).ptr = 0
  · refine ⟨gSet n (σ.obj e).ptr σ, ?_, I.setObj _ (Or.inr (Or.inl ⟨hsn.symm, hp.trans hn0.symm, rfl, rfl⟩)),
      ⟨rfl, rfl, rfl⟩, hobj⟩
    unfold shareTail
    rw [gCopy_gGet hse, if_neg (fun h => h hp)]
  · have O := owner_facts I E hp
    have hl := O.live
    refine ⟨_, ?_, I.addRef N.lt hsn hn0 hl O.isData (Or.inl ⟨rfl, N.kind, O.hard_ne⟩), ⟨rfl, rfl, rfl⟩, hobj⟩
    unfold shareTail
    rw [gCopy_gGet hse, if_pos hp, gSet_blk, if_pos hl]
    refine congrArg (Res.ok ()) (State.ext rfl rfl (fun _ => rfl) (fun b => ?_) rfl rfl rfl)
    simp only [setBlk_blk, gSet_blk, upd_blk, if_true, ite_shadow]

theorem sShare_inv {σ : State} {e n : Nat} (I : Inv σ) (E : Owner σ e) (N : Owner σ n) :
    ∃ σ', sShare e n σ = .ok () σ' ∧ Inv σ' ∧ Same σ σ' ∧
      (∀ x, σ'.obj x = if x = n then { σ.obj n with ptr := if e = n then 0 else (σ.obj e).ptr } else σ.obj x) := by
  obtain ⟨σ1, h1, I1, S1, ho1⟩ := sReset_inv I N
  have hse : (σ.obj e).self = e := E.stamp
  have hsn : (σ.obj n).self = n := N.stamp
  have hn1 : (σ1.obj n).self = n ∧ (σ1.obj n).ptr = 0 := by rw [ho1]; simp [hsn]
  have he1 : (σ1.obj e).self = e := by rw [ho1]; by_cases h : e = n <;> simp [h, hse, hsn]
  obtain ⟨σ2, h2, I2, S2, ho2⟩ := shareTail_inv I1 (E.to S1 he1) (N.to S1 hn1.1) hn1.2
  refine ⟨σ2, by rw [sShare_eq, h1, bind_ok, h2], I2, S1.trans S2, ?_⟩
  intro x
  rw [ho2, ho1, ho1, ho1]
  by_cases hx : x = n <;> by_cases hen : e = n <;> simp [hx, hen]

/-- an empty weak object `w` becomes a reference to what `s` owns -/
theorem fromTail_inv {σ : State} {w s : Nat} (I : Inv σ) (Wk : Proper σ (· = .weak) w) (Sh : Owner σ s)
    (hw0 : (σ.obj w).ptr = 0) :
    ∃ σ', fromTail w s σ = .ok () σ' ∧ Inv σ' ∧ Same σ σ' ∧
      (∀ x, σ'.obj x = if x = w then { σ.obj w with ptr := (σ.obj s).ptr } else σ.obj x) := by
  have hsw : (σ.obj w).self = w := Wk.stamp
  have hss : (σ.obj s).self = s := Sh.stamp
  have hobj := obj_ptr (σ.obj s).ptr hsw
  by_cases hp : (σ.obj s).ptr = 0
  · refine ⟨gSet w (σ.obj s).ptr σ, ?_, I.setObj _ (Or.inr (Or.inl ⟨hsw.symm, hp.trans hw0.symm, rfl, rfl⟩)),
      ⟨rfl, rfl, rfl⟩, hobj⟩
    unfold fromTail
    rw [gCopy_gGet hss, if_neg (fun h => h hp)]
  · have O := owner_facts I Sh hp
    have hl := O.live
    refine ⟨_, ?_, I.addRef (dh := 0) Wk.lt hsw hw0 hl O.isData (Or.inr ⟨rfl, Wk.kind⟩), ⟨rfl, rfl, rfl⟩, hobj⟩
    unfold fromTail
    rw [gCopy_gGet hss, if_pos hp, gSet_blk, if_pos hl]
    refine congrArg (Res.ok ()) (State.ext rfl rfl (fun _ => rfl) (fun b => ?_) rfl rfl rfl)
    simp only [setBlk_blk, gSet_blk, upd_blk]
    rfl

theorem wFrom_inv {σ : State} {w s : Nat} (I : Inv σ) (Wk : Proper σ (· = .weak) w) (Sh : Owner σ s) :
    ∃ σ', wFrom w s σ = .ok () σ' ∧ Inv σ' ∧ Same σ σ' ∧
      (∀ x, σ'.obj x = if x = w then { σ.obj w with ptr := (σ.obj s).ptr } else σ.obj x) := by
  obtain ⟨σ1, h1, I1, S1, ho1⟩ := wReset_inv I Wk
  have hsw : (σ.obj w).self = w := Wk.stamp
  have hws := Wk.weak_ne Sh
  have hw1 : (σ1.obj w).self = w ∧ (σ1.obj w).ptr = 0 := by rw [ho1]; simp [hsw]
  have hs1 : σ1.obj s = σ.obj s := by rw [ho1]; simp [Ne.symm hws]
  obtain ⟨σ2, h2, I2, S2, ho2⟩ := fromTail_inv I1 (Wk.to S1 hw1.1)
    (Sh.to S1 (by unfold stamped; rw [hs1]; exact Sh.stamp)) hw1.2
  refine ⟨σ2, by rw [wFrom_eq, h1, bind_ok, h2], I2, S1.trans S2, ?_⟩
  intro x
  rw [ho2, hs1, ho1, ho1]
  by_cases hx : x = w <;> simp [hx]

/-- an empty owner object `s` tries to become an owner of what the weak pointer `w` refers to -/
theorem lockTail_inv {σ : State} {w s : Nat} (I : Inv σ) (Wk : Proper σ (· = .weak) w) (Sh : Owner σ s)
    (hs0 : (σ.obj s).ptr = 0) :
    ∃ σ', lockTail w s σ = .ok () σ' ∧ Inv σ' ∧ Same σ σ' ∧
      (∀ x, σ'.obj x = if x = s then
          { σ.obj s with ptr := if 0 < nH σ (σ.obj w).ptr then (σ.obj w).ptr else 0 } else σ.obj x) := by
  obtain ⟨hw, hsw, hkw⟩ := Wk
  obtain ⟨hs, hss, hks⟩ := Sh
  unfold stamped at hsw hss
  by_cases hp : (σ.obj w).ptr = 0
  · refine ⟨gSet s (σ.obj w).ptr σ, ?_, I.setObj _ (Or.inr (Or.inl ⟨hss.symm, hp.trans hs0.symm, rfl, rfl⟩)),
      ⟨rfl, rfl, rfl⟩, ?_⟩
    · unfold lockTail
      rw [gCopy_gGet hsw, if_neg (fun h => h hp)]
    · intro x; rw [obj_ptr _ hss]; simp [hp]
  · obtain ⟨hl, hd⟩ := I.ref_ok w _ hw (Or.inr ⟨hsw, hkw, rfl⟩) hp
    have hcnt := I.data_cnt _ hl hd
    by_cases hh : (σ.blk (σ.obj w).ptr).hard = 0
    · -- no owner is left: the lock fails, the count goes up and down again
      refine ⟨gSet s 0 σ, ?_, I.setObj _ (Or.inr (Or.inl ⟨hss.symm, hs0.symm, rfl, rfl⟩)), ⟨rfl, rfl, rfl⟩, ?_⟩
      · unfold lockTail
        rw [gCopy_gGet hsw, if_pos hp, gSet_blk, if_pos hl]
        simp only [hh, Nat.lt_irrefl, if_false, setBlk_blk, if_true]
        refine congrArg (Res.ok ()) (State.ext rfl rfl (fun x => ?_) (fun b => ?_) rfl rfl rfl)
        · simp only [gSet_obj, setBlk_obj]; split <;> rfl
        · simp only [gSet_blk, setBlk_blk, ite_shadow]
          split
          · subst_vars; exact Blk.set_hard hh.symm
          · rfl
      · intro x; rw [obj_ptr _ hss]
        have : ¬ 0 < nH σ (σ.obj w).ptr := by omega
        simp [this]
    · refine ⟨_, ?_, I.addRef hs hss hs0 hl hd (Or.inl ⟨rfl, hks, hh⟩), ⟨rfl, rfl, rfl⟩, ?_⟩
      · unfold lockTail
        rw [gCopy_gGet hsw, if_pos hp, gSet_blk, if_pos hl]
        have h0 : (σ.blk (σ.obj w).ptr).hard > 0 := by omega
        simp only [h0, if_true]
        refine congrArg (Res.ok ()) (State.ext rfl rfl (fun _ => rfl) (fun b => ?_) rfl rfl rfl)
        simp only [setBlk_blk, gSet_blk, upd_blk, if_true, ite_shadow]
      · intro x; rw [upd_obj, obj_ptr _ hss]
        have : 0 < nH σ (σ.obj w).ptr := by omega
        simp [this]

theorem wLock_inv {σ : State} {w s : Nat} (I : Inv σ) (Wk : Proper σ (· = .weak) w) (Sh : Owner σ s) :
    ∃ σ' σ1, sReset s σ = .ok () σ1 ∧ wLock w s σ = .ok () σ' ∧ Inv σ' ∧ Same σ σ' ∧
      (∀ x, σ'.obj x = if x = s then
          { σ.obj s with ptr := if 0 < nH σ1 (σ.obj w).ptr then (σ.obj w).ptr else 0 } else σ.obj x) := by
  obtain ⟨σ1, h1, I1, S1, ho1⟩ := sReset_inv I Sh
  have hss : (σ.obj s).self = s := Sh.stamp
  have hws := Wk.weak_ne Sh
  have hs1 : (σ1.obj s).self = s ∧ (σ1.obj s).ptr = 0 := by rw [ho1]; simp [hss]
  have hw1 : σ1.obj w = σ.obj w := by rw [ho1]; simp [hws]
  obtain ⟨σ2, h2, I2, S2, ho2⟩ := lockTail_inv I1 (Wk.to S1 (by unfold stamped; rw [hw1]; exact Wk.stamp))
    (Sh.to S1 hs1.1) hs1.2
  refine ⟨σ2, σ1, h1, by rw [wLock_eq, h1, bind_ok, h2], I2,
    S1.trans S2, ?_⟩
  intro x
  rw [ho2, hw1, ho1, ho1]
  by_cases hx : x = s <;> simp [hx]

theorem gSwap_inv {σ : State} {a b : Nat} {k : Kind} (I : Inv σ) (A : Proper σ (· = k) a) (B : Proper σ (· = k) b)
    (hk : k = .shared ∨ k = .weak ∨ k = .guarded) :
    ∃ σ', gSwap a b σ = .ok () σ' ∧ Inv σ' ∧ Same σ σ' := by
  have hsa : (σ.obj a).self = a := A.stamp
  have hsb : (σ.obj b).self = b := B.stamp
  have hka : σ.kind a = k := A.kind
  have hkb : σ.kind b = k := B.kind
  have hu : k ≠ .unique := by rcases hk with rfl | rfl | rfl <;> decide
  refine ⟨_, gSwap_eval hsa hsb,
    I.swapClaims (o := (gSet b (σ.obj a).ptr (gSet a (σ.obj b).ptr σ)).obj) A.lt B.lt (hka.trans hkb.symm) fun x => ?_,
    ⟨rfl, rfl, rfl⟩⟩
  by_cases h1 : x = b
  · subst h1; simp [swapIdx, hsa, hkb, hu]
  · by_cases h2 : x = a
    · subst h2; simp [swapIdx, h1, hsb, hka, hu]
    · simp [swapIdx, h1, h2]

end Cstl.Mem
