import Cstl.Mem.InvSharedReset
namespace Cstl.Mem

/-- the part of `cstl_shared_ptr_alloc` after the reset of the target -/
def allocTail (a sz clr : Nat) (ansD ansM : Bool) (σ : State) : Res Unit :=
  if sz > 0 then
    let r := malloc DSZ ansD { isData := true } σ
    let d := r.1
    if d ≠ 0 then
      let σ := r.2
      let σ := σ.setBlk d { σ.blk d with hard := 1, soft := 1 }
      let σ := upInit d σ
      upAlloc d sz clr ansM σ >>- fun _ σ =>
      upGet d σ >>- fun m σ =>
      if m ≠ 0 then .ok () (gSet a d σ) else free d σ
    else .ok () r.2
  else .ok () σ

theorem sAlloc_eq (a sz clr : Nat) (ad am : Bool) (σ : State) :
    sAlloc a sz clr ad am σ = (sReset a σ >>- fun _ σ => allocTail a sz clr ad am σ) := rfl

theorem nobody_refers_fresh {σ : State} (I : Inv σ) {d : Nat} (hd : σ.next ≤ d) :
    nH σ d = 0 ∧ nW σ d = 0 := by
  have hf := I.fresh d hd
  constructor
  · apply cnt_zero.mpr
    intro x hx h
    have hd0 : d ≠ 0 := by have := I.next_pos; omega
    have := (I.ref_ok x d hx (Or.inl h) hd0).1
    rw [hf] at this; simp at this
  · apply cnt_zero.mpr
    intro x hx h
    have hd0 : d ≠ 0 := by have := I.next_pos; omega
    have := (I.ref_ok x d hx (Or.inr h) hd0).1
    rw [hf] at this; simp at this

theorem allocTail_failD {σ : State} {a sz clr : Nat} {ansM : Bool} (I : Inv σ) (hsz : 0 < sz) :
    ∃ σ', allocTail a sz clr false ansM σ = .ok () σ' ∧ Inv σ' ∧ Same σ σ' ∧ σ'.obj = σ.obj := by
  refine ⟨σ.emit (.allocFail DSZ), ?_, I.allocFail DSZ, ⟨rfl, rfl, rfl⟩, rfl⟩
  simp [allocTail, hsz, malloc_fail]

theorem DSZ_le : DSZ ≤ LIMIT := by decide

theorem allocTail_eval {σ σ1 : State} {a sz clr d : Nat} {ansD ansM : Bool} (hsz : 0 < sz)
    (hm : malloc DSZ ansD { isData := true } σ = (d, σ1)) (hd : d ≠ 0) :
    allocTail a sz clr ansD ansM σ =
      (upAlloc d sz clr ansM (upInit d (σ1.setBlk d { σ1.blk d with hard := 1, soft := 1 })) >>- fun _ σ =>
       upGet d σ >>- fun m σ => if m ≠ 0 then .ok () (gSet a d σ) else free d σ) := by
  simp only [allocTail, hsz, if_true, hm, ne_eq, hd, not_false_eq_true]

theorem allocTail_failM {σ : State} {a sz clr : Nat} {ansM : Bool} (I : Inv σ) (hsz : 0 < sz)
    (hM : ansM = false ∨ LIMIT < sz) :
    ∃ σ', allocTail a sz clr true ansM σ = .ok () σ' ∧ Inv σ' ∧ Same σ σ' ∧ σ'.obj = σ.obj := by
  have hnp := I.next_pos
  have hne : σ.next ≠ 0 := by omega
  refine ⟨σ.upd σ.obj (fun b =>
      if b = σ.next then
        { live := false, size := DSZ, isData := true, hard := 1, soft := 1, upOk := true, up := 0, upClr := 0 }
      else σ.blk b)
      (σ.log ++ [Ev.alloc σ.next DSZ] ++ [Ev.allocFail sz] ++ [Ev.free σ.next]) (σ.next + 1),
      ?_, ?_, ⟨rfl, rfl, rfl⟩, rfl⟩
  · rw [allocTail_eval hsz (malloc_ok _ rfl DSZ_le) hne]
    simp only [setBlk_upd, upd_blk, ↓reduceIte, upInit_upd, upd_obj, upd_log, upd_next, upd_upd, ite_shadow]
    rw [upAlloc_eval (upReset_fresh (by simp only [upd_blk, ↓reduceIte, and_self])) hsz (malloc_fail _ hM)]
    simp only [ne_eq, not_true_eq_false, upInit_upd, upd_blk, ↓reduceIte, upd_obj, upd_log, upd_next,
      upd_upd, ite_shadow, bind_ok, emit_upd]
    rw [upGet_eval (by simp only [upd_blk, ↓reduceIte]) (by simp only [upd_blk, ↓reduceIte])]
    simp only [bind_ok, upd_blk, ↓reduceIte, not_true_eq_false]
    rw [free_eval hne (by simp only [upd_blk, ↓reduceIte])]
    simp only [setBlk_upd, emit_upd, upd_blk, ↓reduceIte, ite_shadow]
  · refine Inv.alloc_step I ⟨rfl, rfl, rfl⟩ (Nat.le_succ _)
      (fun b hb => by simp only [upd_blk, upd_next] at hb ⊢; rw [if_neg (by omega)]) (fun _ _ => rfl)
      (fun _ _ _ _ => ⟨Iff.rfl, Iff.rfl⟩) (fun b h1 h2 => ?_) (fun L => ?_) (fun b hb => ?_)
      (fun x c hx h1 h2 hr => ?_) (fun d h1 h2 hl _ => ?_) (fun m h1 h2 hl _ => ?_)
    · obtain rfl : b = σ.next := by simp only [upd_next] at h2; omega
      simp only [upd_blk, if_true, upd_next]
      exact ⟨Nat.succ_pos _, fun _ h => absurd rfl h⟩
    · exact .free _ (.allocFail _ (.alloc _ _ L)) (Or.inl (by simp only [upd_blk, if_true]))
    · simp only [upd_log, upd_next, List.mem_append, List.mem_singleton, Ev.free.injEq, reduceCtorEq, or_false] at hb ⊢
      rcases hb with hb | hb
      · exact Or.inl hb
      · exact Or.inr (by omega)
    · have := (I.ref_ok x c hx hr (by omega)).1
      rw [I.fresh c h1] at this; cases this
    · obtain rfl : d = σ.next := by simp only [upd_next] at h2; omega
      simp only [upd_blk, if_true] at hl; cases hl
    · obtain rfl : m = σ.next := by simp only [upd_next] at h2; omega
      simp only [upd_blk, if_true] at hl; cases hl

/-- the state after a successful `cstl_shared_ptr_alloc` on an empty object -/
def allocOkState (σ : State) (a sz clr : Nat) : State :=
  σ.upd (gSet a σ.next σ).obj (fun b =>
      if b = σ.next then
        { live := true, size := DSZ, isData := true, hard := 1, soft := 1, upOk := true,
          up := σ.next + 1, upClr := clr }
      else if b = σ.next + 1 then { live := true, size := sz, ownerD := σ.next, clrG := clr }
      else σ.blk b)
      (σ.log ++ [Ev.alloc σ.next DSZ] ++ [Ev.alloc (σ.next + 1) sz]) (σ.next + 1 + 1)

theorem allocTail_ok_run {σ : State} {a sz clr : Nat} (hnp : 0 < σ.next) (hsz : 0 < sz) (hlim : sz ≤ LIMIT) :
    allocTail a sz clr true true σ = .ok () (allocOkState σ a sz clr) := by
  have hne : σ.next ≠ 0 := by omega
  have hne1 : σ.next ≠ σ.next + 1 := by omega
  rw [allocTail_eval hsz (malloc_ok _ rfl DSZ_le) hne]
  simp only [setBlk_upd, upd_blk, ↓reduceIte, upInit_upd, upd_obj, upd_log, upd_next, upd_upd, ite_shadow]
  rw [upAlloc_eval (upReset_fresh (by simp only [upd_blk, ↓reduceIte, and_self])) hsz (malloc_ok _ rfl hlim)]
  simp only [setBlk_upd, upd_blk, ↓reduceIte, upInit_upd, upd_obj, upd_log, upd_next, upd_upd, ite_shadow, bind_ok,
    ne_eq, Nat.succ_ne_zero, not_false_eq_true, hne1]
  rw [upGet_eval (by simp only [upd_blk, ↓reduceIte]) (by simp only [upd_blk, ↓reduceIte])]
  simp only [bind_ok, upd_blk, ↓reduceIte, Nat.succ_ne_zero, not_false_eq_true, gSet_upd]
  -- the bookkeeping block was written before and after the managed block was allocated
  refine congrArg _ (State.ext rfl rfl (fun _ => rfl) (fun b => ?_) rfl rfl rfl)
  simp only [upd_blk, allocOkState]
  by_cases h1 : b = σ.next
  · simp only [h1, if_true]
  · simp only [h1, if_false]

/-- both blocks were allocated: `a` becomes the sole owner of the new allocation -/
theorem allocTail_ok {σ : State} {a sz clr : Nat} (I : Inv σ) (A : Owner σ a) (hp : (σ.obj a).ptr = 0)
    (hsz : 0 < sz) (hlim : sz ≤ LIMIT) :
    ∃ σ', allocTail a sz clr true true σ = .ok () σ' ∧ Inv σ' ∧ Same σ σ' ∧
      (∀ x, σ'.obj x = if x = a then { σ.obj a with ptr := σ.next } else σ.obj x) ∧
      σ'.blk σ.next = { live := true, size := DSZ, isData := true, hard := 1, soft := 1, upOk := true,
                        up := σ.next + 1, upClr := clr } ∧
      σ'.blk (σ.next + 1) = { live := true, size := sz, ownerD := σ.next, clrG := clr } := by
  obtain ⟨ha, hs, hk⟩ := A
  unfold stamped at hs
  have hnp := I.next_pos
  have hd : (allocOkState σ a sz clr).blk σ.next =
      { live := true, size := DSZ, isData := true, hard := 1, soft := 1, upOk := true, up := σ.next + 1, upClr := clr } := by
    simp only [allocOkState, upd_blk, if_true]
  have hm : (allocOkState σ a sz clr).blk (σ.next + 1) =
      { live := true, size := sz, ownerD := σ.next, clrG := clr } := by
    simp only [allocOkState, upd_blk, Nat.succ_ne_self, if_false, if_true]
  have hold : ∀ b, b < σ.next ∨ σ.next + 2 ≤ b → (allocOkState σ a sz clr).blk b = σ.blk b := fun b hb => by
    simp only [allocOkState, upd_blk]; rw [if_neg (by omega), if_neg (by omega)]
  have hox : ∀ x, x ≠ a → (allocOkState σ a sz clr).obj x = σ.obj x := fun x hx => by
    simp only [allocOkState, upd_obj, gSet_obj, hx, if_false]
  have hoa : ((allocOkState σ a sz clr).obj a).ptr = σ.next := by
    simp only [allocOkState, upd_obj, gSet_obj, if_true]
  have htwo : ∀ b, σ.next ≤ b → b < (allocOkState σ a sz clr).next → b = σ.next ∨ b = σ.next + 1 := fun b h1 h2 => by
    simp only [allocOkState, upd_next] at h2; omega
  refine ⟨allocOkState σ a sz clr, allocTail_ok_run hnp hsz hlim, ?_, ⟨rfl, rfl, rfl⟩, obj_ptr σ.next hs, hd, hm⟩
  refine Inv.alloc_step I ⟨rfl, rfl, rfl⟩ (Nat.le_add_right _ 2) hold
    (fun x hx => hox x (fun e => by rcases hk with h | h <;> rw [e, h] at hx <;> cases hx))
    (fun x c hc hco => ?_) (fun b h1 h2 => ?_) (fun L => .alloc _ _ (.alloc _ _ L))
    (fun b hb => Or.inl (by simpa [allocOkState] using hb))
    (fun x c hx h1 h2 hr => ?_) (fun d h1 h2 _ hdd => ?_) (fun m h1 h2 _ hmd => ?_)
  · by_cases hxa : x = a
    · subst hxa
      have hco' : c ≠ σ.next := by simp only [allocOkState, upd_next] at hco; omega
      -- the object pointed to NULL before and points to the new block after: neither is `c`
      have hnew := fun e => Ne.symm hco' (hoa.symm.trans e)
      have hold := fun e => Ne.symm hc (hp.symm.trans e)
      exact ⟨⟨fun h => (hnew h.2.2).elim, fun h => (hold h.2.2).elim⟩,
        ⟨fun h => (hnew h.2.2).elim, fun h => (hold h.2.2).elim⟩⟩
    · unfold HRef WRef; rw [hox x hxa]; exact ⟨Iff.rfl, Iff.rfl⟩
  · rcases htwo b h1 h2 with rfl | rfl
    · rw [hd]; exact ⟨Nat.lt_of_lt_of_le hnp (Nat.le_add_right _ 2), fun _ h => absurd rfl h⟩
    · rw [hm]
      refine ⟨by show σ.next < σ.next + 2; omega, fun _ _ b' hb' he => ?_⟩
      simp only at he
      by_cases h : b' < σ.next ∨ σ.next + 2 ≤ b'
      · rw [hold b' h] at he
        have := I.owner_lt b'; omega
      · rcases (show b' = σ.next ∨ b' = σ.next + 1 by omega) with rfl | rfl
        · rw [hd] at hb'; cases hb'
        · rfl
  · rcases htwo c h1 h2 with rfl | rfl
    · rw [hd]; exact ⟨rfl, rfl⟩
    · exfalso
      by_cases hxa : x = a
      · subst hxa
        have := hoa.symm.trans (ref_ptr hr); omega
      · unfold HRef WRef at hr; rw [hox x hxa] at hr
        have := (I.ref_ok x _ hx hr (Nat.succ_ne_zero _)).1
        rw [I.fresh _ (Nat.le_succ _)] at this; cases this
  · rcases htwo d h1 h2 with rfl | rfl
    · -- the new bookkeeping block: `a` is its one owner
      have hfr := nobody_refers_fresh I (Nat.le_refl σ.next)
      obtain ⟨hH, hW⟩ := refs_gSet_owner σ.next σ.next ha hs hk
      rw [hp, if_neg (Nat.ne_of_lt hnp), if_pos rfl, hfr.1, Nat.add_zero, Nat.zero_add] at hH
      rw [hfr.2] at hW
      have e1 : nH (allocOkState σ a sz clr) σ.next = nH (gSet a σ.next σ) σ.next := rfl
      have e2 : nW (allocOkState σ a sz clr) σ.next = nW (gSet a σ.next σ) σ.next := rfl
      refine ⟨?_, ?_, ?_, fun _ => ?_⟩
      · rw [hd, e1, e2, hH, hW]; exact ⟨rfl, rfl⟩
      · rw [hd]; exact ⟨Nat.one_pos, rfl⟩
      · rw [hd]; exact fun h => absurd h Nat.one_ne_zero
      · unfold MemOk
        rw [hd]
        simp only [hm]
        exact ⟨Nat.succ_ne_zero _, trivial, trivial, trivial, trivial, trivial⟩
    · rw [hm] at hdd; cases hdd
  · rcases htwo m h1 h2 with rfl | rfl
    · rw [hd] at hmd; cases hmd
    · rw [hm]; simp only [hd]
      exact ⟨Nat.ne_of_gt hnp, trivial, trivial, trivial⟩

/-- `cstl_shared_ptr_alloc`: afterwards the object is empty or the sole owner of a fresh allocation -/
theorem sAlloc_inv {σ : State} {a sz clr : Nat} {ad am : Bool} (I : Inv σ) (A : Owner σ a) :
    ∃ σ', sAlloc a sz clr ad am σ = .ok () σ' ∧ Inv σ' ∧ Same σ σ' ∧
      (∀ x, x ≠ a → σ'.obj x = σ.obj x) ∧
      ((σ'.obj a = { σ.obj a with ptr := 0 } ∧ (sz = 0 ∨ ad = false ∨ am = false ∨ LIMIT < sz)) ∨
       (∃ d, σ'.obj a = { σ.obj a with ptr := d } ∧ d ≠ 0 ∧ σ.next ≤ d ∧ 0 < sz ∧ sz ≤ LIMIT ∧ ad = true ∧ am = true ∧
          σ'.blk d = { live := true, size := DSZ, isData := true, hard := 1, soft := 1, upOk := true,
                        up := d + 1, upClr := clr } ∧
          σ'.blk (d + 1) = { live := true, size := sz, ownerD := d, clrG := clr })) := by
  obtain ⟨σ1, h1, I1, S1, ho1⟩ := sReset_inv I A
  have hs : (σ.obj a).self = a := A.stamp
  have ha1 : (σ1.obj a).self = a ∧ (σ1.obj a).ptr = 0 := by rw [ho1]; simp [hs]
  have hoa : σ1.obj a = { σ.obj a with ptr := 0 } := by rw [ho1]; simp
  have hox : ∀ x, x ≠ a → σ1.obj x = σ.obj x := fun x hx => by rw [ho1]; simp [hx]
  rw [sAlloc_eq, h1, bind_ok]
  by_cases hsz : sz = 0
  · refine ⟨σ1, by simp [allocTail, hsz], I1, S1, hox, Or.inl ⟨hoa, Or.inl hsz⟩⟩
  · have hsz' : 0 < sz := by omega
    cases ad with
    | false =>
      obtain ⟨σ2, h2, I2, S2, ho2⟩ := allocTail_failD (a := a) (clr := clr) (ansM := am) I1 hsz'
      exact ⟨σ2, h2, I2, S1.trans S2,
        fun x hx => by rw [ho2]; exact hox x hx, Or.inl ⟨by rw [ho2]; exact hoa, Or.inr (Or.inl rfl)⟩⟩
    | true =>
      by_cases hM : am = false ∨ LIMIT < sz
      · obtain ⟨σ2, h2, I2, S2, ho2⟩ := allocTail_failM (a := a) (clr := clr) I1 hsz' hM
        refine ⟨σ2, h2, I2, S1.trans S2,
          fun x hx => by rw [ho2]; exact hox x hx, Or.inl ⟨by rw [ho2]; exact hoa, ?_⟩⟩
        rcases hM with h | h
        · exact Or.inr (Or.inr (Or.inl h))
        · exact Or.inr (Or.inr (Or.inr h))
      · have ham : am = true := by cases am <;> simp_all
        have hlim : sz ≤ LIMIT := by omega
        subst ham
        obtain ⟨σ2, h2, I2, S2, ho2, hbd, hbm⟩ :=
          allocTail_ok (clr := clr) I1 (A.to S1 ha1.1) ha1.2 hsz' hlim
        refine ⟨σ2, h2, I2, S1.trans S2,
          fun x hx => by rw [ho2]; simp [hx, hox x hx], Or.inr ⟨σ1.next, ?_, ?_, ?_, hsz', hlim, rfl, rfl, hbd, hbm⟩⟩
        · rw [ho2, hoa]; simp
        · have := I1.next_pos; omega
        · exact (Ext.of_steps (steps_sReset (A := fun _ => True) (D := false) a trivial (Steps.refl σ)) h1).next

end Cstl.Mem
