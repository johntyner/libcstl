import Cstl.Mem.Inv
namespace Cstl.Mem

/-- a reference to a bookkeeping block goes away (`dh = 1`: an owner that is not the last one, `dh = 0`: a weak
reference) and other references are left: `h`, `s` are the counts of the block, `H`, `W` (`H'`, `W'`) the numbers
of owners and weak references before (after) -/
theorem counts_after_drop {h s H W H' W' dh : Nat} (hc : h = H ∧ s = H + W)
    (hd : H' + dh = H ∧ W' + 1 = W + dh ∧ (dh = 1 → h ≠ 1) ∧ dh ≤ 1) (h1 : s ≠ 1) :
    (h - dh = H' ∧ s - 1 = H' + W') ∧ 0 < s - 1 ∧ (h - dh = 0 → h = 0) := by omega

/-- the same when it was the last reference -/
theorem counts_last_ref {h s H W H' W' dh : Nat} (hc : h = H ∧ s = H + W)
    (hd : H' + dh = H ∧ W' + 1 = W + dh ∧ (dh = 1 → h ≠ 1) ∧ dh ≤ 1) (h1 : s = 1) :
    H' = 0 ∧ W' = 0 ∧ h = 0 := by omega

/-- The stamped object `a` stops referring to the live bookkeeping block `d`: its counts go down by `dh` (1 for an
owner that is not the last one, 0 for a weak reference) and 1, and the block goes with the last reference. -/
theorem Inv.dropRef {σ : State} {a d dh : Nat} (I : Inv σ) (ha : a < σ.n) (hs : (σ.obj a).self = a)
    (hpd : (σ.obj a).ptr = d) (hp : d ≠ 0)
    (hk : (dh = 1 ∧ (σ.kind a = .shared ∨ σ.kind a = .array) ∧ (σ.blk d).hard ≠ 1) ∨ (dh = 0 ∧ σ.kind a = .weak)) :
    Inv (σ.upd (gSet a 0 σ).obj
      (fun x => if x = d then
          { σ.blk d with hard := (σ.blk d).hard - dh, soft := (σ.blk d).soft - 1, live := decide ((σ.blk d).soft ≠ 1) }
        else σ.blk x)
      (σ.log ++ if (σ.blk d).soft = 1 then [.free d] else []) σ.next) := by
  subst hpd
  have href : HRef σ.obj σ.kind (σ.obj a).ptr a ∨ WRef σ.obj σ.kind (σ.obj a).ptr a := by
    rcases hk with ⟨-, h, -⟩ | ⟨-, h⟩
    · exact Or.inl ⟨hs, h, rfl⟩
    · exact Or.inr ⟨hs, h, rfl⟩
  obtain ⟨hl, hd⟩ := I.ref_ok a _ ha href hp
  obtain ⟨hcnt, hpos, hup0, hup⟩ := I.dataOk hl hd
  have hka : σ.kind a ≠ .unique := by rcases hk with ⟨-, h | h, -⟩ | ⟨-, h⟩ <;> rw [h] <;> decide
  have hcnt' : nH (gSet a 0 σ) (σ.obj a).ptr + dh = nH σ (σ.obj a).ptr ∧
      nW (gSet a 0 σ) (σ.obj a).ptr + 1 = nW σ (σ.obj a).ptr + dh ∧ (dh = 1 → (σ.blk (σ.obj a).ptr).hard ≠ 1) ∧
      dh ≤ 1 := by
    rcases hk with ⟨h1, h2, h3⟩ | ⟨h1, h2⟩
    · have := refs_gSet_owner 0 (σ.obj a).ptr ha hs h2
      rw [if_pos rfl, if_neg (Ne.symm hp)] at this; omega
    · have := refs_gSet_weak 0 (σ.obj a).ptr ha hs h2
      rw [if_pos rfl, if_neg (Ne.symm hp)] at this; omega
  have hmd : (σ.blk (σ.obj a).ptr).hard ≠ 0 → (σ.blk (σ.obj a).ptr).up ≠ (σ.obj a).ptr := fun hh => (hup hh).ne hd
  refine Inv.retarget I ⟨rfl, rfl, rfl⟩ rfl (a := a) (d := (σ.obj a).ptr) (m := (σ.obj a).ptr)
    (hka := hka)
    (hobj := fun x hx => by simp only [upd_obj, gSet_obj, hx, if_false])
    (hao := fun c h => Or.inl (ref_ptr h).symm)
    (han := fun c h => Or.inr ((ref_ptr h).symm.trans (by simp)))
    (hblk := fun b hb _ => by simp only [upd_blk, hb, if_false])
    (hdl := hl)
    (hdd := hd)
    (hdg := by simp only [upd_blk, if_true]; exact ⟨rfl, rfl, rfl, rfl, rfl⟩)
    (hd := fun hl' => ?_)
    (hdr := fun hl' => ?_)
    (hdu := fun _ hh => ?_)
    (hm := fun h => absurd rfl h)
    (hlog := fun L => L.freeIf (by simp only [upd_blk, if_true]; exact hd))
    (hlt := fun b hb => ?_)
  · obtain ⟨c1, c2, c3⟩ := counts_after_drop hcnt hcnt' (by simpa using hl')
    refine ⟨?_, ?_, ?_, fun hh => ?_⟩
    all_goals simp only [upd_blk, if_true, nH_upd_gSet, nW_upd_gSet] at *
    · exact c1
    · exact ⟨c2, hpos.2⟩
    · exact fun h => hup0 (c3 h)
    · have hh' : (σ.blk (σ.obj a).ptr).hard ≠ 0 := fun e => hh (by rw [e]; exact Nat.zero_sub _)
      unfold MemOk
      simp only [upd_blk, if_true, if_neg (hmd hh')]; exact hup hh'
  · have h0 := counts_last_ref hcnt hcnt' (by simpa using hl')
    exact ⟨h0.1, h0.2.1⟩
  · have h1 : (σ.blk (σ.obj a).ptr).soft ≠ 1 := fun e => hh (counts_last_ref hcnt hcnt' e).2.2
    simp only [upd_blk, if_true, h1, ne_eq, not_false_eq_true, decide_true, and_self]
  · simp only [upd_log, List.mem_append] at hb
    rcases hb with hb | hb
    · exact Or.inl hb
    · split at hb
      · rw [List.mem_singleton, Ev.free.injEq] at hb; exact Or.inr (hb ▸ hl)
      · cases hb


theorem wReset_inv {σ : State} {a : Nat} (I : Inv σ) (A : Proper σ (· = .weak) a) :
    ∃ σ', wReset a σ = .ok () σ' ∧ Inv σ' ∧ Same σ σ' ∧
      (∀ x, σ'.obj x = if x = a then { σ.obj a with ptr := 0 } else σ.obj x) := by
  obtain ⟨ha, hs, hk⟩ := A
  unfold stamped at hs
  by_cases hp : (σ.obj a).ptr = 0
  · refine ⟨σ, wReset_null hs hp, I, ⟨rfl, rfl, rfl⟩, fun x => ?_⟩
    by_cases hx : x = a
    · subst hx; rw [if_pos rfl, Obj.set_ptr hp]
    · simp [hx]
  · obtain ⟨hl, -⟩ := I.ref_ok a _ ha (Or.inr ⟨hs, hk, rfl⟩) hp
    refine ⟨_, wReset_upd hs rfl hp hl, ?_, ⟨rfl, rfl, rfl⟩, obj_ptr 0 hs⟩
    show Inv (σ.upd (gSet a 0 σ).obj _ _ _)
    simpa only [Nat.sub_zero] using I.dropRef (dh := 0) ha hs rfl hp (Or.inr ⟨rfl, hk⟩)

/-- what the invariant says about the bookkeeping block `d` an owner refers to -/
structure OwnerFacts (σ : State) (d : Nat) : Prop where
  live : (σ.blk d).live = true
  isData : (σ.blk d).isData = true
  hard : (σ.blk d).hard = nH σ d
  soft : (σ.blk d).soft = nH σ d + nW σ d
  soft_pos : 0 < (σ.blk d).soft
  upOk : (σ.blk d).upOk = true
  hard_ne : (σ.blk d).hard ≠ 0
  mem : MemOk σ d (σ.blk d).up
  up_ne : (σ.blk d).up ≠ d
  up_lt : (σ.blk d).up < σ.next

theorem owner_facts {σ : State} {a : Nat} (I : Inv σ) (A : Owner σ a) (hp : (σ.obj a).ptr ≠ 0) :
    OwnerFacts σ (σ.obj a).ptr := by
  obtain ⟨ha, hs, hk⟩ := A
  have hh : HRef σ.obj σ.kind (σ.obj a).ptr a := ⟨hs, hk, rfl⟩
  obtain ⟨hl, hd⟩ := I.ref_ok a _ ha (Or.inl hh) hp
  have hcnt := I.data_cnt _ hl hd
  have hhard : (σ.blk (σ.obj a).ptr).hard ≠ 0 := by
    have : 0 < nH σ (σ.obj a).ptr := nH_pos.mpr ⟨a, ha, hh⟩
    omega
  have hm := I.data_up _ hl hd hhard
  have hpos := I.data_pos _ hl hd
  exact ⟨hl, hd, hcnt.1, hcnt.2, hpos.1, hpos.2, hhard, hm, hm.ne hd, I.live_lt hm.live⟩

theorem sGet_eval {σ : State} {a : Nat} (I : Inv σ) (A : Owner σ a) :
    sGet a σ = .ok (if (σ.obj a).ptr = 0 then 0 else (σ.blk (σ.obj a).ptr).up) σ := by
  rw [sGet, gGet_eval A.stamp, bind_ok]
  by_cases hp : (σ.obj a).ptr = 0
  · rw [if_neg (fun h => h hp), if_pos hp]
  · have O := owner_facts I A hp
    rw [if_pos hp, if_neg hp, upGet_eval O.live O.upOk]

theorem sUnique_eval {σ : State} {a : Nat} (I : Inv σ) (A : Owner σ a) :
    sUnique a σ = .ok (if (σ.obj a).ptr = 0 then true else (σ.blk (σ.obj a).ptr).soft == 1) σ := by
  rw [sUnique, gGet_eval A.stamp, bind_ok]
  by_cases hp : (σ.obj a).ptr = 0
  · rw [if_neg (fun h => h hp), if_pos hp]
  · rw [if_pos hp, if_neg hp, if_pos (owner_facts I A hp).live]

theorem sReset_inv {σ : State} {a : Nat} (I : Inv σ) (A : Owner σ a) :
    ∃ σ', sReset a σ = .ok () σ' ∧ Inv σ' ∧ Same σ σ' ∧
      (∀ x, σ'.obj x = if x = a then { σ.obj a with ptr := 0 } else σ.obj x) := by
  have ⟨ha, hs, hk⟩ := A
  unfold stamped at hs
  by_cases hp : (σ.obj a).ptr = 0
  · refine ⟨σ, by simp [sReset, gGet_eval hs, hp], I, ⟨rfl, rfl, rfl⟩, fun x => ?_⟩
    by_cases hx : x = a
    · subst hx; rw [if_pos rfl, Obj.set_ptr hp]
    · simp [hx]
  · have O := owner_facts I A hp
    -- for `omega`: the counts of the block
    have hhard := O.hard; have hsoft := O.soft; have hpos := O.soft_pos
    have hka : σ.kind a ≠ .unique := by rcases hk with h | h <;> rw [h] <;> decide
    obtain ⟨hH, hW⟩ := refs_gSet_owner 0 (σ.obj a).ptr ha hs hk
    rw [if_pos rfl, if_neg (Ne.symm hp)] at hH
    by_cases h1 : (σ.blk (σ.obj a).ptr).hard = 1
    · refine ⟨_, sReset_last hs rfl hp O.live h1 O.upOk rfl O.mem.ne0 O.mem.live O.up_ne, ?_, ⟨rfl, rfl, rfl⟩, obj_ptr 0 hs⟩
      refine Inv.retarget I ⟨rfl, rfl, rfl⟩ rfl (a := a) (d := (σ.obj a).ptr) (m := (σ.blk (σ.obj a).ptr).up)
        (hka := hka)
        (hobj := fun x hx => by simp only [upd_obj, gSet_obj, hx, if_false])
        (hao := fun c h => Or.inl (ref_ptr h).symm)
        (han := fun c h => Or.inr ((ref_ptr h).symm.trans (by simp)))
        (hblk := fun b hb hb' => by simp only [upd_blk, hb, hb', if_false])
        (hdl := O.live)
        (hdd := O.isData)
        (hdg := by simp only [upd_blk, if_true]; exact ⟨rfl, rfl, rfl, rfl, rfl⟩)
        (hd := fun hl' => ?_)
        (hdr := fun hl' => ?_)
        (hdu := fun h => absurd h O.up_ne)
        (hm := fun _ => ?_)
        (hlog := ?_)
        (hlt := ?_)
      · have h2 : (σ.blk (σ.obj a).ptr).soft ≠ 1 := by simpa using hl'
        refine ⟨?_, ?_, ?_, ?_⟩
        all_goals simp only [upd_blk, if_true, nH_upd_gSet, nW_upd_gSet]
        · exact ⟨by omega, by omega⟩
        · exact ⟨by omega, trivial⟩
        · exact fun _ => ⟨trivial, trivial⟩
        · exact fun h => absurd rfl h
      · have h2 : (σ.blk (σ.obj a).ptr).soft = 1 := by simpa using hl'
        exact ⟨show nH (gSet a 0 σ) _ = 0 by omega, show nW (gSet a 0 σ) _ = 0 by omega⟩
      · simp only [upd_blk, if_true, O.up_ne, if_false]
        exact ⟨O.mem.live, O.mem.isData, O.mem.ownerD, trivial, fun _ => trivial⟩
      · intro L
        refine LogOk.freeIf (LogOk.dispose L ?_ ?_ ?_) ?_
        all_goals simp only [upd_blk, if_true, O.up_ne, if_false]
        · exact O.mem.isData
        · exact O.mem.clrG.symm
        · exact O.mem.privG.symm
        · exact O.isData
      · intro b hb
        simp only [upd_log, List.mem_append, List.mem_singleton, Ev.free.injEq] at hb
        rcases hb with ((hb | hb) | hb) | hb
        · exact Or.inl hb
        · split at hb
          · simp at hb
          · cases hb
        · exact Or.inr (hb ▸ O.mem.live)
        · split at hb
          · rw [List.mem_singleton, Ev.free.injEq] at hb; exact Or.inr (hb ▸ O.live)
          · cases hb
    · exact ⟨_, sReset_more hs rfl hp O.live h1, I.dropRef (dh := 1) ha hs rfl hp (Or.inl ⟨rfl, hk, h1⟩), ⟨rfl, rfl, rfl⟩,
        obj_ptr 0 hs⟩

end Cstl.Mem
