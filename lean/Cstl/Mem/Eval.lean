import Cstl.Mem.Lemmas
/-
Symbolic evaluation of the model: states in the form `σ.upd obj blk log next`
(all four updated components given at once, so that two states are compared
component by component), which the primitive updates keep; what the primitive
functions evaluate to, one branch at a time.
-/
namespace Cstl.Mem

theorem State.ext {σ τ : State} (h1 : σ.n = τ.n) (h2 : σ.kind = τ.kind) (h3 : ∀ x, σ.obj x = τ.obj x)
    (h4 : ∀ b, σ.blk b = τ.blk b) (h5 : σ.next = τ.next) (h6 : σ.log = τ.log)
    (h7 : σ.extSize = τ.extSize) : σ = τ := by
  cases σ; cases τ
  simp only at h1 h2 h3 h4 h5 h6 h7
  have e3 := funext h3
  have e4 := funext h4
  subst h1 h2 e3 e4 h5 h6 h7
  rfl

def State.upd (σ : State) (obj : Nat → Obj) (blk : Nat → Blk) (log : List Ev) (next : Nat) : State :=
  { σ with obj := obj, blk := blk, log := log, next := next }

@[simp] theorem upd_obj (σ : State) (o : Nat → Obj) (b : Nat → Blk) (l : List Ev) (n : Nat) :
    (σ.upd o b l n).obj = o := rfl
@[simp] theorem upd_blk (σ : State) (o : Nat → Obj) (b : Nat → Blk) (l : List Ev) (n : Nat) :
    (σ.upd o b l n).blk = b := rfl
@[simp] theorem upd_log (σ : State) (o : Nat → Obj) (b : Nat → Blk) (l : List Ev) (n : Nat) :
    (σ.upd o b l n).log = l := rfl
@[simp] theorem upd_next (σ : State) (o : Nat → Obj) (b : Nat → Blk) (l : List Ev) (n : Nat) :
    (σ.upd o b l n).next = n := rfl
@[simp] theorem upd_n (σ : State) (o : Nat → Obj) (b : Nat → Blk) (l : List Ev) (n : Nat) :
    (σ.upd o b l n).n = σ.n := rfl
@[simp] theorem upd_kind (σ : State) (o : Nat → Obj) (b : Nat → Blk) (l : List Ev) (n : Nat) :
    (σ.upd o b l n).kind = σ.kind := rfl
@[simp] theorem upd_ext (σ : State) (o : Nat → Obj) (b : Nat → Blk) (l : List Ev) (n : Nat) :
    (σ.upd o b l n).extSize = σ.extSize := rfl

theorem setObj_upd (σ : State) (o : Nat → Obj) (b : Nat → Blk) (l : List Ev) (n a : Nat) (v : Obj) :
    (σ.upd o b l n).setObj a v = σ.upd (fun x => if x = a then v else o x) b l n := rfl
theorem gSet_upd (σ : State) (o : Nat → Obj) (b : Nat → Blk) (l : List Ev) (n a p : Nat) :
    gSet a p (σ.upd o b l n) = σ.upd (fun x => if x = a then { o a with self := a, ptr := p } else o x) b l n := rfl
theorem setBlk_upd (σ : State) (o : Nat → Obj) (b : Nat → Blk) (l : List Ev) (n d : Nat) (k : Blk) :
    (σ.upd o b l n).setBlk d k = σ.upd o (fun x => if x = d then k else b x) l n := rfl
theorem emit_upd (σ : State) (o : Nat → Obj) (b : Nat → Blk) (l : List Ev) (n : Nat) (e : Ev) :
    (σ.upd o b l n).emit e = σ.upd o b (l ++ [e]) n := rfl
theorem upd_upd (σ : State) (o o' : Nat → Obj) (b b' : Nat → Blk) (l l' : List Ev) (n n' : Nat) :
    (σ.upd o b l n).upd o' b' l' n' = σ.upd o' b' l' n' := rfl
theorem upInit_upd (d : Nat) (σ : State) : upInit d σ =
    σ.upd σ.obj (fun x => if x = d then { σ.blk d with upOk := true, up := 0, upClr := 0 } else σ.blk x) σ.log σ.next :=
  rfl

theorem ite_shadow {α : Sort _} (c : Prop) [Decidable c] (x y z : α) :
    (if c then x else if c then y else z) = if c then x else z := by
  split <;> rfl

theorem ite_shadow2 {α : Sort _} (c c' : Prop) [Decidable c] [Decidable c'] (x y z w : α) :
    (if c then x else if c' then y else if c then z else w) = if c then x else if c' then y else w := by
  by_cases h : c
  · simp only [h, if_true]
  · simp only [h, if_false]

theorem gGet_eval {σ : State} {a : Nat} (hs : (σ.obj a).self = a) : gGet a σ = .ok (σ.obj a).ptr σ := by
  simp [gGet, hs]

theorem gGet_stray {σ : State} {a : Nat} (hs : (σ.obj a).self ≠ a) : gGet a σ = .stop .abort σ := by
  simp [gGet, hs]

theorem free_zero (σ : State) : free 0 σ = .ok () σ := by simp [free]

theorem free_eval {σ : State} {p : Nat} (hp : p ≠ 0) (hl : (σ.blk p).live = true) :
    free p σ = .ok () ((σ.setBlk p { σ.blk p with live := false }).emit (.free p)) := by
  simp [free, hp, hl]

theorem dispose_eval0 (σ : State) (p pr : Nat) : dispose p 0 pr σ = free p σ := by simp [dispose]

theorem dispose_eval {σ : State} {p : Nat} (c pr : Nat) (hp : p ≠ 0) (hl : (σ.blk p).live = true) :
    dispose p c pr σ = .ok () (σ.upd σ.obj (fun x => if x = p then { σ.blk p with live := false } else σ.blk x)
      (σ.log ++ (if c ≠ 0 then [.clr c p pr] else []) ++ [.free p]) σ.next) := by
  unfold dispose
  by_cases hc : c = 0
  · simp only [hc, ne_eq, not_true_eq_false, if_false, List.append_nil]
    exact free_eval hp hl
  · simp only [hc, ne_eq, not_false_eq_true, if_true]
    exact free_eval (σ := σ.emit _) hp hl

theorem upGet_eval {σ : State} {d : Nat} (hl : (σ.blk d).live = true) (hu : (σ.blk d).upOk = true) :
    upGet d σ = .ok (σ.blk d).up σ := by simp [upGet, hl, hu]

theorem wReset_null {σ : State} {a : Nat} (hs : (σ.obj a).self = a) (hp : (σ.obj a).ptr = 0) :
    wReset a σ = .ok () σ := by simp [wReset, gGet_eval hs, hp]

theorem malloc_ok {σ : State} {sz : Nat} {ans : Bool} (g : Blk) (ha : ans = true) (hs : sz ≤ LIMIT) :
    malloc sz ans g σ = (σ.next,
      σ.upd σ.obj (fun x => if x = σ.next then { g with live := true, size := sz } else σ.blk x)
        (σ.log ++ [.alloc σ.next sz]) (σ.next + 1)) := by
  simp only [malloc, ha, hs, and_self, if_true]; rfl

theorem malloc_fail {σ : State} {sz : Nat} {ans : Bool} (g : Blk) (h : ans = false ∨ LIMIT < sz) :
    malloc sz ans g σ = (0, σ.emit (.allocFail sz)) := by
  have : ¬ (ans = true ∧ sz ≤ LIMIT) := by
    rcases h with h | h
    · simp [h]
    · intro ⟨_, h2⟩; omega
  simp [malloc, this]

theorem gSwap_eval {σ : State} {a b : Nat} (hsa : (σ.obj a).self = a) (hsb : (σ.obj b).self = b) :
    gSwap a b σ = .ok () (gSet b (σ.obj a).ptr (gSet a (σ.obj b).ptr σ)) := by
  simp [gSwap, gGet_eval hsa, gGet_eval hsb]

theorem Obj.set_self {o : Obj} {a : Nat} (h : o.self = a) (p : Nat) :
    ({ o with self := a, ptr := p } : Obj) = { o with ptr := p } := by
  cases o; cases h; rfl

theorem Obj.set_ptr {o : Obj} {p : Nat} (h : o.ptr = p) : ({ o with ptr := p } : Obj) = o := by
  cases o; cases h; rfl

theorem Blk.set_hard {k : Blk} {v : Nat} (h : v = k.hard) : ({ k with hard := v } : Blk) = k := by
  cases k; cases h; rfl

theorem obj_ptr {σ : State} {a : Nat} (p : Nat) (hs : (σ.obj a).self = a) :
    ∀ x, (gSet a p σ).obj x = if x = a then { σ.obj a with ptr := p } else σ.obj x := by
  intro x; by_cases hx : x = a
  · subst hx; simp only [gSet_obj, if_true]; exact Obj.set_self hs p
  · simp [hx]

theorem gCopy_gGet {α : Type} {σ : State} {e n : Nat} (hse : (σ.obj e).self = e) (f : Nat → State → Res α) :
    (gCopy n e σ >>- fun _ σ => gGet n σ >>- f) = f (σ.obj e).ptr (gSet n (σ.obj e).ptr σ) := by
  simp only [gCopy, gGet_eval hse, bind_ok]
  rw [gGet_eval (by rw [gSet_obj, if_pos rfl])]
  simp only [bind_ok, gSet_obj, if_true]

theorem upReset_upd {σ : State} {o : Nat → Obj} {b : Nat → Blk} {l : List Ev} {n d : Nat} (hl : (b d).live = true)
    (hu : (b d).upOk = true) (hm : (b d).up ≠ 0) (hml : (b (b d).up).live = true) (hmd : (b d).up ≠ d) :
    upReset d (σ.upd o b l n) = .ok () (σ.upd o
      (fun x => if x = d then { b d with upOk := true, up := 0, upClr := 0 }
        else if x = (b d).up then { b (b d).up with live := false } else b x)
      (l ++ (if (b d).upClr ≠ 0 then [.clr (b d).upClr (b d).up 0] else []) ++ [.free (b d).up]) n) := by
  have e : ∀ l' : List Ev, (free (b d).up (σ.upd o b l' n) >>- fun _ σ => Res.ok () (upInit d σ)) =
      .ok () (σ.upd o
        (fun x => if x = d then { b d with upOk := true, up := 0, upClr := 0 }
          else if x = (b d).up then { b (b d).up with live := false } else b x)
        (l' ++ [.free (b d).up]) n) := by
    intro l'
    rw [free_eval (σ := σ.upd o b l' n) hm hml, bind_ok]
    refine congrArg (Res.ok ()) (State.ext rfl rfl (fun x => rfl) (fun x => ?_) rfl rfl rfl)
    simp only [upInit, setBlk_blk, emit_blk, upd_blk, Ne.symm hmd, if_false]
  have hg : upGet d (σ.upd o b l n) = .ok (b d).up (σ.upd o b l n) := upGet_eval hl hu
  simp only [upReset, hg, bind_ok, dispose, upd_blk, emit_upd]
  by_cases hc : (b d).upClr = 0
  · simp only [hc, ne_eq, not_true_eq_false, if_false, List.append_nil]; exact e _
  · simp only [hc, ne_eq, not_false_eq_true, if_true]; exact e _

theorem upReset_fresh {σ : State} {d : Nat} (h : (σ.blk d).live = true ∧ (σ.blk d).upOk = true ∧
    (σ.blk d).upClr = 0 ∧ (σ.blk d).up = 0) : upReset d σ = .ok () (upInit d σ) := by
  simp [upReset, upGet_eval h.1 h.2.1, h.2.2.1, h.2.2.2, dispose_eval0, free_zero]

theorem upAlloc_eval {σ σ1 σ2 : State} {d sz clr m : Nat} {ans : Bool} (hr : upReset d σ = .ok () σ1)
    (hsz : 0 < sz) (hm : malloc sz ans { ownerD := d, clrG := clr } σ1 = (m, σ2)) :
    upAlloc d sz clr ans σ =
      .ok () (if m ≠ 0 then σ2.setBlk d { σ2.blk d with upOk := true, up := m, upClr := clr } else σ2) := by
  simp only [upAlloc, hr, bind_ok, hsz, if_true, hm]
  split <;> rfl

theorem wReset_upd {σ : State} {o : Nat → Obj} {b : Nat → Blk} {l : List Ev} {n a d : Nat} (hs : (o a).self = a)
    (hpd : (o a).ptr = d) (hp : d ≠ 0) (hl : (b d).live = true) :
    wReset a (σ.upd o b l n) = .ok () (σ.upd (fun x => if x = a then { o a with self := a, ptr := 0 } else o x)
      (fun x => if x = d then { b d with soft := (b d).soft - 1, live := decide ((b d).soft ≠ 1) } else b x)
      (l ++ if (b d).soft = 1 then [.free d] else []) n) := by
  subst hpd
  have hg : gGet a (σ.upd o b l n) = .ok (o a).ptr (σ.upd o b l n) := gGet_eval hs
  by_cases h1 : (b (o a).ptr).soft = 1
  · simp only [wReset, hg, bind_ok, ne_eq, hp, not_false_eq_true, if_true, gSet_upd, setBlk_upd, upd_blk, hl, h1,
      free, emit_upd, ite_shadow]
    refine congrArg (Res.ok ()) (State.ext rfl rfl (fun _ => rfl) (fun x => ?_) rfl rfl rfl)
    simp only [upd_blk]; split <;> simp
  · simp only [wReset, hg, bind_ok, ne_eq, hp, not_false_eq_true, if_true, gSet_upd, setBlk_upd, upd_blk, hl, h1,
      if_false, List.append_nil]
    refine congrArg (Res.ok ()) (State.ext rfl rfl (fun _ => rfl) (fun x => ?_) rfl rfl rfl)
    simp only [upd_blk]; split <;> simp

theorem sReset_step {σ : State} {a d : Nat} (hs : (σ.obj a).self = a) (hpd : (σ.obj a).ptr = d) (hp : d ≠ 0)
    (hl : (σ.blk d).live = true) :
    sReset a σ =
      ((if (σ.blk d).hard = 1 then upReset d (σ.setBlk d { σ.blk d with hard := (σ.blk d).hard - 1 })
        else .ok () (σ.setBlk d { σ.blk d with hard := (σ.blk d).hard - 1 })) >>- fun _ σ => wReset a σ) := by
  subst hpd
  simp [sReset, gGet_eval hs, hp, hl]

/-- `cstl_shared_ptr_reset`, other owners are left -/
theorem sReset_more {σ : State} {a d : Nat} (hs : (σ.obj a).self = a) (hpd : (σ.obj a).ptr = d) (hp : d ≠ 0)
    (hl : (σ.blk d).live = true) (h1 : (σ.blk d).hard ≠ 1) :
    sReset a σ = .ok () (σ.upd (gSet a 0 σ).obj
      (fun x => if x = d then
          { σ.blk d with hard := (σ.blk d).hard - 1, soft := (σ.blk d).soft - 1, live := decide ((σ.blk d).soft ≠ 1) }
        else σ.blk x)
      (σ.log ++ if (σ.blk d).soft = 1 then [.free d] else []) σ.next) := by
  subst hpd
  rw [sReset_step hs rfl hp hl, if_neg h1, bind_ok]
  show wReset a ((σ.upd σ.obj σ.blk σ.log σ.next).setBlk _ _) = _
  rw [setBlk_upd, wReset_upd hs rfl hp (by simp only [if_true]; exact hl)]
  simp only [if_true, ite_shadow]
  rfl

/-- `cstl_shared_ptr_reset` by the last owner: the managed memory goes -/
theorem sReset_last {σ : State} {a d m : Nat} (hs : (σ.obj a).self = a) (hpd : (σ.obj a).ptr = d) (hp : d ≠ 0)
    (hl : (σ.blk d).live = true) (h1 : (σ.blk d).hard = 1) (hu : (σ.blk d).upOk = true) (hdm : (σ.blk d).up = m)
    (hm : m ≠ 0) (hml : (σ.blk m).live = true) (hmd : m ≠ d) :
    sReset a σ = .ok () (σ.upd (gSet a 0 σ).obj
      (fun x => if x = d then
          { σ.blk d with hard := 0, soft := (σ.blk d).soft - 1, upOk := true, up := 0, upClr := 0,
                         live := decide ((σ.blk d).soft ≠ 1) }
        else if x = m then { σ.blk m with live := false }
        else σ.blk x)
      (σ.log ++ (if (σ.blk d).upClr ≠ 0 then [.clr (σ.blk d).upClr m 0] else []) ++ [.free m] ++
        if (σ.blk d).soft = 1 then [.free d] else [])
      σ.next) := by
  subst hpd hdm
  rw [sReset_step hs rfl hp hl, if_pos h1]
  show (upReset _ ((σ.upd σ.obj σ.blk σ.log σ.next).setBlk _ _) >>- _) = _
  rw [setBlk_upd, upReset_upd (by simp only [if_true]; exact hl) (by simp only [if_true]; exact hu)
    (by simp only [if_true]; exact hm) (by simp only [if_true, hmd, if_false]; exact hml)
    (by simp only [if_true]; exact hmd), bind_ok]
  rw [wReset_upd hs rfl hp (by simp only [if_true]; exact hl)]
  simp only [if_true, ite_shadow, ite_shadow2, h1, hmd, if_false]
  rfl

end Cstl.Mem
