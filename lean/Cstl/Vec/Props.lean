import Cstl.Vec.Lemmas
import Cstl.Vec.Spec
/-
Property theorems for C09 — a vector never reports size or capacity it has no
storage for.  All theorems are about the model of src/vector.c in
`Model.lean` (repaired code) under the storage invariant `Inv` of `Lemmas.lean`.
Requested sizes range over all of `size_t` (`sz < W`), oracle answers over all
functions `Nat → Bool`.
-/
namespace Cstl.Vec

/-- what `resize` does once the capacity suffices -/
def resizeTo (v1 : Vector) (e1 : List Ev) (sz : Nat) : Vector × List Ev :=
  if v1.count < sz then
    if v1.cons then
      ({ v1 with count := sz, elems := v1.elems ++ List.replicate (sz - v1.count) ctorV },
       e1 ++ consUp (sz - v1.count) v1.count)
    else ({ v1 with count := sz, elems := v1.elems ++ List.replicate (sz - v1.count) undefV }, e1)
  else if v1.count > sz then
    if v1.dest then
      ({ v1 with count := sz, elems := v1.elems.take sz }, e1 ++ destDown (v1.count - sz) v1.count)
    else ({ v1 with count := sz, elems := v1.elems.take sz }, e1)
  else (v1, e1)

theorem resize_eq (ans : Nat → Bool) (id : Nat) (v : Vector) (sz : Nat) :
    resize ans id v sz =
      if (reserve ans id v sz).1.cap < sz then .error .abort
      else .ok (resizeTo (reserve ans id v sz).1 (reserve ans id v sz).2 sz) := by
  unfold resize resizeTo
  simp only [apply_ite (Except.ok (ε := Stop))]

theorem resizeTo_fst {v1 : Vector} (hl : v1.elems.length = v1.count) (e1 : List Ev) (sz : Nat) :
    (resizeTo v1 e1 sz).1 =
      { v1 with count := sz, elems := padTake v1.elems sz (if v1.cons then ctorV else undefV) } := by
  unfold resizeTo padTake
  rw [hl]
  by_cases hlt : v1.count < sz
  · rw [if_pos hlt, List.take_of_length_le (by omega)]
    cases v1.cons <;> rfl
  · rw [if_neg hlt, show sz - v1.count = 0 by omega, List.replicate_zero, List.append_nil]
    by_cases hgt : v1.count > sz
    · rw [if_pos hgt]
      cases v1.dest <;> rfl
    · rw [if_neg hgt, List.take_of_length_le (by omega), show sz = v1.count by omega]

theorem resizeTo_ctorSlots (v1 : Vector) (e1 : List Ev) (sz : Nat) :
    ctorSlots (resizeTo v1 e1 sz).2 = ctorSlots e1 ++
      if v1.cons = true ∧ v1.count < sz then List.range' v1.count (sz - v1.count) else [] := by
  unfold resizeTo
  by_cases hlt : v1.count < sz
  · rw [if_pos hlt]
    cases v1.cons <;> simp [hlt, ctorSlots_append, ctorSlots_consUp]
  · rw [if_neg hlt, if_neg (mt And.right hlt), List.append_nil]
    by_cases hgt : v1.count > sz
    · rw [if_pos hgt]
      cases v1.dest <;> simp [ctorSlots_append, ctorSlots_destDown]
    · rw [if_neg hgt]

theorem resizeTo_dtorSlots (v1 : Vector) (e1 : List Ev) (sz : Nat) :
    dtorSlots (resizeTo v1 e1 sz).2 = dtorSlots e1 ++
      if v1.dest = true ∧ sz < v1.count then (List.range' sz (v1.count - sz)).reverse else [] := by
  unfold resizeTo
  by_cases hgt : v1.count > sz
  · rw [if_neg (Nat.lt_asymm hgt), if_pos hgt]
    have e : v1.count - (v1.count - sz) = sz := by omega
    cases v1.dest <;> simp [hgt, dtorSlots_append, dtorSlots_destDown, e]
  · rw [if_neg (mt And.right hgt), List.append_nil]
    by_cases hlt : v1.count < sz
    · rw [if_pos hlt]
      cases v1.cons <;> simp [dtorSlots_append, dtorSlots_consUp]
    · rw [if_neg hlt, if_neg hgt]

/-- C09, growth that cannot be satisfied: `resize` stops exactly when the
capacity is still short after the reserve step. -/
theorem resize_abort_iff {ans : Nat → Bool} {id : Nat} {v : Vector} {sz : Nat} :
    (∃ st, resize ans id v sz = .error st) ↔ (reserve ans id v sz).1.cap < sz := by
  rw [resize_eq]
  split <;> simp [*]

/-- … and that stop is the documented abort, never an out-of-bounds access
(that the reserve step left the vector as it was is `resize_fail_abort`) -/
theorem resize_error_is_abort {ans : Nat → Bool} {id : Nat} {v : Vector} {sz : Nat} {st : Stop}
    (h : resize ans id v sz = .error st) : st = .abort := by
  rw [resize_eq] at h
  split at h
  · cases h; rfl
  · cases h

theorem reserve_cap_ge_iff {ans : Nat → Bool} {id : Nat} {v : Vector} {sz : Nat} (he : 0 < v.esz) (hsz : sz < W) :
    sz ≤ (reserve ans id v sz).1.cap ↔ canGrow ans v sz := by
  unfold reserve canGrow unrepresentable
  by_cases hle : sz ≤ v.cap
  · simp [Nat.not_lt_of_ge hle, hle]
  · rw [if_pos (Nat.lt_of_not_le hle), setCapacity_eq ans id he hsz]
    split
    · simp [*]
    · split <;> simp [*]

/-- `reserve` either commits completely or is a quiet no-op: never a smaller
buffer paired with a larger reported capacity. -/
theorem reserve_commit_or_noop {ans : Nat → Bool} {id : Nat} {v : Vector} {sz : Nat}
    (h : Inv v) (hsz : sz < W) :
    (reserve ans id v sz).1 = v ∨
    ((reserve ans id v sz).1.cap = sz ∧ v.cap < sz ∧
     (reserve ans id v sz).1.base = some (id, (sz + 1) * v.esz) ∧ (sz + 1) * v.esz < W ∧
     ans ((sz + 1) * v.esz) = true) := by
  unfold reserve
  split
  · rename_i hgt
    rw [setCapacity_eq ans id h.esz_pos hsz]
    split
    · exact Or.inl rfl
    · rename_i hu
      split
      · rename_i ha
        exact Or.inr ⟨rfl, hgt, rfl, Nat.lt_of_not_le hu, ha⟩
      · exact Or.inl rfl
  · exact Or.inl rfl

/-- C09 `reserve_fail_noop`: when the allocator refuses the request, or the
byte count `(sz + 1) * esz` cannot be represented, `reserve` changes nothing
(and in the second case does not even ask the allocator). -/
theorem reserve_fail_noop {ans : Nat → Bool} {id : Nat} {v : Vector} {sz : Nat}
    (h : Inv v) (hsz : sz < W)
    (hf : ans ((sz + 1) * v.esz) = false ∨ unrepresentable v.esz sz) :
    (reserve ans id v sz).1 = v ∧ (unrepresentable v.esz sz → (reserve ans id v sz).2 = []) := by
  unfold reserve unrepresentable at *
  split
  · rw [setCapacity_eq ans id h.esz_pos hsz]
    split
    · exact ⟨rfl, fun _ => rfl⟩
    · rename_i hu
      rw [if_neg (by simpa [hu] using hf)]
      exact ⟨rfl, fun hu' => absurd hu' hu⟩
  · exact ⟨rfl, fun _ => rfl⟩

/-- C09 `resize_fail_abort`: a growth beyond the capacity that the allocator
refuses (or whose byte count cannot be represented) aborts; the only thing
that ran before the abort is a `reserve` that changed nothing. -/
theorem resize_fail_abort {ans : Nat → Bool} {id : Nat} {v : Vector} {sz : Nat}
    (h : Inv v) (hsz : sz < W) (hgrow : v.cap < sz)
    (hf : ans ((sz + 1) * v.esz) = false ∨ unrepresentable v.esz sz) :
    resize ans id v sz = .error .abort ∧ (reserve ans id v sz).1 = v := by
  have hn := (reserve_fail_noop (ans := ans) (id := id) h hsz hf).1
  rw [resize_eq, hn, if_pos hgrow]
  exact ⟨rfl, rfl⟩

/-- what a successful `resize` to `sz` returns -/
structure Resized (ans : Nat → Bool) (v : Vector) (sz : Nat) (r : Vector × List Ev) : Prop where
  grow : canGrow ans v sz
  inv : Inv r.1
  count : r.1.count = sz
  esz : r.1.esz = v.esz
  cons : r.1.cons = v.cons
  dest : r.1.dest = v.dest
  elems : r.1.elems = padTake v.elems sz (if v.cons then ctorV else undefV)
  frame : sz ≤ v.cap → r.1.base = v.base ∧ r.1.cap = v.cap
  ctors : ctorSlots r.2 = if v.cons = true ∧ v.count < sz then List.range' v.count (sz - v.count) else []
  dtors : dtorSlots r.2 = if v.dest = true ∧ sz < v.count then (List.range' sz (v.count - sz)).reverse else []

theorem resize_spec {ans : Nat → Bool} {id : Nat} {v : Vector} {sz : Nat} (h : Inv v) (hsz : sz < W) :
    Spec (resize ans id v sz) (¬ canGrow ans v sz) (Resized ans v sz) := by
  have hcg : canGrow ans v sz ↔ ¬ (reserve ans id v sz).1.cap < sz :=
    (reserve_cap_ge_iff h.esz_pos hsz).symm.trans Nat.not_lt.symm
  rw [resize_eq]
  split
  · rename_i hlt
    exact .abort fun hc => hcg.mp hc hlt
  · rename_i hge
    have hi := reserve_inv (ans := ans) (id := id) h hsz
    obtain ⟨hf1, hf2, hf3, hf4, _⟩ := reserve_frame ans id v sz
    obtain ⟨hx1, hx2⟩ := reserve_noxtor ans id v sz
    rw [show resizeTo _ _ sz = (_, (resizeTo _ _ sz).2) from Prod.ext (resizeTo_fst hi.len _ sz) rfl]
    refine .ok ⟨hcg.mpr hge, hi.of_frame rfl rfl rfl (Nat.le_of_not_lt hge) (padTake_length ..), rfl, hf2, hf3,
      hf4, ?_, fun hle => ?_, ?_, ?_⟩
    · show padTake _ _ _ = _
      rw [hf3, reserve_elems h hsz]
    · rw [reserve_of_le ans id hle]
      exact ⟨rfl, rfl⟩
    · show ctorSlots (resizeTo _ _ sz).2 = _
      rw [resizeTo_ctorSlots, hx1, hf1, hf3]
      rfl
    · show dtorSlots (resizeTo _ _ sz).2 = _
      rw [resizeTo_dtorSlots, hx2, hf1, hf4]
      rfl

theorem resize_ok_of_satisfiable {ans : Nat → Bool} {id : Nat} {v : Vector} {sz : Nat}
    (h : Inv v) (hsz : sz < W) (hs : canGrow ans v sz) :
    ∃ v' evs, resize ans id v sz = .ok (v', evs) :=
  Prod.exists.mp (((resize_spec h hsz).ok_iff (fun _ r => r.grow) not_not_intro).mpr hs)

/-- what a successful `resize` produces (invariant, size, frame, contents, events) -/
theorem resize_ok_spec {ans : Nat → Bool} {id : Nat} {v v' : Vector} {sz : Nat} {evs : List Ev}
    (h : Inv v) (hsz : sz < W) (hr : resize ans id v sz = .ok (v', evs)) :
    Inv v' ∧ v'.count = sz ∧ v'.esz = v.esz ∧ v'.cons = v.cons ∧ v'.dest = v.dest ∧
    v'.elems.take (min v.count sz) = v.elems.take (min v.count sz) ∧
    (v.cons = true → ∀ i, v.count ≤ i → i < sz → v'.elems[i]? = some ctorV) ∧
    ctorSlots evs = (if v.cons = true ∧ v.count < sz then List.range' v.count (sz - v.count) else []) ∧
    dtorSlots evs = (if v.dest = true ∧ sz < v.count then (List.range' sz (v.count - sz)).reverse else []) := by
  have r := (resize_spec h hsz).post hr
  refine ⟨r.inv, r.count, r.esz, r.cons, r.dest, ?_, fun hc i h1 h2 => ?_, r.ctors, r.dtors⟩
  · rw [r.elems]
    exact padTake_take _ (by rw [h.len]; exact Nat.le_refl _)
  · rw [r.elems, padTake_getElem? _ (by rw [h.len]; exact h1) h2, hc]
    rfl

theorem resize_inv {ans : Nat → Bool} {id : Nat} {v v' : Vector} {sz : Nat} {evs : List Ev}
    (h : Inv v) (hsz : sz < W) (hr : resize ans id v sz = .ok (v', evs)) : Inv v' ∧ v'.count = sz :=
  ⟨((resize_spec h hsz).post hr).inv, ((resize_spec h hsz).post hr).count⟩

/-- C09 `realloc_preserves_prefix`: whatever the allocator answers, a capacity
change keeps the value of every live element, and `resize` keeps every element
that stays in range (`i < min count sz`). -/
theorem realloc_preserves_prefix {ans : Nat → Bool} {id : Nat} {v : Vector} (h : Inv v) :
    (∀ sz, sz < W → (reserve ans id v sz).1.elems = v.elems) ∧
    (shrink ans id v).1.elems = v.elems ∧
    (∀ sz v' evs, sz < W → resize ans id v sz = .ok (v', evs) →
      ∀ i, i < v.count → i < sz → v'.elems[i]? = v.elems[i]?) := by
  refine ⟨fun sz hsz => reserve_elems h hsz, shrink_elems h, ?_⟩
  intro sz v' evs hsz hr i hi1 hi2
  obtain ⟨_, _, _, _, _, ht, _⟩ := resize_ok_spec h hsz hr
  have : (v'.elems.take (min v.count sz))[i]? = (v.elems.take (min v.count sz))[i]? := by rw [ht]
  rw [List.getElem?_take_of_lt (by omega), List.getElem?_take_of_lt (by omega)] at this
  exact this

/-- C09 `ctor_dtor_once`: a successful `resize` calls the constructor exactly
once, in ascending order, on each slot entering `[0, count)` and on nothing
else, the destructor exactly once, in descending order, on each slot leaving
it; capacity changes call neither. -/
theorem ctor_dtor_once {ans : Nat → Bool} {id : Nat} {v v' : Vector} {sz : Nat} {evs : List Ev}
    (h : Inv v) (hsz : sz < W) (hr : resize ans id v sz = .ok (v', evs)) :
    ctorSlots evs = (if v.cons = true ∧ v.count < sz then List.range' v.count (sz - v.count) else []) ∧
    dtorSlots evs = (if v.dest = true ∧ sz < v.count then (List.range' sz (v.count - sz)).reverse else []) ∧
    (ctorSlots evs).Nodup ∧ (dtorSlots evs).Nodup := by
  have hc := ((resize_spec h hsz).post hr).ctors
  have hd := ((resize_spec h hsz).post hr).dtors
  refine ⟨hc, hd, ?_, ?_⟩
  · rw [hc]; split
    · exact List.nodup_range'
    · exact List.nodup_nil
  · rw [hd]; split
    · exact (List.reverse_perm _).nodup_iff.mpr List.nodup_range'
    · exact List.nodup_nil

theorem capacity_change_no_xtor (ans : Nat → Bool) (id : Nat) (v : Vector) (sz : Nat) :
    ctorSlots (reserve ans id v sz).2 = [] ∧ dtorSlots (reserve ans id v sz).2 = [] ∧
    ctorSlots (shrink ans id v).2 = [] ∧ dtorSlots (shrink ans id v).2 = [] :=
  ⟨(reserve_noxtor ans id v sz).1, (reserve_noxtor ans id v sz).2,
   (shrink_noxtor ans id v).1, (shrink_noxtor ans id v).2⟩

theorem resize_zero {ans : Nat → Bool} {id : Nat} {v : Vector} (h : Inv v) :
    resize ans id v 0 =
      .ok ({ v with count := 0, elems := [] }, if v.dest = true then destDown v.count v.count else []) := by
  rw [resize_eq, reserve_of_le ans id (Nat.zero_le _), if_neg (Nat.not_lt_zero _)]
  congr 1
  refine Prod.ext ((resizeTo_fst h.len [] 0).trans (by simp [padTake])) ?_
  unfold resizeTo
  rw [if_neg (Nat.not_lt_zero _)]
  by_cases hc : v.count > 0
  · rw [if_pos hc]
    split <;> simp [*]
  · simp [show v.count = 0 by omega, destDown]

def clearEvs (v : Vector) : List Ev :=
  (if v.dest = true then destDown v.count v.count else []) ++
    (match v.base with
     | none => []
     | some (b, _) => [Ev.free b])

/-- `clear`: never stops; destroys every live element exactly once (highest
slot first), frees the block exactly once, and returns to the initial state. -/
theorem clear_spec {v : Vector} (h : Inv v) :
    clear v = .ok ({ v with base := none, cap := 0, count := 0, elems := [] }, clearEvs v) ∧
      ctorSlots (clearEvs v) = [] ∧
      dtorSlots (clearEvs v) = (if v.dest = true then (List.range' 0 v.count).reverse else []) ∧
      (∀ id, Ev.free id ∈ clearEvs v ↔ ∃ n, v.base = some (id, n)) := by
  have hfr : ∀ (b : Option (Nat × Nat)),
      ctorSlots (match b with | none => [] | some (b, _) => [Ev.free b]) = [] ∧
      dtorSlots (match b with | none => [] | some (b, _) => [Ev.free b]) = [] := by
    intro b; cases b <;> exact ⟨rfl, rfl⟩
  have hnf : ∀ id k c, Ev.free id ∉ destDown k c := by
    intro id k
    induction k with
    | zero => intro c; simp [destDown]
    | succ k ih => intro c; simp [destDown, ih]
  refine ⟨?_, ?_, ?_, ?_⟩
  · unfold clear
    rw [resize_zero h]
    rfl
  · unfold clearEvs
    rw [ctorSlots_append, (hfr v.base).1]
    by_cases hd : v.dest = true <;> simp [hd, ctorSlots_destDown, ctorSlots]
  · unfold clearEvs
    rw [dtorSlots_append, (hfr v.base).2]
    by_cases hd : v.dest = true
    · simp [hd, dtorSlots_destDown]
    · simp [hd, dtorSlots]
  · intro id
    -- no `free` among the destructor calls, so only the block's own `free` is left
    have hmem : Ev.free id ∈ clearEvs v ↔
        Ev.free id ∈ (match v.base with | none => [] | some (b, _) => [Ev.free b]) := by
      unfold clearEvs
      rw [List.mem_append]
      refine ⟨fun hm => hm.resolve_left fun hx => ?_, Or.inr⟩
      split at hx
      · exact hnf id _ _ hx
      · cases hx
    rw [hmem]
    cases v.base with
    | none => simp
    | some p =>
      obtain ⟨b, n⟩ := p
      simp only [List.mem_singleton, Ev.free.injEq, Option.some.injEq, Prod.mk.injEq]
      exact ⟨fun e => ⟨n, e.symm, rfl⟩, fun ⟨_, e, _⟩ => e.symm⟩

/-- C09 `at_ok_iff`: `cstl_vector_at` aborts exactly when the index is at or
beyond `count`; otherwise the returned pointer is `base + i * esz` computed
without wrap-around and the whole element lies inside the block. -/
theorem at_ok_iff {v : Vector} (h : Inv v) (i : Nat) :
    (vat v i = .error .abort ↔ v.count ≤ i) ∧
    (i < v.count → vat v i = .ok (i * v.esz) ∧
       ∃ b n, v.base = some (b, n) ∧ i * v.esz + v.esz ≤ n ∧ n = (v.cap + 1) * v.esz) := by
  constructor
  · unfold vat
    constructor
    · intro h1
      split at h1
      · assumption
      · cases h1
    · intro h1; rw [if_pos h1]
  · intro hi
    obtain ⟨b, n, hb, hn, hlt, hle⟩ := h.block (by have := h.count_le_cap; omega)
    have hle := hle i (by have := h.count_le_cap; omega)
    refine ⟨?_, b, n, hb, hle, hn⟩
    unfold vat
    rw [if_neg (by omega), mulW_of_lt (by omega)]

/-- reads and writes through the pointer of `cstl_vector_at` never leave the block -/
theorem vget_vset_safe {v : Vector} (h : Inv v) (i x : Nat) :
    (i < v.count → (∃ y, vget v i = .ok (i * v.esz, y) ∧ v.elems[i]? = some y) ∧
                   vset v i x = .ok { v with elems := v.elems.set i x }) ∧
    (v.count ≤ i → vget v i = .error .abort ∧ vset v i x = .error .abort) := by
  obtain ⟨ha, hb⟩ := at_ok_iff h i
  constructor
  · intro hi
    obtain ⟨hat, b, n, hbase, hoff, _⟩ := hb hi
    have hd : i * v.esz / v.esz = i := Nat.mul_div_cancel _ h.esz_pos
    constructor
    · have hlt : i < v.elems.length := by rw [h.len]; exact hi
      refine ⟨v.elems[i], ?_, List.getElem?_eq_getElem hlt⟩
      unfold vget
      rw [hat]
      simp only [hbase]
      rw [if_pos hoff, hd, List.getElem?_eq_getElem hlt]
    · unfold vset
      rw [hat]
      simp only [hbase]
      rw [if_pos hoff, hd]
  · intro hi
    have := ha.mpr hi
    unfold vget vset
    rw [this]
    exact ⟨rfl, rfl⟩

/-- the scratch slot at index `cap` is inside the block -/
theorem scratch_in_block {v : Vector} (h : Inv v) (hc : 2 ≤ v.count) : scratchOk v = true := by
  obtain ⟨b, n, hb, hn, hlt, hle⟩ := h.block (by have := h.count_le_cap; omega)
  have hle := hle v.cap (Nat.le_refl _)
  unfold scratchOk
  rw [hb, mulW_of_lt (by omega)]
  exact decide_eq_true hle

/-- `cstl_vector_reverse` never stops; it reverses the live elements and leaves block,
capacity and count alone (the exchanges go through the scratch slot: `scratch_in_block`) -/
theorem vreverse_spec {v : Vector} (h : Inv v) :
    ∃ v', vreverse v = .ok v' ∧ Inv v' ∧ v'.elems = v.elems.reverse ∧
      v'.base = v.base ∧ v'.cap = v.cap ∧ v'.count = v.count := by
  unfold vreverse
  by_cases hc : v.count ≥ 2
  · rw [if_pos hc, scratch_in_block h hc]
    exact ⟨_, rfl, inv_with_elems h (by rw [List.length_reverse, h.len]), rfl, rfl, rfl, rfl⟩
  · rw [if_neg hc]
    refine ⟨v, rfl, h, ?_, rfl, rfl, rfl⟩
    have hl := h.len
    match hv : v.elems with
    | [] => rfl
    | [_] => rfl
    | _ :: _ :: _ => rw [hv] at hl; simp at hl; omega

/-- `cstl_vector_sort` never stops; it permutes the live elements and leaves block,
capacity and count alone.  Sortedness is not stated here: the model sorts by
`sortVals`, `sortVals_sorted` shows the result ordered and `Tie2.vsort_tie`
ties it to the array algorithms of C11 -/
theorem vsort_spec {v : Vector} (h : Inv v) :
    ∃ v', vsort v = .ok v' ∧ Inv v' ∧ v'.elems.Perm v.elems ∧
      v'.base = v.base ∧ v'.cap = v.cap ∧ v'.count = v.count := by
  unfold vsort
  by_cases hc : v.count ≥ 2
  · rw [if_pos hc, scratch_in_block h hc]
    exact ⟨_, rfl, inv_with_elems h (by rw [sortVals_length, h.len]), sortVals_perm _, rfl, rfl, rfl⟩
  · rw [if_neg hc]
    exact ⟨v, rfl, h, List.Perm.refl _, rfl, rfl, rfl⟩

end Cstl.Vec
