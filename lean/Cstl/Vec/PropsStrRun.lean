import Cstl.Vec.StrSearch
namespace Cstl.Vec

/-- the edits on the reference strings (`sa` = "this", `sb` = the other) -/
def rstep (sa sb : List Nat) : SOp → List Nat × List Nat
  | .resize n => (refResize sa n, sb)
  | .reserve _ => (sa, sb)
  | .insertCh pos cnt ch => (refInsert sa pos (List.replicate cnt ch), sb)
  | .insertStrN pos src len => (refInsert sa pos (src.take len), sb)
  | .insertObj pos => (refInsert sa pos sb, sb)
  | .erase pos n => (refErase sa pos n, sb)
  | .substrTo pos n => (sa, refSubstr sa pos n)
  | .clear => ([], sb)
  | .swap => (sb, sa)

/-- the documented domain: the length requested of `resize` is a `size_t` value (positions and counts
are unrestricted), and `insert_str_n` is given an array that really holds `len` characters -/
def SOp.dom : SOp → Prop
  | .resize n => n < W
  | .insertStrN _ src len => len ≤ src.length
  | _ => True

def rrun (sa sb : List Nat) : List (Bool × SOp × (Nat → Bool) × Nat) → List Nat × List Nat
  | [] => (sa, sb)
  | (w, op, _, _) :: rest =>
    if w then rrun (rstep sb sa op).2 (rstep sb sa op).1 rest
    else rrun (rstep sa sb op).1 (rstep sa sb op).2 rest

theorem objChars_rep {b : Vector} {sb : List Nat} (hb : StrRep b sb) :
    strSize b ≤ (objChars b).length ∧ (objChars b).take (strSize b) = sb := by
  rw [hb.size]
  unfold objChars
  cases hbase : b.base with
  | none =>
    rw [hb.nil_of_no_base hbase]
    exact ⟨Nat.le_refl _, rfl⟩
  | some p =>
    obtain ⟨t, het, _, _⟩ := hb.elems_eq
    rw [het, List.length_append, List.take_left' rfl]
    exact ⟨Nat.le_add_right .., rfl⟩

theorem sstep_spec {ans : Nat → Bool} {id : Nat} {a b : Vector} {sa sb : List Nat} {op : SOp}
    (ha : StrRep a sa) (hb : StrRep b sb) (he : a.esz = b.esz) (hd : op.dom) :
    Spec (sstep ans id a b op) True fun r =>
      StrRep r.1 (rstep sa sb op).1 ∧ StrRep r.2 (rstep sa sb op).2 ∧ r.1.esz = r.2.esz := by
  -- an edit of "this" object alone
  have this_ : ∀ {x : Except Stop (Vector × List Ev)} {C : Prop} {P : Vector × List Ev → Prop} {s' : List Nat},
      Spec x C P → (∀ r, P r → StrRep r.1 s' ∧ r.1.esz = a.esz) →
      Spec (andThen x fun r => .ok (r.1, b)) True fun r => StrRep r.1 s' ∧ StrRep r.2 sb ∧ r.1.esz = r.2.esz :=
    fun hx hP => (hx.mono (fun _ => trivial) hP).bind fun _ ⟨h1, h2⟩ => .ok ⟨h1, hb, h2.trans he⟩
  cases op with
  | resize n => exact this_ (strResize_spec ha hd) fun _ hr => ⟨hr.2.2.1, hr.2.2.2.1⟩
  | reserve n =>
    obtain ⟨h1, h2⟩ := strReserve_rep (ans := ans) (id := id) ha n
    exact .ok ⟨h1, hb, h2.trans he⟩
  | insertCh pos cnt ch => exact this_ (insertCh_spec ha) fun _ hr => ⟨hr.1, hr.2.1⟩
  | insertStrN pos src len => exact this_ (insertStrN_spec ha hd) fun _ hr => ⟨hr.1, hr.2.1⟩
  | insertObj pos =>
    obtain ⟨hsrc, htake⟩ := objChars_rep hb
    exact this_ (insertStrN_spec ha hsrc) fun _ hr => ⟨htake ▸ hr.1, hr.2.1⟩
  | erase pos n => exact this_ (erase_spec ha pos n) fun _ hr => ⟨hr.2.1, hr.2.2.1⟩
  | substrTo pos n =>
    exact ((substr_spec ha hb he.symm pos n).mono (fun _ => trivial) fun _ hr => hr).bind
      fun _ hr => .ok ⟨ha, hr.2.2.1, (hr.2.2.2.trans he.symm).symm⟩
  | clear =>
    obtain ⟨v', evs, hr, hrep, hes, _⟩ := strClear_rep ha
    show Spec (andThen (clear a) _) _ _
    rw [hr]
    exact .ok ⟨hrep, hb, hes.trans he⟩
  | swap => exact .ok ⟨hb, ha, he.symm⟩

/-- one edit refines the reference edit; the only possible stop is the abort -/
theorem sstep_refines {ans : Nat → Bool} {id : Nat} {a b : Vector} {sa sb : List Nat} {op : SOp}
    (ha : StrRep a sa) (hb : StrRep b sb) (he : a.esz = b.esz) (hd : op.dom) :
    sstep ans id a b op = .error .abort ∨
    ∃ r, sstep ans id a b op = .ok r ∧
      (StrRep r.1 (rstep sa sb op).1 ∧ StrRep r.2 (rstep sa sb op).2 ∧ r.1.esz = r.2.esz) :=
  (sstep_spec ha hb he hd).imp_left And.left

theorem srun_spec {a b : Vector} {sa sb : List Nat} (ha : StrRep a sa) (hb : StrRep b sb)
    (he : a.esz = b.esz) (ops : List (Bool × SOp × (Nat → Bool) × Nat)) (hd : ∀ x ∈ ops, x.2.1.dom) :
    Spec (srun a b ops) True fun r =>
      StrRep r.1 (rrun sa sb ops).1 ∧ StrRep r.2 (rrun sa sb ops).2 ∧ r.1.esz = r.2.esz := by
  induction ops generalizing a b sa sb with
  | nil => exact .ok ⟨ha, hb, he⟩
  | cons x rest ih =>
    obtain ⟨w, op, ans, id⟩ := x
    have hop : op.dom := hd (w, op, ans, id) (List.mem_cons_self ..)
    have hrest : ∀ x ∈ rest, x.2.1.dom := fun x hx => hd x (List.mem_cons_of_mem _ hx)
    cases w with
    | false =>
      simp only [srun, rrun, Bool.false_eq_true, if_false]
      exact (sstep_spec ha hb he hop).bind fun _ ⟨r1, r2, r3⟩ => ih r1 r2 r3 hrest
    | true =>
      simp only [srun, rrun, if_true]
      exact (sstep_spec hb ha he.symm hop).bind fun _ ⟨r1, r2, r3⟩ => ih r2 r1 r3.symm hrest

/-- **C10 `run_refines`.**  For every edit history on two string objects of
the same width, every position / count / length (lengths below 2^64, counts
unrestricted — so including 2^64 - 1), every allocator behaviour: if the run
completes, both objects represent the reference strings obtained by the list
operations splice / take / drop (so `size` and `at` report the reference string,
and `str` the reference string followed by a NUL on every object that is
`Terminated`); if it stops, it stops with the documented abort and
never with an access outside the strings' storage. -/
theorem run_refines {a b : Vector} {sa sb : List Nat} (ha : StrRep a sa) (hb : StrRep b sb)
    (he : a.esz = b.esz) (ops : List (Bool × SOp × (Nat → Bool) × Nat)) (hd : ∀ x ∈ ops, x.2.1.dom) :
    (∀ a' b', srun a b ops = .ok (a', b') →
        StrRep a' (rrun sa sb ops).1 ∧ StrRep b' (rrun sa sb ops).2 ∧ a'.esz = b'.esz) ∧
    (∀ st, srun a b ops = .error st → st = .abort) := by
  have h := (srun_spec ha hb he ops hd).both
  exact ⟨fun a' b' hr => h.1 (a', b') hr, h.2⟩

/-- every reachable state of two fresh strings of width `esz` -/
theorem run_refines_from_init (esz : Nat) (h : 0 < esz)
    (ops : List (Bool × SOp × (Nat → Bool) × Nat)) (hd : ∀ x ∈ ops, x.2.1.dom) :
    (∀ a' b', srun (Vector.init esz false false) (Vector.init esz false false) ops = .ok (a', b') →
        StrRep a' (rrun [] [] ops).1 ∧ StrRep b' (rrun [] [] ops).2) ∧
    (∀ st, srun (Vector.init esz false false) (Vector.init esz false false) ops = .error st → st = .abort) := by
  obtain ⟨h1, h2⟩ := run_refines (strRep_init esz h) (strRep_init esz h) rfl ops hd
  exact ⟨fun a' b' hr => ⟨(h1 a' b' hr).1, (h1 a' b' hr).2.1⟩, h2⟩

/-- C10 `growth_abort_no_write`: a requested length whose storage cannot be
obtained — `n + 1` not representable, the byte count `(n + 2) * esz` not
representable, or the allocator refusing — makes `resize` stop with the abort.
The statement is only that equation: that no other kind of stop (an access
outside the storage) is possible is `strResize_spec` / `run_refines`; "nothing
was written" is the model's convention that an aborted call returns no state -/
theorem growth_abort_no_write {ans : Nat → Bool} {id : Nat} {v : Vector} {s : List Nat} {n : Nat}
    (h : StrRep v s) (hn : n < W) (hu : n = SIZE_MAX ∨ ¬ canGrow ans v (n + 1)) :
    strResize ans id v n = .error .abort :=
  ((strResize_spec h hn).abort_iff fun _ hr hc => hc.elim (absurd · hr.1) (absurd hr.2.1)).mpr hu

/-- C10 `pos_abort_iff`: when the growth a call needs is satisfiable (`hgi`
for the insertion of `n` characters, `hgs` for the `min n (size - pos)`
characters of the substring), each call aborts exactly when its position is
outside the documented range — beyond the end for insert (`pos > size`), at or
beyond the end for erase / substr / find / at -/
theorem pos_abort_iff {ans : Nat → Bool} {id : Nat} {v sub : Vector} {s t : List Nat} (h : StrRep v s)
    (hs : StrRep sub t) (hesz : sub.esz = v.esz) (ht : Terminated v) (pos n c : Nat)
    (hgi : n = 0 ∨ (s.length + n < SIZE_MAX ∧ canGrow ans v (s.length + n + 1)))
    (hgs : canGrow ans sub (min n (s.length - pos) + 1)) :
    (insertCh ans id v pos n c = .error .abort ↔ s.length < pos) ∧
    (erase ans id v pos n = .error .abort ↔ s.length ≤ pos) ∧
    (substr ans id v pos n sub = .error .abort ↔ s.length ≤ pos) ∧
    (findCh v c pos = .error .abort ↔ s.length ≤ pos) ∧
    (strAt v pos = .error .abort ↔ s.length ≤ pos) := by
  have two : ∀ {α : Type} {x : Except Stop α}, (s.length ≤ pos → x = .error .abort) →
      (pos < s.length → ∃ r, x = .ok r) → (x = .error .abort ↔ s.length ≤ pos) :=
    fun h1 h2 => ⟨fun he => Nat.le_of_not_lt fun hp => (by obtain ⟨r, hr⟩ := h2 hp; rw [hr] at he; cases he), h1⟩
  refine ⟨?_, ?_, ?_, ?_, ?_⟩
  · refine ((insertCh_spec h).mono (fun hn => ?_) fun _ hr => hr).abort_iff fun _ hr => Nat.not_lt.mpr hr.2.2.1
    exact Nat.lt_of_not_le fun hle => hn ⟨hle, hgi⟩
  · exact (erase_spec h pos n).abort_iff fun _ hr => Nat.not_le.mpr hr.1
  · exact ((substr_spec h hs hesz pos n).mono (·.resolve_right (not_not_intro hgs)) fun _ hr => hr).abort_iff
      fun _ hr => Nat.not_le.mpr hr.1
  · obtain ⟨h1, h2⟩ := findCh_eq_libc h ht c pos
    exact two h1 fun hp => ⟨_, h2 hp⟩
  · obtain ⟨h1, h2⟩ := strAt_spec h pos
    exact two h1 fun hp => ⟨_, (h2 hp).1⟩

/-! ### non-vacuity -/

def exS : Vector :=
  { base := some (3, 7), esz := 1, count := 4, cap := 6, cons := false, dest := false, elems := [97, 98, 99, 0] }

theorem exS_rep : StrRep exS [97, 98, 99] where
  ok := {
    inv := .of_block rfl (by decide) rfl (by decide) (by decide) rfl
    nocons := rfl
    nodest := rfl }
  rep := Or.inr rfl

/-- the hypotheses of `pos_abort_iff` / `growth_abort_no_write` are satisfiable -/
example : (2 = 0 ∨ (([97, 98, 99] : List Nat).length + 2 < SIZE_MAX ∧ canGrow (fun _ => true) exS (3 + 2 + 1))) ∧
    canGrow (fun _ => true) (Vector.init 1 false false) (min 2 (3 - 1) + 1) ∧ Terminated exS ∧
    ¬ canGrow (fun _ => false) exS 9 := by
  refine ⟨Or.inr ⟨by decide, Or.inl (by decide)⟩, Or.inr ⟨rfl, ?_⟩, Or.inr (by decide), ?_⟩
  · unfold unrepresentable; decide
  · unfold canGrow; simp [exS]
example : (erase (fun _ => true) 9 exS 1 SIZE_MAX).map (·.1.elems) = .ok [97, 0] := by rfl
example : (insertCh (fun _ => true) 9 exS 1 2 120).map (·.1.elems) = .ok [97, 120, 120, 98, 99, 0] := by rfl
example : insertCh (fun _ => true) 9 exS 4 1 120 = .error .abort := by rfl
example : insertCh (fun _ => true) 9 exS 1 (SIZE_MAX - 1) 120 = .error .abort := by rfl
example : insertCh (fun _ => false) 9 exS 1 9 120 = .error .abort := by rfl
example : strResize (fun _ => true) 9 exS SIZE_MAX = .error .abort := by rfl
example : (substr (fun _ => true) 9 exS 1 SIZE_MAX (Vector.init 1 false false)).map (·.1.elems) =
    .ok [98, 99, 0] := by rfl
example : findCh exS 99 1 = .ok (some 2) ∧ findCh exS 0 0 = .ok none ∧ findCh exS 97 3 = .error .abort :=
  ⟨by rfl, by rfl, by rfl⟩
example : compareStr exS [97, 98] = .ok 1 ∧ compareStr exS [97, 98, 99] = .ok 0 := ⟨by rfl, by rfl⟩
example :
    (srun (Vector.init 4 false false) (Vector.init 4 false false)
      [(false, .insertStrN 0 [97, 98, 99] 3, fun _ => true, 1),
       (true, .insertCh 0 2 120, fun _ => true, 2),
       (false, .insertObj 1, fun _ => true, 3),
       (false, .erase 4 SIZE_MAX, fun _ => true, 4),
       (false, .substrTo 1 SIZE_MAX, fun _ => true, 5),
       (true, .resize 5, fun _ => true, 6),
       (false, .swap, fun _ => true, 7),
       (true, .clear, fun _ => true, 8)]).map (fun r => (r.1.elems, r.2.elems)) =
    .ok ([120, 120, 98, 0, 0, 0], []) ∧
    rrun [] [] [(false, .insertStrN 0 [97, 98, 99] 3, fun _ => true, 1),
       (true, .insertCh 0 2 120, fun _ => true, 2),
       (false, .insertObj 1, fun _ => true, 3),
       (false, .erase 4 SIZE_MAX, fun _ => true, 4),
       (false, .substrTo 1 SIZE_MAX, fun _ => true, 5),
       (true, .resize 5, fun _ => true, 6),
       (false, .swap, fun _ => true, 7),
       (true, .clear, fun _ => true, 8)] = ([120, 120, 98, 0, 0], []) := ⟨by rfl, by decide⟩

/-! ### the pinned code violates the property (defect #6) -/

/-- the clamp of `substr_prep` before the repair: `pos + *len > size` in `size_t` -/
def substrPrepPinned (v : Vector) (pos len : Nat) : Except Stop Nat :=
  let size := strSize v
  if pos ≥ size then .error .abort
  else if addW pos len > size then .ok (size - pos) else .ok len

/-- on the pinned code the count `SIZE_MAX` at position 1 is **not** truncated
(`1 + SIZE_MAX` wraps to 0), while the repaired clamp truncates it -/
theorem pinned_clamp_wraps :
    substrPrepPinned exS 1 SIZE_MAX = .ok SIZE_MAX ∧ substrPrep exS 1 SIZE_MAX = .ok 2 := ⟨by rfl, by rfl⟩

end Cstl.Vec
