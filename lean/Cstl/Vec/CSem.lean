import Cstl.Vec.Model
import Cstl.Vec.CSemAttr
/-
Vocabulary of the C-to-Lean translation of src/vector.c and src/_string.c
(tools/c2lean_vec.py; generated file Cstl/Gen/VecC.lean, ties Cstl/Vec/Tie.lean).

The translator turns the *integer and control skeleton* of the C functions into
Lean: every `size_t` operation becomes `addW` / `subW` / `mulW` (the model's
explicit `% 2^64`), comparisons and `SIZE_MAX` are literal, `abort()` is
`.error .abort`.  What the C code does to memory and through callbacks is not
re-modelled there; it is expressed by the primitive steps below, which are the
model's own operations re-stated on *byte offsets* (so that the offset
computation `i * size` stays on the translated side) together with `…_mulW`
lemmas, proved by `rfl`, showing that these steps at offset `mulW i esz` are
the model's index-level operations.  The equations tagged `csem` rewrite a
translated function body into the model's `andThen` form.

Hand-written, not regenerated; besides Cstl.Vec.Model only the declaration of the
`csem` simp set is imported.
-/
namespace Cstl.Vec

/-! ### realloc / free on `elem.base` -/

/-- `e != NULL` for the value `e` returned by `realloc` -/
def RRes.isBlock : RRes → Bool
  | .moved _ _ => true
  | _ => false

/-- the event the interposer logs for `e = realloc(v->elem.base, bytes)` -/
def reallocEv (v : Vector) (bytes : Nat) : RRes → Ev
  | .fail => .rFail (baseId v) bytes
  | .freed => .rFree (baseId v)
  | .moved id n => .rOk (baseId v) id n

/-- `v->elem.base = e` for a block `e` returned by `realloc(v->elem.base, …)`:
the new block holds what `realloc` copied -/
def setBase (v : Vector) : RRes → Vector
  | .moved id n => { v with base := some (id, n), elems := copyInto v.elems v.esz (baseBytes v) n }
  | _ => v

/-- `v->elem.base = NULL` -/
def clearBase (v : Vector) : Vector := { v with base := none }

/-- `free(v->elem.base)` (`free(NULL)` is a no-op) -/
def freeEv (v : Vector) : List Ev :=
  match v.base with
  | none => []
  | some (b, _) => [Ev.free b]

/-! ### `count`, constructor / destructor callbacks -/

/-- `v->count = n`: `elems` are the values of the live slots `[0, count)`; a
slot that becomes live without having been written holds `undefV` -/
def setCount (v : Vector) (n : Nat) : Vector :=
  if v.count < n then { v with count := n, elems := v.elems ++ List.replicate (n - v.count) undefV }
  else if v.count > n then { v with count := n, elems := v.elems.take n }
  else v

/-- a value of type `cstl_xtor_func_t *` -/
inductive FnPtr where
  | null | cons | dest
deriving DecidableEq, Repr

/-- `v->elem.xtor.cons` -/
def consPtr (v : Vector) : FnPtr := if v.cons then .cons else .null
/-- `v->elem.xtor.dest` -/
def destPtr (v : Vector) : FnPtr := if v.dest then .dest else .null

/-- `f(__cstl_vector_at(v, i), priv)`: the callback is invoked on the address
of slot `i` (calling through NULL is a crash) -/
def callX (f : FnPtr) (v : Vector) (i : Nat) : Except Stop (Vector × List Ev) :=
  match f with
  | .null => .error .nullDeref
  | .cons => .ok ({ v with elems := v.elems.set i ctorV }, [Ev.ctor i])
  | .dest => .ok (v, [Ev.dtor i])

/-! ### raw accesses at a byte offset from `elem.base` -/

/-- `*(T *)(base + off) = x` -/
def storeOff (v : Vector) (off x : Nat) : Except Stop Vector :=
  match v.base with
  | none => .error .nullDeref
  | some (_, n) =>
    if off + v.esz ≤ n then .ok { v with elems := writeAt v.elems (off / v.esz) [x] }
    else .error .oob

/-- `memmove(base + dO, base + so, bytes)` -/
def moveOff (v : Vector) (dO so bytes : Nat) : Except Stop Vector :=
  if bytes = 0 then .ok v
  else match v.base with
    | none => .error .nullDeref
    | some (_, n) =>
      if so + bytes ≤ n ∧ dO + bytes ≤ n then
        .ok { v with elems := writeAt v.elems (dO / v.esz) (readAt v.elems (so / v.esz) (bytes / v.esz)) }
      else .error .oob

/-- the source operand of `memcpy(…, base + so, bytes)` -/
def readOff (v : Vector) (so bytes : Nat) : Except Stop (List Nat) :=
  if bytes = 0 then .ok []
  else match v.base with
    | none => .error .nullDeref
    | some (_, n) =>
      if so + bytes ≤ n then .ok (readAt v.elems (so / v.esz) (bytes / v.esz))
      else .error .oob

/-- `memcpy(base + dO, src, bytes)` from an array `src` -/
def writeOff (v : Vector) (dO : Nat) (src : List Nat) (bytes : Nat) : Except Stop Vector :=
  if bytes = 0 then .ok v
  else match v.base with
    | none => .error .nullDeref
    | some (_, n) =>
      let k := bytes / v.esz
      if k > src.length then .error .oob
      else if dO + bytes ≤ n then .ok { v with elems := writeAt v.elems (dO / v.esz) (src.take k) }
      else .error .oob

@[csem] theorem storeOff_mulW (v : Vector) (i x : Nat) : storeOff v (mulW i v.esz) x = rawSet v i x := rfl
@[csem] theorem moveOff_mulW (v : Vector) (dst src bytes : Nat) :
    moveOff v (mulW dst v.esz) (mulW src v.esz) bytes = rawMove v dst src bytes := rfl
@[csem] theorem readOff_mulW (v : Vector) (idx bytes : Nat) : readOff v (mulW idx v.esz) bytes = rawRead v idx bytes := rfl
@[csem] theorem writeOff_mulW (v : Vector) (idx : Nat) (src : List Nat) (bytes : Nat) :
    writeOff v (mulW idx v.esz) src bytes = rawWrite v idx src bytes := rfl

/-! ### sequencing for translated functions that contain a loop

Such a function takes `fuel`; `none` = the fuel ran out before a loop ended. -/

def bindF {α β : Type} (x : Option (Except Stop α)) (f : α → Option (Except Stop β)) :
    Option (Except Stop β) :=
  match x with
  | none => none
  | some (.error s) => some (.error s)
  | some (.ok a) => f a

theorem bindF_some_ok {α β : Type} (a : α) (f : α → Option (Except Stop β)) :
    bindF (some (.ok a)) f = f a := rfl
theorem bindF_some_error {α β : Type} (s : Stop) (f : α → Option (Except Stop β)) :
    bindF (some (.error s : Except Stop α)) f = some (.error s) := rfl
theorem bindF_none {α β : Type} (f : α → Option (Except Stop β)) :
    bindF (none : Option (Except Stop α)) f = none := rfl

/-- a step that cannot run out of fuel, followed by the rest (which may use what the step returned) -/
theorem bindF_some {α β : Type} (x : Except Stop α) (f : α → Option (Except Stop β))
    (g : α → Except Stop β) (h : ∀ a, x = .ok a → f a = some (g a)) :
    bindF (some x) f = some (andThen x g) := by
  cases x with
  | error s => rfl
  | ok a => exact h a rfl

@[csem] theorem bindF_some_some {α β : Type} (x : Except Stop α) (g : α → Except Stop β) :
    bindF (some x) (fun a => some (g a)) = some (andThen x g) := by
  cases x <;> rfl

@[csem] theorem bindF_ok_eta {α : Type} (x : Option (Except Stop α)) : bindF x (fun a => some (.ok a)) = x := by
  rcases x with _ | _ | _ <;> rfl

@[csem] theorem ite_some_some {α : Type} (c : Prop) [Decidable c] (a b : α) :
    (if c then some a else some b) = some (if c then a else b) := by
  split <;> rfl

@[csem] theorem andThen_ok_right {α : Type} (x : Except Stop α) : andThen x (fun r => .ok r) = x := by
  cases x <;> rfl

attribute [csem] bindF_some_ok bindF_some_error bindF_none andThen_ok andThen_error List.nil_append

end Cstl.Vec
