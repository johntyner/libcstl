import Cstl.Vec.Props
import Cstl.Vec.Spec
namespace Cstl.Vec

/-- requested sizes are `size_t` values -/
def VOp.sizesOk : VOp → Prop
  | .reserve sz => sz < W
  | .resize sz => sz < W
  | _ => True

/-- the block of `v` is a live allocation of the ledger -/
def Owned (h : Heap) (v : Vector) : Prop :=
  ∀ id n, v.base = some (id, n) → id ∈ h.live ∧ id < h.next ∧ 0 < id

/-- the invariant of two vectors over one allocator: each satisfies `Inv`, owns its block in the
ledger, and the two blocks differ -/
structure SysInv (s : Sys) : Prop where
  inva : Inv s.a
  invb : Inv s.b
  owna : Owned s.heap s.a
  ownb : Owned s.heap s.b
  disj : ∀ i n j m, s.a.base = some (i, n) → s.b.base = some (j, m) → i ≠ j
  next_pos : 0 < s.heap.next

theorem applyAll_append (h : Heap) (a b : List Ev) : h.applyAll (a ++ b) = (h.applyAll a).applyAll b := by
  unfold Heap.applyAll
  rw [List.foldl_append]

theorem applyAll_consUp (h : Heap) (k c : Nat) : h.applyAll (consUp k c) = h := by
  induction k generalizing c with
  | zero => rfl
  | succ k ih =>
    show (h.apply (.ctor c)).applyAll (consUp k (c + 1)) = h
    exact ih (c + 1)

theorem applyAll_destDown (h : Heap) (k c : Nat) : h.applyAll (destDown k c) = h := by
  induction k generalizing c with
  | zero => rfl
  | succ k ih =>
    show (h.apply (.dtor (c - 1))).applyAll (destDown k (c - 1)) = h
    exact ih (c - 1)

/-- what the events `evs` of one operation `v → v'` do to the ledger: nothing, one block handed out
under `id` for the old one, or the block freed -/
inductive HeapEffect (id : Nat) (v v' : Vector) (evs : List Ev) : Prop where
  | untouched (hb : v'.base = v.base) (hh : ∀ hp : Heap, hp.applyAll evs = hp)
  | moved (n : Nat) (hb : v'.base = some (id, n))
      (hh : ∀ hp : Heap, hp.applyAll evs = hp.apply (.rOk (baseId v) id n))
  | freed (hb : v'.base = none)
      (hh : ∀ hp : Heap, hp.applyAll evs = match v.base with
        | none => hp
        | some (b, _) => hp.apply (.free b))

theorem HeapEffect.congr {id : Nat} {v v1 w : Vector} {e1 x : List Ev} (he : HeapEffect id v v1 e1)
    (hb : w.base = v1.base) (hx : ∀ hp : Heap, hp.applyAll x = hp.applyAll e1) : HeapEffect id v w x := by
  cases he with
  | untouched hb' hh => exact .untouched (hb.trans hb') fun hp => (hx hp).trans (hh hp)
  | moved n hb' hh => exact .moved n (hb.trans hb') fun hp => (hx hp).trans (hh hp)
  | freed hb' hh => exact .freed (hb.trans hb') fun hp => (hx hp).trans (hh hp)

theorem setCapacity_effect {ans : Nat → Bool} {id : Nat} {v : Vector} {sz : Nat}
    (he : 0 < v.esz) (hsz : sz < W) :
    HeapEffect id v (setCapacity ans id v sz).1 (setCapacity ans id v sz).2 := by
  rw [setCapacity_eq ans id he hsz]
  split
  · exact .untouched rfl fun _ => rfl
  · split
    · exact .moved _ rfl fun _ => rfl
    · exact .untouched rfl fun _ => rfl

theorem reserve_effect {ans : Nat → Bool} {id : Nat} {v : Vector} {sz : Nat} (he : 0 < v.esz) (hsz : sz < W) :
    HeapEffect id v (reserve ans id v sz).1 (reserve ans id v sz).2 := by
  unfold reserve
  split
  · exact setCapacity_effect he hsz
  · exact .untouched rfl fun _ => rfl

theorem applyAll_resizeTo (hp : Heap) (v1 : Vector) (e1 : List Ev) (sz : Nat) :
    hp.applyAll (resizeTo v1 e1 sz).2 = hp.applyAll e1 := by
  unfold resizeTo
  by_cases hlt : v1.count < sz
  · rw [if_pos hlt]
    cases v1.cons
    · rfl
    · exact (applyAll_append ..).trans (applyAll_consUp ..)
  · rw [if_neg hlt]
    by_cases hgt : v1.count > sz
    · rw [if_pos hgt]
      cases v1.dest
      · rfl
      · exact (applyAll_append ..).trans (applyAll_destDown ..)
    · rw [if_neg hgt]

theorem applyAll_clearEvs (hp : Heap) (v : Vector) :
    hp.applyAll (clearEvs v) = match v.base with
      | none => hp
      | some (b, _) => hp.apply (.free b) := by
  have hd : hp.applyAll (if v.dest = true then destDown v.count v.count else []) = hp := by
    split
    · exact applyAll_destDown ..
    · rfl
  unfold clearEvs
  rw [applyAll_append, hd]
  cases v.base <;> rfl

theorem shrink_effect {ans : Nat → Bool} {id : Nat} {v : Vector} (h : Inv v) :
    HeapEffect id v (shrink ans id v).1 (shrink ans id v).2 := by
  unfold shrink
  split
  · exact setCapacity_effect h.esz_pos h.count_lt_W
  · exact .untouched rfl fun _ => rfl

theorem vstepV_spec {ans : Nat → Bool} {id : Nat} {v : Vector} (h : Inv v) (op : VOp) :
    Spec (vstepV ans id v op) True fun r => op.sizesOk → Inv r.1 ∧ HeapEffect id v r.1 r.2 := by
  -- sort, reverse, set: the block stays, no events
  have same : ∀ {x : Except Stop Vector} {w : Vector}, x = .ok w → Inv w → w.base = v.base →
      Spec (match x with
          | .error st => (Except.error st : Except Stop (Vector × List Ev))
          | .ok v' => .ok (v', [])) True fun r => op.sizesOk → Inv r.1 ∧ HeapEffect id v r.1 r.2 := by
    intro x w hx hi hb
    rw [hx]
    exact .ok fun _ => ⟨hi, .untouched hb fun _ => rfl⟩
  cases op with
  | reserve sz => exact .ok fun hok => ⟨reserve_inv h hok, reserve_effect h.esz_pos hok⟩
  | shrink => exact .ok fun _ => ⟨shrink_inv h, shrink_effect h⟩
  | resize sz =>
    show Spec (resize ans id v sz) _ _
    by_cases hcap : (reserve ans id v sz).1.cap < sz
    · rw [resize_eq, if_pos hcap]
      exact .abort trivial
    · have hr : resize ans id v sz = .ok (resizeTo (reserve ans id v sz).1 (reserve ans id v sz).2 sz) := by
        rw [resize_eq, if_neg hcap]
      rw [hr]
      refine .ok fun hsz => ⟨(resize_inv h hsz hr).1, ?_⟩
      exact (reserve_effect h.esz_pos hsz).congr (by rw [resizeTo_fst (reserve_inv h hsz).len])
        fun hp => applyAll_resizeTo hp ..
  | clear =>
    show Spec (clear v) _ _
    rw [(clear_spec h).1]
    exact .ok fun _ => ⟨inv_cleared v h.esz_pos, .freed rfl fun hp => applyAll_clearEvs hp v⟩
  | swap => exact .ok fun _ => ⟨h, .untouched rfl fun _ => rfl⟩
  | sort =>
    obtain ⟨w, hw, hi, _, hb, _⟩ := vsort_spec h
    exact same hw hi hb
  | reverse =>
    obtain ⟨w, hw, hi, _, hb, _⟩ := vreverse_spec h
    exact same hw hi hb
  | set i x =>
    by_cases hi : i < v.count
    · exact same ((vget_vset_safe h i x).1 hi).2 (inv_with_elems h (by simp [h.len])) rfl
    · simp only [vstepV, ((vget_vset_safe h i x).2 (Nat.le_of_not_lt hi)).2]
      exact .abort trivial
  | get i =>
    by_cases hi : i < v.count
    · obtain ⟨y, hy, _⟩ := ((vget_vset_safe h i 0).1 hi).1
      simp only [vstepV, hy]
      exact .ok fun _ => ⟨h, .untouched rfl fun _ => rfl⟩
    · simp only [vstepV, ((vget_vset_safe h i 0).2 (Nat.le_of_not_lt hi)).1]
      exact .abort trivial

/-- ledger bookkeeping shared by both vectors: the vector that was operated
on (`v → v'`) and the bystander `o`.  A block that `realloc` hands out gets the
id `hp.next`, which exceeds every owned id, so it is new to both vectors.
`baseId` of a vector without storage is 0 (`realloc(NULL, …)`): ids are positive
(`0 < id` in `Owned`, `next_pos` in `SysInv`) so that erasing id 0 from the
ledger never removes the bystander's block. -/
theorem owned_after {hp : Heap} {v v' o : Vector} {evs : List Ev}
    (hv : Owned hp v) (ho : Owned hp o) (hpos : 0 < hp.next)
    (hd : ∀ i n j m, v.base = some (i, n) → o.base = some (j, m) → i ≠ j)
    (he : HeapEffect hp.next v v' evs) :
    Owned (hp.applyAll evs) v' ∧ Owned (hp.applyAll evs) o ∧ 0 < (hp.applyAll evs).next ∧
    (∀ i n j m, v'.base = some (i, n) → o.base = some (j, m) → i ≠ j) := by
  cases he with
  | untouched hb hh =>
    rw [hh]
    refine ⟨?_, ho, hpos, ?_⟩
    · intro id n h1; rw [hb] at h1; exact hv id n h1
    · intro i n j m h1; rw [hb] at h1; exact hd i n j m h1
  | moved n hb hh =>
    rw [hh]
    refine ⟨?_, ?_, ?_, ?_⟩
    · intro id m h1
      rw [hb] at h1
      injection h1 with h1; injection h1 with h1 _; subst h1
      simp [Heap.apply]
      omega
    · intro j m h1
      obtain ⟨hm, hlt, hp0⟩ := ho j m h1
      have hne : j ≠ baseId v := by
        unfold baseId
        cases hvb : v.base with
        | none => simp; omega
        | some p => obtain ⟨i, k⟩ := p; simp; exact fun e => hd i k j m hvb h1 e.symm
      simp [Heap.apply]
      refine ⟨Or.inl ((List.mem_erase_of_ne hne).mpr hm), by omega, hp0⟩
    · simp [Heap.apply]
    · intro i k j m h1 h2
      rw [hb] at h1
      injection h1 with h1; injection h1 with h1 _; subst h1
      have := (ho j m h2).2.1
      omega
  | freed hb hh =>
    rw [hh]
    refine ⟨?_, ?_, ?_, ?_⟩
    · intro id n h1; rw [hb] at h1; cases h1
    · intro j m h1
      obtain ⟨hm, hlt, hp0⟩ := ho j m h1
      cases hvb : v.base with
      | none => exact ⟨hm, hlt, hp0⟩
      | some p =>
        obtain ⟨i, k⟩ := p
        have hne : j ≠ i := fun e => hd i k j m hvb h1 e.symm
        exact ⟨(List.mem_erase_of_ne hne).mpr hm, hlt, hp0⟩
    · cases hvb : v.base with
      | none => exact hpos
      | some p => obtain ⟨i, k⟩ := p; exact hpos
    · intro i n j m h1; rw [hb] at h1; cases h1

theorem Sys.step_of_ne_swap (s : Sys) (w : Bool) {op : VOp} (ans : Nat → Bool) (hsw : op ≠ .swap) :
    s.step w op ans = match vstepV ans s.heap.next (s.sel w) op with
      | .error st => .error st
      | .ok (v, evs) => .ok (s.put w v (s.heap.applyAll evs)) := by
  cases op <;> first | exact absurd rfl hsw | rfl

theorem step_spec {s : Sys} (h : SysInv s) (w : Bool) (op : VOp) (ans : Nat → Bool) :
    Spec (s.step w op ans) True fun s' => op.sizesOk → SysInv s' := by
  have hswap : ∀ i n j m, s.b.base = some (i, n) → s.a.base = some (j, m) → i ≠ j :=
    fun i n j m h1 h2 => (h.disj j m i n h2 h1).symm
  by_cases hsw : op = .swap
  · subst hsw
    exact .ok fun _ => ⟨h.invb, h.inva, h.ownb, h.owna, hswap, h.next_pos⟩
  · rw [s.step_of_ne_swap w ans hsw]
    have hsel : Inv (s.sel w) := by cases w <;> first | exact h.inva | exact h.invb
    rcases vstepV_spec (ans := ans) (id := s.heap.next) hsel op with ⟨hr, _⟩ | ⟨r, hr, hp⟩
    · rw [hr]
      exact .abort trivial
    rw [hr]
    refine .ok fun hok => ?_
    obtain ⟨hi, he⟩ := hp hok
    cases w with
    | false =>
      obtain ⟨o1, o2, o3, o4⟩ := owned_after h.owna h.ownb h.next_pos h.disj he
      exact ⟨hi, h.invb, o1, o2, o4, o3⟩
    | true =>
      obtain ⟨o1, o2, o3, o4⟩ := owned_after h.ownb h.owna h.next_pos hswap he
      exact ⟨h.inva, hi, o2, o1, fun i n j m h1 h2 => (o4 j m i n h2 h1).symm, o3⟩

/-- one step of the system keeps the system invariant -/
theorem step_inv {s s' : Sys} {w : Bool} {op : VOp} {ans : Nat → Bool}
    (h : SysInv s) (hok : op.sizesOk) (hr : s.step w op ans = .ok s') : SysInv s' :=
  (step_spec h w op ans).post hr hok

/-- a step can only stop with the documented abort -/
theorem step_error {s : Sys} {w : Bool} {op : VOp} {ans : Nat → Bool} {st : Stop}
    (h : SysInv s) (hr : s.step w op ans = .error st) : st = .abort :=
  ((step_spec h w op ans).stop hr).1

theorem Sys.run_spec {s : Sys} (h : SysInv s) (ops : List (Bool × VOp × (Nat → Bool)))
    (hok : ∀ x ∈ ops, x.2.1.sizesOk) : Spec (s.run ops) True SysInv := by
  induction ops generalizing s with
  | nil => exact .ok h
  | cons x rest ih =>
    obtain ⟨w, op, ans⟩ := x
    rw [Sys.run]
    rcases step_spec h w op ans with ⟨hr, _⟩ | ⟨s1, hr, hp⟩
    · rw [hr]
      exact .abort trivial
    · rw [hr]
      exact ih (hp (hok _ (List.mem_cons_self ..))) fun x hx => hok x (List.mem_cons_of_mem _ hx)

/-- **C09, every history.**  From any state satisfying the invariant (in
particular two freshly initialised vectors), for every operation sequence,
every choice of vector, every requested size below 2^64 and every sequence of
allocator answers: if the run completes the invariant holds in the final state
— size ≤ capacity, and a live block of exactly `(capacity + 1) * esz` bytes
(no wrap) owned by that vector alone — and if it stops it stops with the
documented abort, never with an access outside storage. -/
theorem run_inv {s : Sys} (h : SysInv s) (ops : List (Bool × VOp × (Nat → Bool)))
    (hok : ∀ x ∈ ops, x.2.1.sizesOk) :
    (∀ s', s.run ops = .ok s' → SysInv s') ∧ (∀ st, s.run ops = .error st → st = .abort) :=
  (Sys.run_spec h ops hok).both

theorem sysInv_init (e1 e2 : Nat) (c1 d1 c2 d2 : Bool) (h1 : 0 < e1) (h2 : 0 < e2) :
    SysInv { a := Vector.init e1 c1 d1, b := Vector.init e2 c2 d2, heap := Heap.init } :=
  ⟨inv_init e1 c1 d1 h1, inv_init e2 c2 d2 h2,
   fun _ _ hb => by simp [Vector.init] at hb, fun _ _ hb => by simp [Vector.init] at hb,
   fun _ _ _ _ hb => by simp [Vector.init] at hb, by simp [Heap.init]⟩

/-- every reachable state: the statement of `run_inv` from two fresh vectors -/
theorem run_inv_from_init (e1 e2 : Nat) (c1 d1 c2 d2 : Bool) (h1 : 0 < e1) (h2 : 0 < e2)
    (ops : List (Bool × VOp × (Nat → Bool))) (hok : ∀ x ∈ ops, x.2.1.sizesOk) :
    let s0 : Sys := { a := Vector.init e1 c1 d1, b := Vector.init e2 c2 d2, heap := Heap.init }
    (∀ s', s0.run ops = .ok s' → SysInv s') ∧ (∀ st, s0.run ops = .error st → st = .abort) :=
  run_inv (sysInv_init e1 e2 c1 d1 c2 d2 h1 h2) ops hok

/-! ### non-vacuity: the hypotheses hold on concrete non-trivial states -/

def exV : Vector :=
  { base := some (7, 24), esz := 4, count := 3, cap := 5, cons := true, dest := true, elems := [1, 2, 3] }

theorem exV_inv : Inv exV := .of_block rfl (by decide) rfl (by decide) (by decide) rfl

/-- `reserve(SIZE_MAX)` and `reserve(2^62)` (4-byte elements) are no-ops that do not
even ask the allocator (the witnesses of defect #5), whatever it would answer -/
example : reserve (fun _ => true) 9 exV SIZE_MAX = (exV, []) := by decide
example : reserve (fun _ => true) 9 exV (2 ^ 62) = (exV, []) := by decide
example : unrepresentable exV.esz (2 ^ 62) := by unfold unrepresentable; decide
example : (reserve (fun _ => true) 9 exV 9).1 =
    { exV with base := some (9, 40), cap := 9 } := by decide
example : reserve (fun _ => false) 9 exV 9 = (exV, [.rFail 7 40]) := by decide
example : resize (fun _ => false) 9 exV 9 = .error .abort := by rfl
example : resize (fun _ => true) 9 exV 7 =
    .ok ({ exV with base := some (9, 32), cap := 7, count := 7, elems := [1, 2, 3, 192, 192, 192, 192] },
         [.rOk 7 9 32, .ctor 3, .ctor 4, .ctor 5, .ctor 6]) := by rfl
example : resize (fun _ => true) 9 exV 1 =
    .ok ({ exV with count := 1, elems := [1] }, [.dtor 2, .dtor 1]) := by rfl
example : vat exV 2 = .ok 8 ∧ vat exV 3 = .error .abort := ⟨by rfl, by rfl⟩
example :
    ∃ s', ({ a := Vector.init 4 true true, b := Vector.init 16 false false, heap := Heap.init } : Sys).run
      [(false, .resize 3, fun _ => true), (true, .reserve 5, fun _ => true),
       (false, .reserve SIZE_MAX, fun _ => true), (false, .reserve 100, fun _ => false),
       (false, .set 1 77, fun _ => true), (false, .swap, fun _ => true),
       (true, .resize 1, fun _ => true), (true, .shrink, fun _ => true), (false, .clear, fun _ => true)]
      = .ok s' ∧ s'.b.elems = [192] ∧ s'.b.cap = 1 ∧ s'.a.base = none ∧ s'.heap.live = [3] := by
  refine ⟨_, rfl, ?_⟩
  decide

/-! ### the pinned code violates the invariant (defect #5) -/

/-- `cstl_vector_set_capacity` as it was before the repair: `(sz + 1) * size`
computed in `size_t` and handed to `realloc` unchecked -/
def setCapacityPinned (ans : Nat → Bool) (newId : Nat) (v : Vector) (sz : Nat) : Vector × List Ev :=
  let bytes := mulW (addW sz 1) v.esz
  match reallocM ans newId v.base bytes with
  | .fail => (v, [.rFail (baseId v) bytes])
  | .freed => (v, [.rFree (baseId v)])
  | .moved id n =>
    ({ v with base := some (id, n), cap := sz, elems := copyInto v.elems v.esz (baseBytes v) n },
     [.rOk (baseId v) id n])

/-- on the pinned code the invariant is false after `reserve(SIZE_MAX)` on an
empty vector (capacity 2^64-1 over a 0-byte block) and after `reserve(2^62)`
with 4-byte elements (4 bytes) -/
theorem pinned_breaks_inv :
    ¬ Inv (setCapacityPinned (fun _ => true) 1 (Vector.init 4 false false) SIZE_MAX).1 ∧
    ¬ Inv (setCapacityPinned (fun _ => true) 1 (Vector.init 4 false false) (2 ^ 62)).1 := by
  constructor
  · intro h
    have := h.bytes 1 0 (by decide)
    revert this; decide
  · intro h
    have := h.bytes 1 4 (by decide)
    revert this; decide

end Cstl.Vec
