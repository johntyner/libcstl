import Cstl.Vec.StrResize
namespace Cstl.Vec

/-- reference semantics of `insert_*`: splice `xs` in at `pos` -/
def refInsert (s : List Nat) (pos : Nat) (xs : List Nat) : List Nat := s.take pos ++ xs ++ s.drop pos
/-- … of `erase`: drop the (clamped) `n` characters at `pos` -/
def refErase (s : List Nat) (pos n : Nat) : List Nat := s.take pos ++ s.drop (pos + min n (s.length - pos))
/-- … of `substr`: the (at most) `n` characters at `pos` -/
def refSubstr (s : List Nat) (pos n : Nat) : List Nat := (s.drop pos).take n

theorem refInsert_split (a b xs : List Nat) : refInsert (a ++ b) a.length xs = a ++ xs ++ b := by
  unfold refInsert
  rw [List.take_left' rfl, List.drop_left' rfl]

theorem refErase_split {a c b : List Nat} {n : Nat} (hc : min n ((a ++ c ++ b).length - a.length) = c.length) :
    refErase (a ++ c ++ b) a.length n = a ++ b := by
  unfold refErase
  rw [hc, ← List.length_append, List.drop_left' rfl, List.append_assoc a c b, List.take_left' rfl]

theorem refSubstr_split {a c b : List Nat} {n : Nat} (hc : min n ((a ++ c ++ b).length - a.length) = c.length) :
    refSubstr (a ++ c ++ b) a.length n = c := by
  unfold refSubstr
  rw [List.append_assoc a c b, List.drop_left' rfl, List.take_eq_take_min, List.take_left' ?_]
  rw [← hc, List.append_assoc a c b, List.length_append, Nat.add_sub_cancel_left]

/-- when is the growth of a string of `sl` characters by `len` satisfiable?  (`sl + len`
strictly below `SIZE_MAX`: the terminator needs a slot too) -/
def insertOK (ans : Nat → Bool) (v : Vector) (sl pos len : Nat) : Prop :=
  pos ≤ sl ∧ (len = 0 ∨ (sl + len < SIZE_MAX ∧ canGrow ans v (sl + len + 1)))

theorem not_insertOK_iff {ans : Nat → Bool} {v : Vector} {sl pos len : Nat} :
    ¬ insertOK ans v sl pos len ↔
      (sl < pos ∨ (0 < len ∧ (SIZE_MAX ≤ sl + len ∨ ¬ canGrow ans v (sl + len + 1)))) := by
  unfold insertOK
  constructor
  · intro hn
    by_cases hp : sl < pos
    · exact Or.inl hp
    · refine Or.inr ⟨Nat.pos_of_ne_zero fun h0 => hn ⟨Nat.le_of_not_lt hp, Or.inl h0⟩, ?_⟩
      by_cases hs : SIZE_MAX ≤ sl + len
      · exact Or.inl hs
      · exact Or.inr fun hcg => hn ⟨Nat.le_of_not_lt hp, Or.inr ⟨Nat.lt_of_not_le hs, hcg⟩⟩
  · rintro (hp | ⟨hl, hs⟩) ⟨h1, h2⟩
    · omega
    · rcases h2 with h2 | ⟨h2, h3⟩
      · omega
      · exact hs.elim (fun hs => by omega) (fun hs => hs h3)

/-- the state `prep_insert` hands to its caller: the tail `b` has been moved up by
`len`, the `len` slots at `pos` hold junk that the caller overwrites -/
theorem prepInsert_spec {ans : Nat → Bool} {id : Nat} {v : Vector} {s : List Nat} {pos len : Nat}
    (h : StrRep v s) :
    Spec (prepInsert ans id v pos len) (¬ insertOK ans v s.length pos len) fun r =>
      insertOK ans v s.length pos len ∧ StrOK r.1 ∧ r.1.esz = v.esz ∧ (len = 0 → r.1 = v) ∧
      (0 < len → ∃ a b junk : List Nat, s = a ++ b ∧ a.length = pos ∧ junk.length = len ∧
         r.1.elems = a ++ junk ++ b ++ [0]) := by
  unfold prepInsert
  rw [h.size, not_insertOK_iff]
  by_cases hp : pos > s.length
  · rw [if_pos hp]
    exact .abort (Or.inl hp)
  · have hpos : pos ≤ s.length := Nat.le_of_not_lt hp
    rw [if_neg hp]
    by_cases hl : len > 0
    · rw [if_pos hl]
      by_cases hov : len > SIZE_MAX - s.length
      · rw [if_pos hov]
        exact .abort (Or.inr ⟨hl, Or.inl (by omega)⟩)
      · have hsl := h.len_lt_W
        have hsum : s.length + len < W := by rw [W_eq] at *; rw [SIZE_MAX_eq] at hov; omega
        rw [if_neg hov, addW_of_lt hsum]
        refine ((strResize0_spec h.ok hsum).mono
          (fun hc => Or.inr ⟨hl, hc.imp (fun e => by omega) fun hc => hc⟩) fun _ hr => hr).bind fun r hres => ?_
        have hok := hres.ok
        have hc := hres.count
        -- after `__resize` the slots are `s ++ mid ++ [0]` (`Resized0.elems_of_lt`); with `s = a ++ b` split at `pos`,
        -- the memmove (`rawMove_up`) takes `b` to the end and leaves junk in `mid`'s place
        obtain ⟨mid, hml, hel⟩ := hres.elems_of_lt h (by omega)
        obtain ⟨a, b, rfl, rfl⟩ := split_at s hpos
        rw [List.length_append] at *
        obtain rfl : len = mid.length := by omega
        obtain ⟨j, hj, hinv, hmv⟩ := rawMove_up hok.inv hel
        have hmul : mulW b.length v.esz = b.length * r.1.esz := by rw [← hres.esz, hok.inv.mulW_eq (by omega)]
        rw [subW_of_le (Nat.le_add_right ..) hsl, Nat.add_sub_cancel_left, addW_of_lt (by omega), hmul, hmv,
          andThen_ok]
        exact .ok ⟨⟨hpos, Or.inr ⟨lt_SIZE_MAX hsum hres.ne_max, hres.grow⟩⟩, ⟨hinv, hok.nocons, hok.nodest⟩, hres.esz,
          fun h0 => absurd h0 (Nat.ne_of_gt hl), fun _ => ⟨a, b, j, rfl, rfl, by omega, rfl⟩⟩
    · rw [if_neg hl]
      exact .ok ⟨⟨hpos, Or.inl (by omega)⟩, h.ok, rfl, fun _ => rfl, fun h0 => absurd h0 hl⟩

theorem prepInsert_ok_iff {ans : Nat → Bool} {id : Nat} {v : Vector} {s : List Nat} {pos len : Nat}
    (h : StrRep v s) :
    (∃ v' evs, prepInsert ans id v pos len = .ok (v', evs)) ↔ insertOK ans v s.length pos len :=
  Prod.exists.symm.trans ((prepInsert_spec h).ok_iff (fun _ hr => hr.1) not_not_intro)

/-- `insert_ch` and `insert_str_n`: `prep_insert`, then a step `F` that stores `xs` into the
`len` slots at `pos` -/
theorem insert_spec {ans : Nat → Bool} {id : Nat} {v : Vector} {s xs : List Nat} {pos len : Nat}
    {F : Vector → Except Stop Vector} (h : StrRep v s) (hxs : xs.length = len) (hF0 : len = 0 → F v = .ok v)
    (hF : ∀ (r : Vector) (pre junk post : List Nat), StrOK r → r.esz = v.esz → pre.length = pos →
      junk.length = len → pos + len ≤ r.count → r.elems = pre ++ junk ++ post →
      F r = .ok { r with elems := pre ++ xs ++ post }) :
    Spec (andThen (prepInsert ans id v pos len) fun r => andThen (F r.1) fun v2 => .ok (v2, r.2))
      (¬ insertOK ans v s.length pos len) fun r =>
      StrRep r.1 (refInsert s pos xs) ∧ r.1.esz = v.esz ∧ insertOK ans v s.length pos len := by
  refine (prepInsert_spec h).bind fun r ⟨hio, hok, he, hz, hnz⟩ => ?_
  by_cases hl : len = 0
  · rw [hz hl, hF0 hl, andThen_ok]
    refine .ok ⟨?_, rfl, hio⟩
    rw [List.eq_nil_of_length_eq_zero (hxs.trans hl)]
    unfold refInsert
    rw [List.append_nil, List.take_append_drop]
    exact h
  · obtain ⟨a, b, junk, rfl, rfl, hjl, hel⟩ := hnz (Nat.pos_of_ne_zero hl)
    have hlen := hok.inv.len
    rw [hel] at hlen
    simp only [List.length_append, List.length_cons, List.length_nil] at hlen
    rw [hF r.1 a junk _ hok he rfl hjl (by omega) (hel.trans (List.append_assoc ..)), andThen_ok]
    refine .ok ⟨⟨⟨inv_with_elems hok.inv ?_, hok.nocons, hok.nodest⟩, Or.inr ?_⟩, he, hio⟩
    · simp only [List.length_append, List.length_cons, List.length_nil]
      omega
    · show a ++ xs ++ (b ++ [0]) = _
      rw [refInsert_split, List.append_assoc (a ++ xs)]

theorem insertCh_spec {ans : Nat → Bool} {id : Nat} {v : Vector} {s : List Nat} {pos cnt ch : Nat}
    (h : StrRep v s) :
    Spec (insertCh ans id v pos cnt ch) (¬ insertOK ans v s.length pos cnt) fun r =>
      StrRep r.1 (refInsert s pos (List.replicate cnt ch)) ∧ r.1.esz = v.esz ∧ insertOK ans v s.length pos cnt := by
  refine insert_spec (F := fun r => fillLoop cnt r pos ch) h List.length_replicate (fun h0 => by rw [h0]; rfl) ?_
  intro r pre junk post hok _ hpre hjl _ hel
  subst hpre
  exact fillLoop_in hok.inv cnt hel hjl

theorem insertStrN_spec {ans : Nat → Bool} {id : Nat} {v : Vector} {s src : List Nat} {pos len : Nat}
    (h : StrRep v s) (hsrc : len ≤ src.length) :
    Spec (insertStrN ans id v pos src len) (¬ insertOK ans v s.length pos len) fun r =>
      StrRep r.1 (refInsert s pos (src.take len)) ∧ r.1.esz = v.esz ∧ insertOK ans v s.length pos len := by
  refine insert_spec (F := fun r => rawWrite r pos src (mulW len v.esz)) h
    (by rw [List.length_take]; exact Nat.min_eq_left hsrc) (fun h0 => by simp [h0, mulW, rawWrite]) ?_
  intro r pre junk post hok he hpre hjl hle hel
  subst hpre
  show rawWrite r pre.length src (mulW len v.esz) = _
  rw [← he, hok.inv.mulW_eq (by omega), rawWrite_in hok.inv hle hsrc, hel,
    writeAt_split (by rw [hjl, List.length_take]; exact (Nat.min_eq_left hsrc).symm)]

/-- C10: `insert_ch(pos, cnt, ch)` splices `cnt` copies of `ch` in at `pos` -/
theorem insertCh_refines {ans : Nat → Bool} {id : Nat} {v v' : Vector} {s : List Nat} {pos cnt ch : Nat}
    {evs : List Ev} (h : StrRep v s) (hr : insertCh ans id v pos cnt ch = .ok (v', evs)) :
    StrRep v' (refInsert s pos (List.replicate cnt ch)) ∧ v'.esz = v.esz ∧ insertOK ans v s.length pos cnt :=
  (insertCh_spec h).post hr

/-- C10: `insert_str_n(pos, src, len)` splices the first `len` characters of
the caller's array in at `pos` (`len ≤ src.length`: the array really holds
`len` characters) -/
theorem insertStrN_refines {ans : Nat → Bool} {id : Nat} {v v' : Vector} {s src : List Nat}
    {pos len : Nat} {evs : List Ev} (h : StrRep v s) (hsrc : len ≤ src.length)
    (hr : insertStrN ans id v pos src len = .ok (v', evs)) :
    StrRep v' (refInsert s pos (src.take len)) ∧ v'.esz = v.esz ∧ insertOK ans v s.length pos len :=
  (insertStrN_spec h hsrc).post hr

/-- the only way `insert_ch` stops is the documented abort, and it does so
exactly when the position is beyond the end or the growth cannot be satisfied -/
theorem insertCh_error {ans : Nat → Bool} {id : Nat} {v : Vector} {s : List Nat} {pos cnt ch : Nat}
    {st : Stop} (h : StrRep v s) (hr : insertCh ans id v pos cnt ch = .error st) :
    st = .abort ∧ ¬ insertOK ans v s.length pos cnt :=
  (insertCh_spec h).stop hr

theorem insertStrN_error {ans : Nat → Bool} {id : Nat} {v : Vector} {s src : List Nat} {pos len : Nat}
    {st : Stop} (h : StrRep v s) (hsrc : len ≤ src.length)
    (hr : insertStrN ans id v pos src len = .error st) :
    st = .abort ∧ ¬ insertOK ans v s.length pos len :=
  (insertStrN_spec h hsrc).stop hr

/-- C10, when an insertion aborts, stated for `insert_ch` (`insert_str_n` has the same
conditions: `insertStrN_spec`): a position
beyond the end aborts; `size + cnt` not representable (or equal to SIZE_MAX, so
that the terminator does not fit) aborts; a refused allocation aborts — and in
each case the stop is the abort, never an access outside the storage -/
theorem insert_abort_iff {ans : Nat → Bool} {id : Nat} {v : Vector} {s : List Nat} {pos cnt ch : Nat}
    (h : StrRep v s) :
    insertCh ans id v pos cnt ch = .error .abort ↔
      (s.length < pos ∨ (0 < cnt ∧ (SIZE_MAX ≤ s.length + cnt ∨ ¬ canGrow ans v (s.length + cnt + 1)))) := by
  rw [← not_insertOK_iff]
  exact (insertCh_spec h).abort_iff fun _ hr => not_not_intro hr.2.2

/-- C10 `count_truncated`: for **every** count `n` (including 2^64 - 1) the
clamp yields `min n (size - pos)`; it aborts exactly when `pos ≥ size` -/
theorem count_truncated {v : Vector} {s : List Nat} (h : StrRep v s) (pos n : Nat) :
    (pos < s.length → substrPrep v pos n = .ok (min n (s.length - pos))) ∧
    (s.length ≤ pos → substrPrep v pos n = .error .abort) := by
  unfold substrPrep
  rw [h.size]
  constructor
  · intro hp
    rw [if_neg (by omega)]
    by_cases hn : n > s.length - pos
    · rw [if_pos hn]; congr 1; omega
    · rw [if_neg hn]; congr 1; omega
  · intro hp
    rw [if_pos hp]

/-- the clamp as a step, with the split `s = a ++ c ++ b` at the clamped segment `c` and the stored slots:
the string is non-empty, so the terminator is stored -/
theorem substrPrep_spec {v : Vector} {s : List Nat} (h : StrRep v s) (pos n : Nat) :
    Spec (substrPrep v pos n) (s.length ≤ pos) fun k =>
      pos < s.length ∧ ∃ a c b, s = a ++ c ++ b ∧ a.length = pos ∧ c.length = k ∧
        min n (s.length - pos) = k ∧ v.elems = a ++ c ++ b ++ [0] ∧
        v.count = a.length + c.length + b.length + 1 := by
  obtain ⟨hct1, hct2⟩ := count_truncated h pos n
  by_cases hle : s.length ≤ pos
  · rw [hct2 hle]
    exact .abort hle
  · have hp := Nat.lt_of_not_le hle
    obtain ⟨hel, hcnt⟩ := h.elems_of_pos (by omega)
    obtain ⟨a, c, b, hs, ha, hc⟩ := split3_at s (pos := pos) (k := min n (s.length - pos)) (by omega)
    rw [hct1 hp]
    refine .ok ⟨hp, a, c, b, hs, ha, hc, rfl, hs ▸ hel, ?_⟩
    rw [hcnt, hs, List.length_append, List.length_append]

/-- C10: `erase(pos, n)` removes `min n (size - pos)` characters at `pos`; it
aborts exactly when `pos ≥ size`, and never asks the allocator -/
theorem erase_spec {ans : Nat → Bool} {id : Nat} {v : Vector} {s : List Nat} (h : StrRep v s) (pos n : Nat) :
    Spec (erase ans id v pos n) (s.length ≤ pos) fun r =>
      pos < s.length ∧ StrRep r.1 (refErase s pos n) ∧ r.1.esz = v.esz ∧ r.1.base = v.base ∧ r.1.cap = v.cap := by
  unfold erase
  rw [h.size]
  -- `s = a ++ c ++ b`, `c` the characters to go
  refine (substrPrep_spec h pos n).bind fun k ⟨hp, a, c, b, hs, ha, hc, hmin, hel, hcnt⟩ => ?_
  subst hs ha hc
  rw [refErase_split hmin]
  have hcc := h.ok.inv.count_le_cap
  have hcw := h.ok.inv.count_lt_W
  have hsl : a.length + c.length + b.length < W := by omega
  obtain ⟨j, hinv, hmv⟩ := rawMove_down h.ok.inv hel
  simp only [List.length_append] at hp ⊢
  rw [addW_of_lt (by omega), subW_of_le (by omega) hsl, Nat.add_sub_cancel_left, h.ok.inv.mulW_eq (by omega), hmv,
    andThen_ok, subW_of_le (by omega) hsl, show a.length + c.length + b.length - c.length = a.length + b.length by omega]
  have hok1 : StrOK { v with elems := a ++ b ++ j ++ [0] } := ⟨hinv, h.ok.nocons, h.ok.nodest⟩
  have hfit : a.length + b.length + 1 ≤ v.cap := by omega
  -- shrinking never reallocates
  refine (strResize0_spec hok1 (n := a.length + b.length) (by omega)).mono
    (fun hbad => absurd (Or.inl hfit) (hbad.resolve_left (by rw [SIZE_MAX_eq]; rw [W_eq] at hcw; omega)))
    fun r ⟨_, _, hok', _, he', hel', hb'⟩ => ⟨hp, ⟨hok', Or.inr ?_⟩, he', hb' hfit⟩
  rw [hel']
  show padTake (a ++ b ++ j ++ [0]) (a.length + b.length) undefV ++ [0] = _
  rw [List.append_assoc (a ++ b), padTake_rep_le _ (Nat.le_of_eq List.length_append.symm),
    List.take_of_length_le (Nat.le_of_eq List.length_append)]

theorem erase_refines {ans : Nat → Bool} {id : Nat} {v : Vector} {s : List Nat} (h : StrRep v s) (pos n : Nat) :
    (pos < s.length → ∃ v' evs, erase ans id v pos n = .ok (v', evs) ∧ StrRep v' (refErase s pos n) ∧
        v'.esz = v.esz ∧ v'.base = v.base ∧ v'.cap = v.cap) ∧
    (s.length ≤ pos → erase ans id v pos n = .error .abort) := by
  rcases erase_spec (ans := ans) (id := id) h pos n with ⟨hr, hc⟩ | ⟨r, hr, hp, hrest⟩
  · exact ⟨fun hp => absurd hc (Nat.not_le.mpr hp), fun _ => hr⟩
  · exact ⟨fun _ => ⟨r.1, r.2, hr, hrest⟩, fun hle => absurd hp (Nat.not_lt.mpr hle)⟩

/-- C10: `substr(pos, n, sub)` makes `sub` the `min n (size - pos)` characters
at `pos`; aborts exactly when `pos ≥ size` or the storage for `sub` cannot be
obtained -/
theorem substr_spec {ans : Nat → Bool} {id : Nat} {v sub : Vector} {s t : List Nat}
    (h : StrRep v s) (hs : StrRep sub t) (hesz : sub.esz = v.esz) (pos n : Nat) :
    Spec (substr ans id v pos n sub) (s.length ≤ pos ∨ ¬ canGrow ans sub (min n (s.length - pos) + 1)) fun r =>
      pos < s.length ∧ canGrow ans sub (min n (s.length - pos) + 1) ∧ StrRep r.1 (refSubstr s pos n) ∧
      r.1.esz = sub.esz := by
  unfold substr
  -- `s = a ++ c ++ b`, `c` the characters to copy: `__resize(sub, k)`, then `c` is read from
  -- `s` at `pos` and written to `sub` at 0, in front of the terminator `__resize` stored
  refine ((substrPrep_spec h pos n).mono Or.inl fun _ hr => hr).bind fun k ⟨hp, a, c, b, hs', ha, hc, hmin, hel, hcnt⟩ => ?_
  subst hs' ha hc
  rw [refSubstr_split hmin, hmin]
  have hcw := h.ok.inv.count_lt_W
  refine ((strResize0_spec hs.ok (n := c.length) (by omega)).mono
    (fun hbad => Or.inr (hbad.resolve_left (by rw [SIZE_MAX_eq]; rw [W_eq] at hcw; omega)))
    fun _ hr => hr).bind fun r ⟨_, hcg, hok1, hc1, he1, hel1, _⟩ => ?_
  have hread : readAt v.elems a.length c.length = c := by
    rw [hel, List.append_assoc (a ++ c)]; exact readAt_split
  rw [h.ok.inv.mulW_eq (by omega), rawRead_in h.ok.inv (by omega), andThen_ok, hread,
    show c.length * v.esz = c.length * r.1.esz by rw [he1, hesz],
    rawWrite_in hok1.inv (by omega) (Nat.le_refl _), andThen_ok, List.take_length]
  have hok2 : StrOK { r.1 with elems := writeAt r.1.elems 0 c } :=
    ⟨inv_with_elems hok1.inv ((writeAt_length ..).trans hok1.inv.len), hok1.nocons, hok1.nodest⟩
  refine .ok ⟨hp, hcg, ⟨hok2, Or.inr ?_⟩, he1⟩
  show writeAt r.1.elems 0 c = _
  rw [hel1]
  exact writeAt_split (pre := []) (padTake_length ..)

theorem substr_refines {ans : Nat → Bool} {id : Nat} {v sub : Vector} {s t : List Nat}
    (h : StrRep v s) (hs : StrRep sub t) (hesz : sub.esz = v.esz) (pos n : Nat) :
    (s.length ≤ pos → substr ans id v pos n sub = .error .abort) ∧
    (pos < s.length →
      (canGrow ans sub (min n (s.length - pos) + 1) →
         ∃ sub' evs, substr ans id v pos n sub = .ok (sub', evs) ∧ StrRep sub' (refSubstr s pos n) ∧
           sub'.esz = sub.esz) ∧
      (¬ canGrow ans sub (min n (s.length - pos) + 1) → substr ans id v pos n sub = .error .abort)) := by
  rcases substr_spec (ans := ans) (id := id) h hs hesz pos n with ⟨hr, hc⟩ | ⟨r, hr, hp, hcg, hrest⟩
  · exact ⟨fun _ => hr, fun hp => ⟨fun hcg => absurd hcg (hc.resolve_left (Nat.not_le.mpr hp)), fun _ => hr⟩⟩
  · exact ⟨fun hle => absurd hp (Nat.not_lt.mpr hle), fun _ => ⟨fun _ => ⟨r.1, r.2, hr, hrest⟩, fun hn => absurd hcg hn⟩⟩

/-- `cstl_STRING_at` aborts exactly when `i ≥ size`; otherwise the pointer is
`data + i` inside the block and the unit there is the reference string's -/
theorem strAt_spec {v : Vector} {s : List Nat} (h : StrRep v s) (i : Nat) :
    (s.length ≤ i → strAt v i = .error .abort) ∧
    (i < s.length → strAt v i = .ok (i * v.esz) ∧ v.elems[i]? = s[i]? ∧
       ∃ b n, v.base = some (b, n) ∧ i * v.esz + v.esz ≤ n) := by
  unfold strAt
  rw [h.size]
  constructor
  · intro hi; rw [if_pos hi]
  · intro hi
    rw [if_neg (by omega)]
    obtain ⟨t, het, _, hc⟩ := h.elems_eq
    have hic : i < v.count := by omega
    obtain ⟨hat, b, n, hb, hle, _⟩ := (at_ok_iff h.ok.inv i).2 hic
    unfold vat at hat
    rw [if_neg (by omega)] at hat
    injection hat with hat
    refine ⟨by rw [hat], ?_, b, n, hb, hle⟩
    rw [het, List.getElem?_append_left hi]

theorem strReserve_rep {ans : Nat → Bool} {id : Nat} {v : Vector} {s : List Nat} (h : StrRep v s) (n : Nat) :
    StrRep (strReserve ans id v n).1 s ∧ (strReserve ans id v n).1.esz = v.esz := by
  unfold strReserve
  have hsz := addW_lt_W n 1
  obtain ⟨hf1, hf2, hf3, hf4, _⟩ := reserve_frame ans id v (addW n 1)
  have he := reserve_elems (ans := ans) (id := id) h.ok.inv hsz
  refine ⟨⟨⟨reserve_inv h.ok.inv hsz, by rw [hf3]; exact h.ok.nocons, by rw [hf4]; exact h.ok.nodest⟩, ?_⟩, hf2⟩
  rcases h.rep with ⟨hc, hs⟩ | hel
  · exact Or.inl ⟨by rw [hf1]; exact hc, hs⟩
  · exact Or.inr (by rw [he]; exact hel)

theorem strClear_rep {v : Vector} {s : List Nat} (h : StrRep v s) :
    ∃ v' evs, clear v = .ok (v', evs) ∧ StrRep v' [] ∧ v'.esz = v.esz ∧ v'.base = none := by
  have hok : StrOK { v with base := none, cap := 0, count := 0, elems := [] } :=
    ⟨inv_cleared v h.ok.inv.esz_pos, h.ok.nocons, h.ok.nodest⟩
  exact ⟨_, _, (clear_spec h.ok.inv).1, ⟨hok, Or.inl ⟨rfl, rfl⟩⟩, rfl, rfl⟩

end Cstl.Vec
