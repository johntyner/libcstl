import Cstl.Vec.Model
namespace Cstl.Vec

theorem W_eq : W = 18446744073709551616 := by decide
theorem SIZE_MAX_eq : SIZE_MAX = 18446744073709551615 := by decide

theorem addW_one_of_ne_zero {sz : Nat} (h : sz < W) (h2 : addW sz 1 ≠ 0) : addW sz 1 = sz + 1 := by
  unfold addW at *
  rw [W_eq] at *
  omega

theorem addW_one_eq_zero_iff {sz : Nat} (h : sz < W) : addW sz 1 = 0 ↔ sz = SIZE_MAX := by
  unfold addW
  rw [W_eq] at *
  rw [SIZE_MAX_eq]
  omega

theorem lt_SIZE_MAX {n : Nat} (h : n < W) (hne : n ≠ SIZE_MAX) : n < SIZE_MAX := by
  rw [W_eq] at h
  rw [SIZE_MAX_eq] at *
  omega

theorem mul_lt_W_of_le_div {a e : Nat} (h : a ≤ SIZE_MAX / e) : a * e < W := by
  have h1 := Nat.mul_le_mul_right e h
  have h2 := Nat.div_mul_le_self SIZE_MAX e
  rw [W_eq]
  rw [SIZE_MAX_eq] at *
  omega

theorem le_div_of_mul_lt_W {a e : Nat} (he : 0 < e) (h : a * e < W) : a ≤ SIZE_MAX / e := by
  rw [Nat.le_div_iff_mul_le he]
  rw [W_eq] at h
  rw [SIZE_MAX_eq]
  omega

theorem mulW_of_lt {a e : Nat} (h : a * e < W) : mulW a e = a * e := by
  exact Nat.mod_eq_of_lt h

theorem addW_of_lt {a b : Nat} (h : a + b < W) : addW a b = a + b := Nat.mod_eq_of_lt h

theorem addW_zero_left {x : Nat} (hx : x < W) : addW 0 x = x := by
  unfold addW; rw [Nat.zero_add]; exact Nat.mod_eq_of_lt hx

theorem subW_of_le {a b : Nat} (hb : b ≤ a) (ha : a < W) : subW a b = a - b := by
  unfold subW
  rw [W_eq] at *
  omega

theorem addW_lt_W (a b : Nat) : addW a b < W := Nat.mod_lt _ (by decide)

theorem subW_lt_W (a b : Nat) : subW a b < W := Nat.mod_lt _ (by decide)

/-- The storage invariant of C09 (the first three conjuncts are the property's;
`bytes_lt` says that the block's byte count is a `size_t`, which bounds the
capacity: `Inv.cap_lt_W`; `0 < esz` is the standing assumption on the element
type, the length clause ties the tracked values to `count`). -/
structure Inv (v : Vector) : Prop where
  count_le_cap : v.count ≤ v.cap
  none_cap : v.base = none → v.cap = 0
  bytes : ∀ b n, v.base = some (b, n) → n = (v.cap + 1) * v.esz
  bytes_lt : ∀ b n, v.base = some (b, n) → n < W
  esz_pos : 0 < v.esz
  len : v.elems.length = v.count

theorem Inv.cap_lt_W {v : Vector} (h : Inv v) : v.cap < W := by
  cases hb : v.base with
  | none => rw [h.none_cap hb, W_eq]; omega
  | some p =>
    obtain ⟨b, n⟩ := p
    have h1 := h.bytes b n hb
    have h2 := h.bytes_lt b n hb
    have h3 : v.cap + 1 ≤ (v.cap + 1) * v.esz := Nat.le_mul_of_pos_right _ h.esz_pos
    omega

theorem Inv.count_lt_W {v : Vector} (h : Inv v) : v.count < W :=
  Nat.lt_of_le_of_lt h.count_le_cap h.cap_lt_W

/-- the block of a vector with capacity: its size, and every slot up to the scratch slot at index `cap`
lies inside it -/
theorem Inv.block {v : Vector} (h : Inv v) (hcap : 0 < v.cap) :
    ∃ b n, v.base = some (b, n) ∧ n = (v.cap + 1) * v.esz ∧ n < W ∧ ∀ i, i ≤ v.cap → i * v.esz + v.esz ≤ n := by
  cases hb : v.base with
  | none => exact absurd (h.none_cap hb) (Nat.ne_of_gt hcap)
  | some p =>
    refine ⟨p.1, p.2, rfl, h.bytes _ _ hb, h.bytes_lt _ _ hb, fun i hi => ?_⟩
    rw [h.bytes _ _ hb, ← Nat.succ_mul]
    exact Nat.mul_le_mul_right _ (Nat.succ_le_succ hi)

theorem Inv.of_frame {v w : Vector} (h : Inv v) (hb : w.base = v.base) (he : w.esz = v.esz) (hcap : w.cap = v.cap)
    (hc : w.count ≤ w.cap) (hl : w.elems.length = w.count) : Inv w where
  count_le_cap := hc
  none_cap := fun hn => hcap ▸ h.none_cap (hb ▸ hn)
  bytes := fun b n hn => hcap ▸ he ▸ h.bytes b n (hb ▸ hn)
  bytes_lt := fun b n hn => h.bytes_lt b n (hb ▸ hn)
  esz_pos := he ▸ h.esz_pos
  len := hl

theorem Inv.of_block {v : Vector} {b n : Nat} (hb : v.base = some (b, n)) (hc : v.count ≤ v.cap)
    (hn : n = (v.cap + 1) * v.esz) (hlt : n < W) (he : 0 < v.esz) (hl : v.elems.length = v.count) : Inv v where
  count_le_cap := hc
  none_cap := fun h => by rw [hb] at h; cases h
  bytes := fun _ _ h => by rw [hb] at h; cases h; exact hn
  bytes_lt := fun _ _ h => by rw [hb] at h; cases h; exact hlt
  esz_pos := he
  len := hl

theorem inv_with_elems {v : Vector} (h : Inv v) {xs : List Nat} (hl : xs.length = v.count) :
    Inv { v with elems := xs } :=
  h.of_frame rfl rfl rfl h.count_le_cap hl

theorem inv_cleared (v : Vector) (he : 0 < v.esz) : Inv { v with base := none, cap := 0, count := 0, elems := [] } where
  count_le_cap := Nat.le_refl _
  none_cap := fun _ => rfl
  bytes := fun _ _ hb => by cases hb
  bytes_lt := fun _ _ hb => by cases hb
  esz_pos := he
  len := rfl

theorem inv_init (esz : Nat) (c d : Bool) (h : 0 < esz) : Inv (Vector.init esz c d) :=
  inv_cleared (Vector.init esz c d) h

/-- when does `cstl_vector_set_capacity` decline to ask the allocator? -/
def unrepresentable (esz sz : Nat) : Prop := W ≤ (sz + 1) * esz

/-- can the vector reach capacity `need` with this allocator? -/
def canGrow (ans : Nat → Bool) (v : Vector) (need : Nat) : Prop :=
  need ≤ v.cap ∨ (ans ((need + 1) * v.esz) = true ∧ ¬ unrepresentable v.esz need)

theorem guard_iff {esz sz : Nat} (he : 0 < esz) (hsz : sz < W) :
    (addW sz 1 = 0 ∨ (esz ≠ 0 ∧ addW sz 1 > SIZE_MAX / esz)) ↔ unrepresentable esz sz := by
  unfold unrepresentable
  by_cases h0 : addW sz 1 = 0
  · have hs := (addW_one_eq_zero_iff hsz).mp h0
    have : (sz + 1) * 1 ≤ (sz + 1) * esz := Nat.mul_le_mul_left _ he
    simp only [h0, true_or, true_iff]
    rw [W_eq]; rw [SIZE_MAX_eq] at hs; omega
  · rw [addW_one_of_ne_zero hsz h0]
    simp only [Nat.add_one_ne_zero, false_or, ne_eq, Nat.pos_iff_ne_zero.mp he, not_false_eq_true, true_and]
    constructor
    · intro h
      exact Nat.le_of_not_lt fun hlt => absurd (le_div_of_mul_lt_W he hlt) (Nat.not_le_of_gt h)
    · intro h
      exact Nat.lt_of_not_le fun hle => absurd (mul_lt_W_of_le_div hle) (Nat.not_lt_of_ge h)

theorem mulW_bytes {esz sz : Nat} (he : 0 < esz) (hsz : sz < W) (hu : ¬ unrepresentable esz sz) :
    mulW (addW sz 1) esz = (sz + 1) * esz := by
  have hn0 : addW sz 1 ≠ 0 := fun h0 => hu ((guard_iff he hsz).mp (Or.inl h0))
  rw [addW_one_of_ne_zero hsz hn0, mulW_of_lt (Nat.lt_of_not_le hu)]

theorem copyInto_length (xs : List Nat) (e o n : Nat) : (copyInto xs e o n).length = xs.length := by
  unfold copyInto
  simp
  omega

theorem copyInto_eq_self {xs : List Nat} {e o n : Nat} (he : 0 < e)
    (ho : xs.length * e ≤ o) (hn : xs.length * e ≤ n) : copyInto xs e o n = xs := by
  unfold copyInto
  have hk : xs.length ≤ min o n / e := by
    rw [Nat.le_div_iff_mul_le he]
    exact Nat.le_min.mpr ⟨ho, hn⟩
  simp [List.take_of_length_le hk, Nat.sub_eq_zero_of_le hk]

/-- `setCapacity` for a positive element size and a `size_t` argument, in natural numbers (the byte
count is never zero, so `realloc` cannot free).  The first condition is `unrepresentable v.esz sz`,
written out so that `if` can decide it. -/
theorem setCapacity_eq (ans : Nat → Bool) (id : Nat) {v : Vector} {sz : Nat} (he : 0 < v.esz) (hsz : sz < W) :
    setCapacity ans id v sz =
      if W ≤ (sz + 1) * v.esz then (v, [])
      else if ans ((sz + 1) * v.esz) = true then
        ({ v with base := some (id, (sz + 1) * v.esz), cap := sz,
                  elems := copyInto v.elems v.esz (baseBytes v) ((sz + 1) * v.esz) },
         [.rOk (baseId v) id ((sz + 1) * v.esz)])
      else (v, [.rFail (baseId v) ((sz + 1) * v.esz)]) := by
  unfold setCapacity
  dsimp only
  by_cases hu : W ≤ (sz + 1) * v.esz
  · rw [if_pos ((guard_iff he hsz).mpr hu), if_pos hu]
  · rw [if_neg (mt (guard_iff he hsz).mp hu), if_neg hu, mulW_bytes he hsz hu]
    have hpos : (sz + 1) * v.esz ≠ 0 := Nat.ne_of_gt (Nat.mul_pos (Nat.succ_pos sz) he)
    unfold reallocM
    cases ans ((sz + 1) * v.esz) <;> simp [hpos]

theorem setCapacity_inv {ans : Nat → Bool} {id : Nat} {v : Vector} {sz : Nat}
    (h : Inv v) (hsz : sz < W) (hc : v.count ≤ sz) : Inv (setCapacity ans id v sz).1 := by
  rw [setCapacity_eq ans id h.esz_pos hsz]
  split
  · exact h
  · rename_i hu
    split
    · exact .of_block rfl hc rfl (Nat.lt_of_not_le hu) h.esz_pos ((copyInto_length ..).trans h.len)
    · exact h

theorem setCapacity_elems {ans : Nat → Bool} {id : Nat} {v : Vector} {sz : Nat}
    (h : Inv v) (hsz : sz < W) (hc : v.count ≤ sz) : (setCapacity ans id v sz).1.elems = v.elems := by
  rw [setCapacity_eq ans id h.esz_pos hsz]
  split
  · rfl
  · split
    · show copyInto v.elems v.esz (baseBytes v) ((sz + 1) * v.esz) = v.elems
      cases hbase : v.base with
      | none =>
        have hc0 : v.count = 0 := by have := h.none_cap hbase; have := h.count_le_cap; omega
        simp [List.eq_nil_of_length_eq_zero (h.len.trans hc0), copyInto]
      | some p =>
        apply copyInto_eq_self h.esz_pos
        · unfold baseBytes
          rw [hbase]
          show _ ≤ p.2
          rw [h.bytes p.1 p.2 hbase, h.len]
          exact Nat.mul_le_mul_right _ (Nat.le_succ_of_le h.count_le_cap)
        · rw [h.len]
          exact Nat.mul_le_mul_right _ (Nat.le_succ_of_le hc)
    · rfl

theorem setCapacity_frame (ans : Nat → Bool) (id : Nat) (v : Vector) (sz : Nat) :
    (setCapacity ans id v sz).1.count = v.count ∧ (setCapacity ans id v sz).1.esz = v.esz ∧
    (setCapacity ans id v sz).1.cons = v.cons ∧ (setCapacity ans id v sz).1.dest = v.dest ∧
    (setCapacity ans id v sz).1.elems.length = v.elems.length := by
  unfold setCapacity
  dsimp only
  split
  · exact ⟨rfl, rfl, rfl, rfl, rfl⟩
  · cases reallocM ans id v.base (mulW (addW sz 1) v.esz) <;>
      exact ⟨rfl, rfl, rfl, rfl, by first | rfl | exact copyInto_length ..⟩

theorem reserve_inv {ans : Nat → Bool} {id : Nat} {v : Vector} {sz : Nat}
    (h : Inv v) (hsz : sz < W) : Inv (reserve ans id v sz).1 := by
  unfold reserve
  split
  · exact setCapacity_inv h hsz (by have := h.count_le_cap; omega)
  · exact h

theorem reserve_elems {ans : Nat → Bool} {id : Nat} {v : Vector} {sz : Nat}
    (h : Inv v) (hsz : sz < W) : (reserve ans id v sz).1.elems = v.elems := by
  unfold reserve
  split
  · exact setCapacity_elems h hsz (by have := h.count_le_cap; omega)
  · rfl

theorem reserve_frame (ans : Nat → Bool) (id : Nat) (v : Vector) (sz : Nat) :
    (reserve ans id v sz).1.count = v.count ∧ (reserve ans id v sz).1.esz = v.esz ∧
    (reserve ans id v sz).1.cons = v.cons ∧ (reserve ans id v sz).1.dest = v.dest ∧
    (reserve ans id v sz).1.elems.length = v.elems.length := by
  unfold reserve
  split
  · exact setCapacity_frame ans id v sz
  · exact ⟨rfl, rfl, rfl, rfl, rfl⟩

theorem reserve_of_le (ans : Nat → Bool) (id : Nat) {v : Vector} {sz : Nat} (h : sz ≤ v.cap) :
    reserve ans id v sz = (v, []) := by
  unfold reserve
  rw [if_neg (Nat.not_lt_of_ge h)]

theorem shrink_inv {ans : Nat → Bool} {id : Nat} {v : Vector}
    (h : Inv v) : Inv (shrink ans id v).1 := by
  unfold shrink
  split
  · exact setCapacity_inv h h.count_lt_W (Nat.le_refl _)
  · exact h

theorem shrink_elems {ans : Nat → Bool} {id : Nat} {v : Vector}
    (h : Inv v) : (shrink ans id v).1.elems = v.elems := by
  unfold shrink
  split
  · exact setCapacity_elems h h.count_lt_W (Nat.le_refl _)
  · rfl

/-- the first `n` slots of a block that held `xs`, after growing / shrinking to `n` slots:
slots that were not there before hold `x` -/
def padTake (xs : List Nat) (n x : Nat) : List Nat := xs.take n ++ List.replicate (n - xs.length) x

theorem padTake_length (xs : List Nat) (n x : Nat) : (padTake xs n x).length = n := by
  unfold padTake
  rw [List.length_append, List.length_take, List.length_replicate]
  omega

theorem padTake_take {xs : List Nat} {n m : Nat} (x : Nat) (hm : m ≤ min xs.length n) :
    (padTake xs n x).take m = xs.take m := by
  unfold padTake
  rw [List.take_append_of_le_length (by rw [List.length_take]; omega), List.take_take,
    Nat.min_eq_left (by omega)]

theorem padTake_getElem? {xs : List Nat} {n i : Nat} (x : Nat) (h1 : xs.length ≤ i) (h2 : i < n) :
    (padTake xs n x)[i]? = some x := by
  unfold padTake
  rw [List.getElem?_append_right (by rw [List.length_take]; omega), List.getElem?_replicate,
    if_pos (by rw [List.length_take]; omega)]

def ctorSlots : List Ev → List Nat
  | [] => []
  | .ctor i :: es => i :: ctorSlots es
  | _ :: es => ctorSlots es

def dtorSlots : List Ev → List Nat
  | [] => []
  | .dtor i :: es => i :: dtorSlots es
  | _ :: es => dtorSlots es

theorem ctorSlots_append (a b : List Ev) : ctorSlots (a ++ b) = ctorSlots a ++ ctorSlots b := by
  induction a with
  | nil => rfl
  | cons e es ih => cases e <;> simp [ctorSlots, ih]

theorem dtorSlots_append (a b : List Ev) : dtorSlots (a ++ b) = dtorSlots a ++ dtorSlots b := by
  induction a with
  | nil => rfl
  | cons e es ih => cases e <;> simp [dtorSlots, ih]

theorem ctorSlots_consUp (k c : Nat) : ctorSlots (consUp k c) = List.range' c k := by
  induction k generalizing c with
  | zero => rfl
  | succ k ih => simp [consUp, ctorSlots, ih, List.range'_succ]

theorem dtorSlots_consUp (k c : Nat) : dtorSlots (consUp k c) = [] := by
  induction k generalizing c with
  | zero => rfl
  | succ k ih => simp [consUp, dtorSlots, ih]

theorem ctorSlots_destDown (k c : Nat) : ctorSlots (destDown k c) = [] := by
  induction k generalizing c with
  | zero => rfl
  | succ k ih => simp [destDown, ctorSlots, ih]

theorem dtorSlots_destDown (k c : Nat) (h : k ≤ c) :
    dtorSlots (destDown k c) = (List.range' (c - k) k).reverse := by
  induction k generalizing c with
  | zero => rfl
  | succ k ih =>
    have h1 : k ≤ c - 1 := by omega
    simp only [destDown, dtorSlots]
    rw [ih (c - 1) h1]
    have e1 : c - 1 - k = c - (k + 1) := by omega
    rw [e1, List.range'_concat]
    simp
    omega

theorem setCapacity_noxtor (ans : Nat → Bool) (id : Nat) (v : Vector) (sz : Nat) :
    ctorSlots (setCapacity ans id v sz).2 = [] ∧ dtorSlots (setCapacity ans id v sz).2 = [] := by
  unfold setCapacity
  dsimp only
  split
  · exact ⟨rfl, rfl⟩
  · cases reallocM ans id v.base (mulW (addW sz 1) v.esz) <;> exact ⟨rfl, rfl⟩

theorem reserve_noxtor (ans : Nat → Bool) (id : Nat) (v : Vector) (sz : Nat) :
    ctorSlots (reserve ans id v sz).2 = [] ∧ dtorSlots (reserve ans id v sz).2 = [] := by
  unfold reserve
  split
  · exact setCapacity_noxtor ans id v sz
  · simp [ctorSlots, dtorSlots]

theorem shrink_noxtor (ans : Nat → Bool) (id : Nat) (v : Vector) :
    ctorSlots (shrink ans id v).2 = [] ∧ dtorSlots (shrink ans id v).2 = [] := by
  unfold shrink
  split
  · exact setCapacity_noxtor ans id v v.count
  · simp [ctorSlots, dtorSlots]

theorem insertSorted_perm (x : Nat) (xs : List Nat) : (insertSorted x xs).Perm (x :: xs) := by
  induction xs with
  | nil => exact List.Perm.refl _
  | cons y ys ih =>
    unfold insertSorted
    split
    · exact List.Perm.refl _
    · exact (List.Perm.cons y ih).trans (List.Perm.swap x y ys)

theorem sortVals_perm (xs : List Nat) : (sortVals xs).Perm xs := by
  induction xs with
  | nil => exact List.Perm.refl _
  | cons x xs ih => exact (insertSorted_perm x (sortVals xs)).trans (List.Perm.cons x ih)

theorem sortVals_length (xs : List Nat) : (sortVals xs).length = xs.length := (sortVals_perm xs).length_eq

theorem insertSorted_sorted (x : Nat) : ∀ (l : List Nat), l.Pairwise (· ≤ ·) → (insertSorted x l).Pairwise (· ≤ ·)
  | [], _ => by simp [insertSorted]
  | y :: ys, h => by
    unfold insertSorted
    split
    · rename_i hxy
      refine List.Pairwise.cons ?_ h
      intro z hz
      rcases List.mem_cons.mp hz with rfl | hz
      · exact hxy
      · exact Nat.le_trans hxy ((List.pairwise_cons.mp h).1 z hz)
    · rename_i hxy
      have ih := insertSorted_sorted x ys (List.pairwise_cons.mp h).2
      refine List.Pairwise.cons ?_ ih
      intro z hz
      rcases List.mem_cons.mp ((insertSorted_perm x ys).mem_iff.mp hz) with rfl | hz'
      · omega
      · exact (List.pairwise_cons.mp h).1 z hz'

theorem sortVals_sorted : ∀ (l : List Nat), (sortVals l).Pairwise (· ≤ ·)
  | [] => by simp [sortVals]
  | x :: xs => by
    unfold sortVals
    exact insertSorted_sorted x _ (sortVals_sorted xs)

/-- a sorted permutation of the element values is THE sorted list of the model -/
theorem sorted_perm_unique {l : List Nat} {xs : List Nat} (hp : l.Perm xs) (hs : l.Pairwise (· ≤ ·)) :
    l = sortVals xs :=
  List.Perm.eq_of_pairwise (fun _ _ _ _ h1 h2 => Nat.le_antisymm h1 h2) hs (sortVals_sorted xs)
    (hp.trans (sortVals_perm xs).symm)

end Cstl.Vec
