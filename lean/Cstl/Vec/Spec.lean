import Cstl.Vec.Model
/-
Steps that either abort or succeed: `Spec x C P` — the only way `x` stops is the documented abort,
and then `C` holds; a result satisfies `P`.  Proofs write `.ok` / `.abort` for the two introduction
rules `Spec.ok` / `Spec.abort`: they resolve by the expected type `Spec …`, beside goals that contain
`Except`'s `.ok r` / `.error .abort`.
-/
namespace Cstl.Vec

def Spec {α : Type} (x : Except Stop α) (C : Prop) (P : α → Prop) : Prop :=
  (x = .error .abort ∧ C) ∨ ∃ r, x = .ok r ∧ P r

namespace Spec
variable {α β : Type} {x : Except Stop α} {C D : Prop} {P P' : α → Prop} {Q : β → Prop}

theorem ok {a : α} (h : P a) : Spec (.ok a) C P := Or.inr ⟨a, rfl, h⟩

theorem abort (h : C) : Spec (.error .abort : Except Stop α) C P := Or.inl ⟨rfl, h⟩

theorem post (h : Spec x C P) {r : α} (hr : x = .ok r) : P r := by
  rcases h with ⟨he, _⟩ | ⟨r', hr', hp⟩
  · rw [he] at hr; cases hr
  · rw [hr'] at hr; cases hr; exact hp

theorem stop (h : Spec x C P) {st : Stop} (hr : x = .error st) : st = .abort ∧ C := by
  rcases h with ⟨he, hc⟩ | ⟨r', hr', _⟩
  · rw [he] at hr; cases hr; exact ⟨rfl, hc⟩
  · rw [hr'] at hr; cases hr

theorem mono (h : Spec x C P) (hc : C → D) (hp : ∀ r, P r → P' r) : Spec x D P' :=
  h.elim (fun ⟨he, c⟩ => Or.inl ⟨he, hc c⟩) fun ⟨r, hr, p⟩ => Or.inr ⟨r, hr, hp r p⟩

theorem bind {f : α → Except Stop β} (h : Spec x C P) (hf : ∀ r, P r → Spec (f r) C Q) :
    Spec (andThen x f) C Q := by
  rcases h with ⟨he, hc⟩ | ⟨r, hr, hp⟩
  · rw [he]; exact abort hc
  · rw [hr]; exact hf r hp

theorem abort_iff (h : Spec x C P) (hn : ∀ r, P r → ¬ C) : x = .error .abort ↔ C := by
  rcases h with ⟨he, hc⟩ | ⟨r, hr, hp⟩
  · exact ⟨fun _ => hc, fun _ => he⟩
  · rw [hr]; exact ⟨fun e => (by cases e), fun c => absurd c (hn r hp)⟩

theorem ok_iff {Q : Prop} (h : Spec x C P) (hq : ∀ r, P r → Q) (hn : Q → ¬ C) : (∃ r, x = .ok r) ↔ Q := by
  rcases h with ⟨he, hc⟩ | ⟨r, hr, hp⟩
  · rw [he]; exact ⟨fun ⟨_, e⟩ => (by cases e), fun q => absurd hc (hn q)⟩
  · exact ⟨fun _ => hq r hp, fun _ => ⟨r, hr⟩⟩

/-- the form in which the history theorems state it -/
theorem both (h : Spec x C P) : (∀ r, x = .ok r → P r) ∧ (∀ st, x = .error st → st = .abort) :=
  ⟨fun _ hr => h.post hr, fun _ hr => (h.stop hr).1⟩

end Spec

end Cstl.Vec
