import Cstl.Vec.CSem
/-
Vocabulary of the second C-to-Lean translation of src/vector.c and src/_string.c
(tools/c2lean_vec2.py; generated file Cstl/Gen/VecC2.lean, ties Cstl/Vec/Tie2.lean): the vector
wrappers of the raw-array algorithms, `str`, the find / compare functions (C library calls, pointer
comparisons, the `-1` convention) and the `strlen`-based entry points.

Pointers.  A pointer value is an `SPtr`: NULL, a byte offset from the object's `elem.base`
(non-NULL), or a byte offset from the instantiation's static NUL `cstl_STRING_nul`.  Pointer
arithmetic wraps like the `uintptr_t` / scaled `char_t *` expression the C code computes
(`addW`); equality of pointers is equality of `SPtr`s; `(uintptr_t)p - (uintptr_t)q` for two
pointers into the same object is the difference of their offsets (mod 2^64).

C library.  `strchr`/`strstr`/`strcmp`/`strlen` (unit width 1) and `wcschr`/`wcsstr`/`wcscmp`/
`wcslen` (unit width 4) read NUL-terminated strings: `cview` is what they see in an array of units
(`Stop.oob` when no NUL is stored — the read runs off), `viewAt` what they see at a pointer into a
string object.  Their results are the model's `strchrM` / `strstrM` / `strcmpM` of
Cstl/Vec/Model.lean, returned the way the C function returns them (a pointer into the first
argument or NULL; a sign).  A function of unit width `w` applied to an object whose units are not
`w` bytes wide is outside what is modelled and is a stop.

Functions that are translated elsewhere (Cstl/Gen/VecC.lean: `insert_str_n`, `resize`; Cstl/Gen/SortC.lean:
`cstl_raw_array_*`) are PARAMETERS `k_<name>` of the translated callers here: a tie theorem then
states with which arguments they are called, for every such callee.

Hand-written, not regenerated; core Lean only.
-/
namespace Cstl.Vec

inductive SPtr where
  | null
  | nul (off : Nat)       -- `(char *)&cstl_STRING_nul + off`
  | stor (off : Nat)      -- `(char *)elem.base + off`, `elem.base ≠ NULL`
deriving DecidableEq, Repr, Inhabited

/-- `v->elem.base` -/
def basePtr (v : Vector) : SPtr :=
  match v.base with
  | none => .null
  | some _ => .stor 0

/-- `p + n` bytes; an offset from NULL stays an invalid pointer -/
def SPtr.add : SPtr → Nat → SPtr
  | .null, _ => .null
  | .nul o, n => .nul (addW o n)
  | .stor o, n => .stor (addW o n)

/-- `(uintptr_t)p - (uintptr_t)q` (meaningful for pointers into the same object) -/
def SPtr.diff : SPtr → SPtr → Nat
  | .stor a, .stor b => subW a b
  | .nul a, .nul b => subW a b
  | _, _ => 0

/-- an opaque argument passed through unchanged (`cmp`, `priv`, `swap`, the sought element) -/
abbrev Opq := Nat

/-- `(ssize_t)x` for a `size_t` value -/
def toSsize (x : Nat) : Int := if x < 2 ^ 63 then (x : Int) else (x : Int) - 2 ^ 64

/-- what a translated function that edits a string object (and may allocate) returns -/
abbrev Eff := Option (Except Stop (Vector × List Ev))

/-! ### what the C library reads -/

/-- the units stored from `p` to the end of the live slots of the object `v` that `p` points into -/
def unitsAt (v : Vector) : SPtr → List Nat
  | .null => []
  | .nul o => if o = 0 then [0] else []
  | .stor o =>
    match v.base with
    | none => []
    | some _ => if o % v.esz = 0 then v.elems.drop (o / v.esz) else []

/-- a NUL-terminated read of an array of units: the units before the first NUL -/
def cview (units : List Nat) : Except Stop (List Nat) :=
  if units.any (· == 0) then .ok (units.takeWhile (· != 0)) else .error .oob

/-- a NUL-terminated read at a pointer into `v` -/
def viewAt (v : Vector) (p : SPtr) : Except Stop (List Nat) :=
  match p with
  | .null => .error .nullDeref
  | p => cview (unitsAt v p)

/-- `strchr(p, c)` (`w = 1`) / `wcschr(p, c)` (`w = 4`), `p` into `v` -/
def libcChr (w : Nat) (v : Vector) (p : SPtr) (c : Nat) : Except Stop SPtr :=
  if w ≠ v.esz then .error .oob
  else andThen (viewAt v p) fun view =>
    match strchrM view c with
    | none => .ok .null
    | some i => .ok (p.add (mulW i v.esz))

/-- `strstr(p, n)` / `wcsstr(p, n)`, `p` into `v`, `ndl` = what is read at `n` -/
def libcStr (w : Nat) (v : Vector) (p : SPtr) (ndl : Except Stop (List Nat)) : Except Stop SPtr :=
  if w ≠ v.esz then .error .oob
  else andThen (viewAt v p) fun hay =>
    andThen ndl fun n =>
    match strstrM n hay with
    | none => .ok .null
    | some i => .ok (p.add (mulW i v.esz))

/-- sign of `strcmp(p, b)` / `wcscmp(p, b)`, `p` into `v` -/
def libcCmp (w : Nat) (v : Vector) (p : SPtr) (b : Except Stop (List Nat)) : Except Stop Int :=
  if w ≠ v.esz then .error .oob
  else andThen (viewAt v p) fun a =>
    andThen b fun b =>
    .ok (strcmpM (unitKey w) a b)

/-- `strlen(p)` / `wcslen(p)` on a caller's array, inside a function of an object with units of
`cw` bytes -/
def libcLen (w cw : Nat) (a : Except Stop (List Nat)) : Except Stop Nat :=
  if w ≠ cw then .error .oob
  else andThen a fun view => .ok view.length

/-! ### facts the tie proofs use -/

/-- `-1` / index as the `ssize_t` the find functions return -/
def optIdx : Option Nat → Int
  | none => -1
  | some k => (k : Int)

theorem toSsize_small {x : Nat} (h : x < 2 ^ 63) : toSsize x = (x : Int) := by
  unfold toSsize; rw [if_pos h]

end Cstl.Vec
