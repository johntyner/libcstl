import Cstl.Vec.LemmasStr
import Cstl.Vec.Spec
import Cstl.Vec.Props
/-
C10: a string object is a `Vector` of code units (`esz` = 1 narrow, 4 wide; the theorems hold for
every `esz > 0`) without constructor/destructor (`StrOK`).  `StrRep v s` says that object `v`
represents the reference string `s : List Nat`: either nothing is stored yet (`count = 0`,
`s = []`) or the live slots are exactly `s` followed by the NUL the object maintains.  The file opens
with `resize` on a string object and `__resize` (`resize_str`, `Resized0`, `strResize0_*`) and ends with
`resize` against the reference edit `refResize`.
-/
namespace Cstl.Vec

structure StrOK (v : Vector) : Prop where
  inv : Inv v
  nocons : v.cons = false
  nodest : v.dest = false

theorem resize_str {ans : Nat → Bool} {id : Nat} {v : Vector} {sz : Nat} (h : StrOK v) (hsz : sz < W) :
    Spec (resize ans id v sz) (¬ canGrow ans v sz) fun r =>
      canGrow ans v sz ∧ StrOK r.1 ∧ r.1.count = sz ∧ r.1.esz = v.esz ∧
      r.1.elems = padTake v.elems sz undefV ∧ (sz ≤ v.cap → r.1.base = v.base ∧ r.1.cap = v.cap) :=
  (resize_spec h.inv hsz).mono (fun hc => hc) fun _ r =>
    ⟨r.grow, ⟨r.inv, r.cons.trans h.nocons, r.dest.trans h.nodest⟩, r.count, r.esz,
      by rw [r.elems, h.nocons]; rfl, r.frame⟩

/-- what a successful `__resize` to `n` characters returns -/
structure Resized0 (ans : Nat → Bool) (v : Vector) (n : Nat) (r : Vector × List Ev) : Prop where
  ne_max : n ≠ SIZE_MAX
  grow : canGrow ans v (n + 1)
  ok : StrOK r.1
  count : r.1.count = n + 1
  esz : r.1.esz = v.esz
  elems : r.1.elems = padTake v.elems n undefV ++ [0]
  frame : n + 1 ≤ v.cap → r.1.base = v.base ∧ r.1.cap = v.cap

theorem strResize0_spec {ans : Nat → Bool} {id : Nat} {v : Vector} {n : Nat} (h : StrOK v) (hn : n < W) :
    Spec (strResize0 ans id v n) (n = SIZE_MAX ∨ ¬ canGrow ans v (n + 1)) (Resized0 ans v n) := by
  unfold strResize0
  by_cases h0 : addW n 1 = 0
  · rw [if_pos h0]
    exact .abort (Or.inl ((addW_one_eq_zero_iff hn).mp h0))
  · have hne : n ≠ SIZE_MAX := mt (addW_one_eq_zero_iff hn).mpr h0
    have hn1 : n + 1 < W := by rw [W_eq] at *; rw [SIZE_MAX_eq] at hne; omega
    rw [if_neg h0, addW_one_of_ne_zero hn h0]
    refine ((resize_str h hn1).mono Or.inr fun _ hr => hr).bind fun r ⟨hcg, hok, hc, he, hel, hb⟩ => ?_
    rw [rawSet_in hok.inv (by omega), andThen_ok]
    refine .ok ⟨hne, hcg, ⟨inv_with_elems hok.inv ((writeAt_length ..).trans hok.inv.len),
      hok.nocons, hok.nodest⟩, hc, he, ?_, hb⟩
    show writeAt r.1.elems n [0] = _
    rw [hel, writeAt_last (padTake_length ..), padTake_take_self _ (Nat.le_succ n)]

theorem strResize0_error {ans : Nat → Bool} {id : Nat} {v : Vector} {n : Nat} {st : Stop}
    (h : StrOK v) (hn : n < W) (hr : strResize0 ans id v n = .error st) :
    st = .abort ∧ (n = SIZE_MAX ∨ ¬ canGrow ans v (n + 1)) :=
  (strResize0_spec h hn).stop hr

theorem strResize0_ok {ans : Nat → Bool} {id : Nat} {v : Vector} {n : Nat} {r : Vector × List Ev}
    (h : StrOK v) (hn : n < W) (hr : strResize0 ans id v n = .ok r) :
    Resized0 ans v n r :=
  (strResize0_spec h hn).post hr

structure StrRep (v : Vector) (s : List Nat) : Prop where
  ok : StrOK v
  rep : (v.count = 0 ∧ s = []) ∨ v.elems = s ++ [0]

theorem StrRep.cases {v : Vector} {s : List Nat} (h : StrRep v s) :
    (v.count = 0 ∧ v.elems = [] ∧ s = []) ∨ (v.count = s.length + 1 ∧ v.elems = s ++ [0]) := by
  have hl := h.ok.inv.len
  rcases h.rep with ⟨hc, hs⟩ | he
  · exact Or.inl ⟨hc, List.eq_nil_of_length_eq_zero (hl.trans hc), hs⟩
  · rw [he, List.length_append] at hl
    exact Or.inr ⟨hl.symm, he⟩

theorem StrRep.size {v : Vector} {s : List Nat} (h : StrRep v s) : strSize v = s.length := by
  unfold strSize
  rcases h.cases with ⟨hc, _, rfl⟩ | ⟨hc, _⟩ <;> rw [hc] <;> rfl

theorem StrRep.elems_eq {v : Vector} {s : List Nat} (h : StrRep v s) :
    ∃ t, v.elems = s ++ t ∧ t.length ≤ 1 ∧ v.count = s.length + t.length := by
  rcases h.cases with ⟨hc, he, rfl⟩ | ⟨hc, he⟩
  · exact ⟨[], he, Nat.zero_le _, hc⟩
  · exact ⟨[0], he, Nat.le_refl _, hc⟩

/-- C10 `str_nul_terminated`: whenever something is stored, the slot at index
`size` holds NUL and the slots before it are the reference string -/
theorem str_nul_terminated {v : Vector} {s : List Nat} (h : StrRep v s) (hc : 0 < v.count) :
    v.elems[strSize v]? = some 0 ∧ v.elems.take (strSize v) = s ∧ v.count = strSize v + 1 := by
  rw [StrRep.size h]
  rcases h.cases with ⟨hc0, _⟩ | ⟨hcnt, he⟩
  · omega
  · rw [he]
    exact ⟨by simp, by simp, hcnt⟩

theorem strRep_init (esz : Nat) (h : 0 < esz) : StrRep (Vector.init esz false false) [] :=
  ⟨⟨inv_init esz false false h, rfl, rfl⟩, Or.inl ⟨rfl, rfl⟩⟩

theorem StrRep.len_lt_W {v : Vector} {s : List Nat} (h : StrRep v s) : s.length < W := by
  obtain ⟨t, _, _, hc⟩ := h.elems_eq
  have := h.ok.inv.count_lt_W
  omega

theorem StrRep.elems_of_pos {v : Vector} {s : List Nat} (h : StrRep v s) (hs : 0 < s.length) :
    v.elems = s ++ [0] ∧ v.count = s.length + 1 := by
  rcases h.cases with ⟨_, _, rfl⟩ | ⟨hc, he⟩
  · cases hs
  · exact ⟨he, hc⟩

theorem StrRep.nil_of_no_base {v : Vector} {s : List Nat} (h : StrRep v s) (hb : v.base = none) : s = [] := by
  have hc : v.count = 0 := Nat.le_zero.mp (h.ok.inv.none_cap hb ▸ h.ok.inv.count_le_cap)
  rcases h.cases with ⟨_, _, hs⟩ | ⟨hcnt, _⟩
  · exact hs
  · omega

theorem padTake_rep_le {s t : List Nat} {n : Nat} (x : Nat) (hn : n ≤ s.length) :
    padTake (s ++ t) n x = s.take n := by
  unfold padTake
  rw [List.take_append_of_le_length hn, List.length_append, show n - (s.length + t.length) = 0 by omega]
  exact List.append_nil _

/-- `__resize` beyond the size of a string object: between the characters and the new terminator stand
the new slots `mid` (the old terminator, if it was stored, is the first of them) -/
theorem Resized0.elems_of_lt {ans : Nat → Bool} {v : Vector} {n : Nat} {r : Vector × List Ev} {s : List Nat}
    (hres : Resized0 ans v n r) (h : StrRep v s) (hn : s.length < n) :
    ∃ mid, mid.length = n - s.length ∧ r.1.elems = s ++ mid ++ [0] := by
  obtain ⟨t, het, htl, _⟩ := h.elems_eq
  refine ⟨t ++ List.replicate (n - (s ++ t).length) undefV, ?_, ?_⟩
  · rw [List.length_append, List.length_replicate, List.length_append]
    omega
  · rw [hres.elems, het]
    unfold padTake
    rw [List.take_of_length_le (by rw [List.length_append]; omega)]
    simp only [List.append_assoc]

/-- reference semantics of `resize`: truncate, or pad with NUL -/
def refResize (s : List Nat) (n : Nat) : List Nat := s.take n ++ List.replicate (n - s.length) 0

theorem strResize_spec {ans : Nat → Bool} {id : Nat} {v : Vector} {s : List Nat} {n : Nat}
    (h : StrRep v s) (hn : n < W) :
    Spec (strResize ans id v n) (n = SIZE_MAX ∨ ¬ canGrow ans v (n + 1)) fun r =>
      n ≠ SIZE_MAX ∧ canGrow ans v (n + 1) ∧
      StrRep r.1 (refResize s n) ∧ r.1.esz = v.esz ∧ 0 < r.1.count := by
  unfold strResize refResize
  rw [h.size]
  refine (strResize0_spec h.ok hn).bind fun r hres => ?_
  have hok := hres.ok
  have hc := hres.count
  by_cases hle : n ≤ s.length
  · obtain ⟨t, het, _, _⟩ := h.elems_eq
    rw [Nat.sub_eq_zero_of_le hle]
    refine .ok ⟨hres.ne_max, hres.grow, ⟨hok, Or.inr ?_⟩, hres.esz, by show 0 < r.1.count; omega⟩
    rw [hres.elems, het, padTake_rep_le _ hle, List.replicate_zero, List.append_nil]
  · obtain ⟨mid, hml, hel⟩ := hres.elems_of_lt h (by omega)
    rw [fillLoop_in hok.inv (n - s.length) hel hml, andThen_ok]
    refine .ok ⟨hres.ne_max, hres.grow, ⟨⟨inv_with_elems hok.inv ?_, hok.nocons, hok.nodest⟩, Or.inr ?_⟩, hres.esz,
      by show 0 < r.1.count; omega⟩
    · simp; omega
    · show s ++ _ ++ [0] = _
      rw [List.take_of_length_le (by omega)]

/-- C10: `cstl_STRING_resize(n)` truncates to `n` characters or pads with NUL -/
theorem strResize_refines {ans : Nat → Bool} {id : Nat} {v v' : Vector} {s : List Nat} {n : Nat}
    {evs : List Ev} (h : StrRep v s) (hn : n < W) (hr : strResize ans id v n = .ok (v', evs)) :
    StrRep v' (refResize s n) ∧ v'.esz = v.esz ∧ 0 < v'.count :=
  ((strResize_spec h hn).post hr).2.2

theorem strResize_error {ans : Nat → Bool} {id : Nat} {v : Vector} {s : List Nat} {n : Nat} {st : Stop}
    (h : StrRep v s) (hn : n < W) (hr : strResize ans id v n = .error st) :
    st = .abort ∧ (n = SIZE_MAX ∨ ¬ canGrow ans v (n + 1)) :=
  (strResize_spec h hn).stop hr

/-- C10 (resize): it succeeds exactly when `n + 1` is representable and the
storage for `n + 1` units can be obtained; otherwise it aborts -/
theorem strResize_ok_iff {ans : Nat → Bool} {id : Nat} {v : Vector} {s : List Nat} {n : Nat}
    (h : StrRep v s) (hn : n < W) :
    (∃ v' evs, strResize ans id v n = .ok (v', evs)) ↔ (n ≠ SIZE_MAX ∧ canGrow ans v (n + 1)) :=
  Prod.exists.symm.trans ((strResize_spec h hn).ok_iff (fun _ hr => ⟨hr.1, hr.2.1⟩)
    fun hq hc => hc.elim (absurd · hq.1) (absurd hq.2))

end Cstl.Vec
