import Cstl.Vec.Lemmas
namespace Cstl.Vec

theorem padTo_of_le {xs : List Nat} {n : Nat} (h : n ≤ xs.length) : padTo xs n = xs := by
  unfold padTo
  simp [Nat.sub_eq_zero_of_le h]

theorem padTo_length (xs : List Nat) (n : Nat) : (padTo xs n).length = max xs.length n := by
  unfold padTo
  rw [List.length_append, List.length_replicate]
  omega

theorem writeAt_length (xs : List Nat) (d : Nat) (ys : List Nat) : (writeAt xs d ys).length = xs.length := by
  unfold writeAt
  have hp := padTo_length xs (d + ys.length)
  generalize padTo xs (d + ys.length) = p at hp
  simp only [List.length_take, List.length_append, List.length_drop]
  omega

theorem writeAt_in {xs : List Nat} {d : Nat} {ys : List Nat} (h : d + ys.length ≤ xs.length) :
    writeAt xs d ys = xs.take d ++ ys ++ xs.drop (d + ys.length) := by
  unfold writeAt
  rw [padTo_of_le h]
  apply List.take_of_length_le
  simp
  omega

theorem writeAt_split {pre mid post ys : List Nat} (h : mid.length = ys.length) :
    writeAt (pre ++ mid ++ post) pre.length ys = pre ++ ys ++ post := by
  rw [writeAt_in (by simp; omega)]
  simp [← h]

theorem writeAt_last {xs : List Nat} {n : Nat} (hl : xs.length = n + 1) (y : Nat) :
    writeAt xs n [y] = xs.take n ++ [y] := by
  rw [writeAt_in (by rw [hl]; exact Nat.le_refl _), List.drop_eq_nil_of_le (by rw [hl]; exact Nat.le_refl _), List.append_nil]

theorem padTake_take_self {xs : List Nat} {n m : Nat} (x : Nat) (h : n ≤ m) :
    (padTake xs m x).take n = padTake xs n x := by
  unfold padTake
  rw [List.take_append, List.take_take, List.take_replicate, Nat.min_eq_left h, List.length_take]
  by_cases hl : xs.length ≤ n
  · rw [Nat.min_eq_right (Nat.le_trans hl h), Nat.min_eq_left (Nat.sub_le_sub_right h _)]
  · have hl := Nat.le_of_lt (Nat.lt_of_not_le hl)
    rw [Nat.sub_eq_zero_of_le hl, Nat.sub_eq_zero_of_le (Nat.le_min.mpr ⟨h, hl⟩), Nat.zero_min]

theorem writeAt_nil (xs : List Nat) (d : Nat) : writeAt xs d [] = xs := by
  unfold writeAt
  unfold padTo
  simp

theorem readAt_in {xs : List Nat} {s k : Nat} (h : s + k ≤ xs.length) :
    readAt xs s k = (xs.drop s).take k := by
  unfold readAt
  rw [padTo_of_le h]

theorem readAt_length (xs : List Nat) (s k : Nat) : (readAt xs s k).length = k := by
  unfold readAt
  have hp := padTo_length xs (s + k)
  generalize padTo xs (s + k) = p at hp
  simp only [List.length_take, List.length_drop]
  omega

theorem readAt_split {pre mid post : List Nat} :
    readAt (pre ++ mid ++ post) pre.length mid.length = mid := by
  rw [readAt_in (by simp)]
  simp

theorem split_at (s : List Nat) {pos : Nat} (h : pos ≤ s.length) : ∃ a b, s = a ++ b ∧ a.length = pos :=
  ⟨s.take pos, s.drop pos, (List.take_append_drop ..).symm, by rw [List.length_take]; exact Nat.min_eq_left h⟩

theorem split3_at (s : List Nat) {pos k : Nat} (h : pos + k ≤ s.length) :
    ∃ a c b, s = a ++ c ++ b ∧ a.length = pos ∧ c.length = k := by
  obtain ⟨a, t, rfl, rfl⟩ := split_at s (pos := pos) (by omega)
  rw [List.length_append] at h
  obtain ⟨c, b, rfl, rfl⟩ := split_at t (pos := k) (by omega)
  exact ⟨a, c, b, (List.append_assoc ..).symm, rfl, rfl⟩

/-- `memmove` of the tail `b` down over `c`; `j` is the junk left behind `b` -/
theorem move_down (a c b post : List Nat) : ∃ j, j.length = c.length ∧
    writeAt (a ++ c ++ b ++ post) a.length (readAt (a ++ c ++ b ++ post) (a.length + c.length) b.length) =
      a ++ b ++ j ++ post := by
  refine ⟨(c ++ b).drop b.length, by rw [List.length_drop, List.length_append, Nat.add_sub_cancel], ?_⟩
  have hr : readAt (a ++ c ++ b ++ post) (a.length + c.length) b.length = b := by
    rw [← List.length_append]; exact readAt_split
  have hx : a ++ c ++ b ++ post = a ++ (c ++ b).take b.length ++ ((c ++ b).drop b.length ++ post) := by
    rw [List.append_assoc a (List.take ..), ← List.append_assoc (List.take ..), List.take_append_drop]
    simp only [List.append_assoc]
  rw [hr, hx, writeAt_split, List.append_assoc (a ++ b)]
  rw [List.length_take, List.length_append]
  exact Nat.min_eq_left (Nat.le_add_left ..)

/-- `memmove` of the tail `b` up over the new slots `mid`; `j` is the junk left in their place -/
theorem move_up (a b mid post : List Nat) : ∃ j, j.length = mid.length ∧
    writeAt (a ++ b ++ mid ++ post) (a.length + mid.length) (readAt (a ++ b ++ mid ++ post) a.length b.length) =
      a ++ j ++ b ++ post := by
  refine ⟨(b ++ mid).take mid.length, by
    rw [List.length_take, List.length_append, Nat.min_eq_left (Nat.le_add_left ..)], ?_⟩
  have hr : readAt (a ++ b ++ mid ++ post) a.length b.length = b := by
    rw [List.append_assoc (a ++ b)]; exact readAt_split
  have hl : (a ++ (b ++ mid).take mid.length).length = a.length + mid.length := by
    rw [List.length_append, List.length_take, List.length_append, Nat.min_eq_left (Nat.le_add_left ..)]
  have hx : a ++ b ++ mid ++ post = a ++ (b ++ mid).take mid.length ++ (b ++ mid).drop mid.length ++ post := by
    rw [List.append_assoc a (List.take ..), List.take_append_drop]
    simp only [List.append_assoc]
  rw [hr, hx, ← hl, writeAt_split]
  rw [List.length_drop, List.length_append, Nat.add_sub_cancel]

theorem Inv.mul_lt_W {v : Vector} (h : Inv v) {k : Nat} (hk : k ≤ v.cap) : k * v.esz < W := by
  by_cases hc : 0 < v.cap
  · obtain ⟨_, n, _, _, hlt, hle⟩ := h.block hc
    exact Nat.lt_of_le_of_lt (Nat.le_trans (Nat.le_add_right ..) (hle k hk)) hlt
  · obtain rfl : k = 0 := by omega
    rw [Nat.zero_mul]
    decide

theorem Inv.mulW_eq {v : Vector} (h : Inv v) {k : Nat} (hk : k ≤ v.count) : mulW k v.esz = k * v.esz :=
  mulW_of_lt (h.mul_lt_W (Nat.le_trans hk h.count_le_cap))

theorem Inv.in_block {v : Vector} (h : Inv v) {i k : Nat} (hk : 0 < k) (hik : i + k ≤ v.count) :
    ∃ b n, v.base = some (b, n) ∧ i * v.esz + k * v.esz ≤ n := by
  have hcc := h.count_le_cap
  obtain ⟨b, n, hb, _, _, hle⟩ := h.block (by omega)
  obtain ⟨m, rfl⟩ : ∃ m, k = m + 1 := ⟨k - 1, by omega⟩
  exact ⟨b, n, hb, by rw [Nat.succ_mul, ← Nat.add_assoc, ← Nat.add_mul]; exact hle (i + m) (by omega)⟩

theorem Inv.mul_div {v : Vector} (h : Inv v) (k : Nat) : k * v.esz / v.esz = k :=
  Nat.mul_div_cancel _ h.esz_pos

theorem Inv.mul_ne_zero {v : Vector} (h : Inv v) {k : Nat} (hk : k ≠ 0) : k * v.esz ≠ 0 :=
  Nat.ne_of_gt (Nat.mul_pos (Nat.pos_of_ne_zero hk) h.esz_pos)

theorem rawSet_in {v : Vector} (h : Inv v) {i x : Nat} (hi : i < v.count) :
    rawSet v i x = .ok { v with elems := writeAt v.elems i [x] } := by
  obtain ⟨b, n, hb, hle⟩ := h.in_block (i := i) (k := 1) Nat.one_pos hi
  rw [Nat.one_mul] at hle
  unfold rawSet
  simp only [hb]
  rw [h.mulW_eq (Nat.le_of_lt hi), h.mul_div, if_pos hle]

theorem rawMove_in {v : Vector} (h : Inv v) {dst src k : Nat}
    (hs : src + k ≤ v.count) (hd : dst + k ≤ v.count) :
    rawMove v dst src (k * v.esz) = .ok { v with elems := writeAt v.elems dst (readAt v.elems src k) } := by
  unfold rawMove
  by_cases hk : k = 0
  · subst hk
    simp [readAt, writeAt_nil]
  · obtain ⟨b, n, hb, hle⟩ := h.in_block (Nat.pos_of_ne_zero hk) hs
    obtain ⟨b', n', hb', hle'⟩ := h.in_block (Nat.pos_of_ne_zero hk) hd
    obtain rfl : n' = n := by rw [hb] at hb'; cases hb'; rfl
    rw [if_neg (h.mul_ne_zero hk)]
    simp only [hb]
    rw [h.mulW_eq (by omega), h.mulW_eq (by omega), h.mul_div, h.mul_div, h.mul_div, if_pos ⟨hle, hle'⟩]

theorem rawRead_in {v : Vector} (h : Inv v) {idx k : Nat} (hs : idx + k ≤ v.count) :
    rawRead v idx (k * v.esz) = .ok (readAt v.elems idx k) := by
  unfold rawRead
  by_cases hk : k = 0
  · subst hk
    simp [readAt]
  · obtain ⟨b, n, hb, hle⟩ := h.in_block (Nat.pos_of_ne_zero hk) hs
    rw [if_neg (h.mul_ne_zero hk)]
    simp only [hb]
    rw [h.mulW_eq (by omega), h.mul_div, h.mul_div, if_pos hle]

theorem rawWrite_in {v : Vector} (h : Inv v) {idx k : Nat} {src : List Nat}
    (hd : idx + k ≤ v.count) (hsrc : k ≤ src.length) :
    rawWrite v idx src (k * v.esz) = .ok { v with elems := writeAt v.elems idx (src.take k) } := by
  unfold rawWrite
  by_cases hk : k = 0
  · subst hk
    simp [writeAt_nil]
  · obtain ⟨b, n, hb, hle⟩ := h.in_block (Nat.pos_of_ne_zero hk) hd
    rw [if_neg (h.mul_ne_zero hk)]
    simp only [hb]
    rw [h.mulW_eq (by omega), h.mul_div, h.mul_div, if_neg (Nat.not_lt_of_ge hsrc), if_pos hle]

theorem rawMove_down {v : Vector} (h : Inv v) {a c b post : List Nat} (hel : v.elems = a ++ c ++ b ++ post) :
    ∃ j, Inv { v with elems := a ++ b ++ j ++ post } ∧
      rawMove v a.length (a.length + c.length) (b.length * v.esz) = .ok { v with elems := a ++ b ++ j ++ post } := by
  have hlen := h.len
  rw [hel] at hlen
  simp only [List.length_append] at hlen
  obtain ⟨j, hj, hmv⟩ := move_down a c b post
  refine ⟨j, inv_with_elems h (by simp only [List.length_append]; omega), ?_⟩
  rw [rawMove_in h (by omega) (by omega), hel, hmv]

theorem rawMove_up {v : Vector} (h : Inv v) {a b mid post : List Nat} (hel : v.elems = a ++ b ++ mid ++ post) :
    ∃ j, j.length = mid.length ∧ Inv { v with elems := a ++ j ++ b ++ post } ∧
      rawMove v (a.length + mid.length) a.length (b.length * v.esz) = .ok { v with elems := a ++ j ++ b ++ post } := by
  have hlen := h.len
  rw [hel] at hlen
  simp only [List.length_append] at hlen
  obtain ⟨j, hj, hmv⟩ := move_up a b mid post
  refine ⟨j, hj, inv_with_elems h (by simp only [List.length_append]; omega), ?_⟩
  rw [rawMove_in h (by omega) (by omega), hel, hmv]

/-- the caller's array is shorter than the count it passed: the `memcpy`
reads past its end (outside the domain of `insert_str_n`) -/
theorem rawWrite_overread {v : Vector} (h : Inv v) {idx k : Nat} {src : List Nat}
    (hd : idx + k ≤ v.count) (hsrc : src.length < k) :
    rawWrite v idx src (k * v.esz) = .error .oob := by
  obtain ⟨b, n, hb, _⟩ := h.in_block (Nat.zero_lt_of_lt hsrc) hd
  unfold rawWrite
  rw [if_neg (h.mul_ne_zero (Nat.ne_of_gt (Nat.zero_lt_of_lt hsrc)))]
  simp only [hb]
  rw [h.mul_div, if_pos hsrc]

theorem fillLoop_in {v : Vector} (h : Inv v) {x : Nat} (k : Nat) {pre mid post : List Nat}
    (he : v.elems = pre ++ mid ++ post) (hk : mid.length = k) :
    fillLoop k v pre.length x = .ok { v with elems := pre ++ List.replicate k x ++ post } := by
  induction k generalizing v pre mid with
  | zero =>
    have : mid = [] := List.eq_nil_of_length_eq_zero hk
    subst this
    have he' : pre ++ post = v.elems := by rw [he]; simp
    simp only [fillLoop, List.replicate_zero, List.append_nil]
    rw [he']
  | succ k ih =>
    match mid, hk with
    | m :: mid', hk =>
      have hlen := h.len
      rw [he] at hlen
      simp at hlen hk
      have hi : pre.length < v.count := by omega
      unfold fillLoop
      rw [rawSet_in h hi]
      dsimp only
      have hw : writeAt v.elems pre.length [x] = (pre ++ [x]) ++ mid' ++ post := by
        rw [he]
        have : pre ++ m :: mid' ++ post = pre ++ [m] ++ (mid' ++ post) := by simp
        rw [this, writeAt_split (by simp)]
        simp
      rw [hw]
      have hadd : addW pre.length 1 = (pre ++ [x]).length := by
        rw [addW_of_lt (by have := h.count_lt_W; omega), List.length_append]
        rfl
      rw [hadd]
      have hinv : Inv { v with elems := (pre ++ [x]) ++ mid' ++ post } :=
        inv_with_elems h (by simp; omega)
      rw [ih hinv rfl hk]
      simp [List.replicate_succ]

end Cstl.Vec
