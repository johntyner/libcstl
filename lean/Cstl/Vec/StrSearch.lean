import Cstl.Vec.StrEdit
namespace Cstl.Vec

/-- the string holds a terminator to point at: no storage (then `str` is the static
NUL) or a non-empty `count`.  `terminated_init` and, through `terminated_of_count`,
the `0 < count` conjunct of `strResize_refines` give it; a `reserve` on an empty
string leaves storage without a terminator -/
def Terminated (v : Vector) : Prop := v.base = none ∨ 0 < v.count

theorem takeWhile_append_stop {p : Nat → Bool} (xs : List Nat) {a : Nat} (ha : p a = false) (ys : List Nat) :
    (xs ++ a :: ys).takeWhile p = xs.takeWhile p := by
  induction xs with
  | nil => simp [List.takeWhile, ha]
  | cons x xs ih =>
    simp only [List.cons_append, List.takeWhile]
    cases p x <;> simp [ih]

/-- C10: `cstl_STRING_str(s) + pos` is a NUL-terminated C string whose
characters are those of the reference string from `pos` up to its first NUL -/
theorem cstrFrom_rep {v : Vector} {s : List Nat} (h : StrRep v s) (ht : Terminated v) {pos : Nat}
    (hp : pos ≤ s.length) : cstrFrom v pos = some ((s.drop pos).takeWhile (· != 0)) := by
  unfold cstrFrom
  cases hb : v.base with
  | none =>
    rw [h.nil_of_no_base hb] at hp ⊢
    rw [Nat.le_zero.mp hp]
    rfl
  | some p =>
    have he : v.elems = s ++ [0] := by
      rcases h.rep with ⟨hc0, _⟩ | he
      · exact absurd hc0 (Nat.ne_of_gt (ht.resolve_left (by rw [hb]; exact fun e => by cases e)))
      · exact he
    simp only
    rw [he, List.drop_append_of_le_length hp]
    have hany : (s.drop pos ++ [0]).any (· == 0) = true := by simp
    rw [if_pos hany]
    congr 1
    exact takeWhile_append_stop _ (by simp) []

/-- the view never contains a NUL -/
theorem view_no_nul (xs : List Nat) : ∀ x ∈ xs.takeWhile (· != 0), x ≠ 0 :=
  fun x hx => by simpa using List.all_eq_true.mp (List.all_takeWhile (l := xs) (p := (· != 0))) x hx

/-- `strchr`: the first occurrence of `c` in the string, the terminator being
part of the string (7.24.5.2) -/
theorem strchrM_spec (view : List Nat) (c : Nat) :
    (c = 0 → strchrM view c = some view.length) ∧
    (c ≠ 0 → (strchrM view c = none ↔ c ∉ view) ∧
       ∀ i, strchrM view c = some i → i < view.length ∧ view[i]? = some c ∧ ∀ j, j < i → view[j]? ≠ some c) := by
  unfold strchrM
  refine ⟨fun hc => by rw [if_pos hc], fun hc => ?_⟩
  rw [if_neg hc]
  dsimp only
  refine ⟨?_, fun i hi => ?_⟩
  · rw [ite_eq_right_iff]
    simp [List.findIdx_lt_length]
  -- a hit: `findIdx` is the first index whose unit is `c`
  obtain ⟨hlt, rfl⟩ := Option.ite_some_none_eq_some.mp hi
  obtain ⟨h1, h2⟩ := (List.findIdx_eq hlt).mp rfl
  refine ⟨hlt, by rw [List.getElem?_eq_getElem hlt, beq_iff_eq.mp h1], fun j hj hjc => ?_⟩
  have hjl : j < view.length := Nat.lt_trans hj hlt
  rw [List.getElem?_eq_getElem hjl] at hjc
  have := h2 j hj
  rw [Option.some.inj hjc] at this
  simp at this

theorem isPrefix_iff (xs ys : List Nat) : isPrefix xs ys = true ↔ xs <+: ys := by
  rw [show isPrefix xs ys = xs.isPrefixOf ys by fun_induction isPrefix xs ys <;> simp [List.isPrefixOf, *]]
  exact List.isPrefixOf_iff_prefix

theorem strstrM_nil (ndl : List Nat) : strstrM ndl [] = if isPrefix ndl [] then some 0 else none := rfl

theorem strstrM_cons (ndl : List Nat) (x : Nat) (t : List Nat) :
    strstrM ndl (x :: t) = if isPrefix ndl (x :: t) then some 0 else (strstrM ndl t).map (· + 1) := by
  rw [strstrM]
  split
  · rfl
  · cases strstrM ndl t <;> rfl

/-- `strstr`: the first position where the needle occurs (7.24.5.7); an empty
needle matches at the start -/
theorem strstrM_spec (ndl hay : List Nat) :
    (∀ i, strstrM ndl hay = some i →
       i ≤ hay.length ∧ ndl <+: hay.drop i ∧ ∀ j, j < i → ¬ ndl <+: hay.drop j) ∧
    (strstrM ndl hay = none → ∀ j, j ≤ hay.length → ¬ ndl <+: hay.drop j) := by
  -- a match at the head: index 0, nothing before it
  have hit : ∀ l : List Nat, isPrefix ndl l = true →
      (∀ i, some 0 = some i → i ≤ l.length ∧ ndl <+: l.drop i ∧ ∀ j, j < i → ¬ ndl <+: l.drop j) ∧
      (some 0 = (none : Option Nat) → ∀ j, j ≤ l.length → ¬ ndl <+: l.drop j) := by
    intro l hp
    refine ⟨fun i hi => ?_, fun hn => by cases hn⟩
    cases hi
    exact ⟨Nat.zero_le _, (isPrefix_iff _ _).mp hp, fun j hj => absurd hj (Nat.not_lt_zero _)⟩
  induction hay with
  | nil =>
    rw [strstrM_nil]
    by_cases hp : isPrefix ndl [] = true
    · rw [if_pos hp]
      exact hit [] hp
    · rw [if_neg hp]
      refine ⟨fun i hi => (by cases hi), fun _ j hj hpre => ?_⟩
      obtain rfl : j = 0 := Nat.le_zero.mp hj
      exact hp ((isPrefix_iff _ _).mpr hpre)
  | cons x t ih =>
    obtain ⟨ih1, ih2⟩ := ih
    rw [strstrM_cons]
    by_cases hp : isPrefix ndl (x :: t) = true
    · rw [if_pos hp]
      exact hit _ hp
    · rw [if_neg hp]
      have h0 : ¬ ndl <+: (x :: t).drop 0 := fun hpre => hp ((isPrefix_iff _ _).mpr hpre)
      cases hr : strstrM ndl t with
      | none =>
        refine ⟨fun i hi => (by cases hi), fun _ j hj => ?_⟩
        cases j with
        | zero => exact h0
        | succ j => exact ih2 hr j (Nat.le_of_succ_le_succ hj)
      | some k =>
        refine ⟨fun i hi => ?_, fun hn => by cases hn⟩
        cases hi
        obtain ⟨h1, h2, h3⟩ := ih1 k hr
        refine ⟨Nat.succ_le_succ h1, h2, fun j hj => ?_⟩
        cases j with
        | zero => exact h0
        | succ j => exact h3 j (Nat.lt_of_succ_lt_succ hj)

/-- `strcmp` / `wcscmp` (7.24.4.2): zero exactly for equal strings … -/
theorem strcmpM_eq_zero_iff (key : Nat → Int) (a b : List Nat) : strcmpM key a b = 0 ↔ a = b := by
  induction a generalizing b with
  | nil =>
    cases b with
    | nil => simp [strcmpM]
    | cons y ys =>
      simp only [strcmpM]
      split <;> simp
  | cons x xs ih =>
    cases b with
    | nil =>
      simp only [strcmpM]
      split <;> simp
    | cons y ys =>
      simp only [strcmpM]
      by_cases hxy : x = y
      · rw [if_pos hxy, ih]; simp [hxy]
      · rw [if_neg hxy]
        split <;> simp [hxy]

/-- … otherwise the sign is that of the difference of the first pair of units
that differ, the terminators included, in the C library's unit order `key` -/
theorem strcmpM_first_diff (key : Nat → Int) (p : List Nat) :
    ∀ (a b a' b' : List Nat) (x y : Nat), a ++ [0] = p ++ x :: a' → b ++ [0] = p ++ y :: b' → x ≠ y →
      strcmpM key a b = if key x < key y then -1 else 1 := by
  induction p with
  | nil =>
    intro a b a' b' x y ha hb hxy
    cases a with
    | nil =>
      simp at ha
      cases b with
      | nil => simp at hb; omega
      | cons y0 ys =>
        simp at hb
        simp only [strcmpM]
        rw [← ha.1, ← hb.1]
    | cons x0 xs =>
      simp at ha
      cases b with
      | nil =>
        simp at hb
        simp only [strcmpM]
        rw [← ha.1, ← hb.1]
      | cons y0 ys =>
        simp at hb
        simp only [strcmpM]
        rw [ha.1, hb.1, if_neg hxy]
  | cons c p ih =>
    intro a b a' b' x y ha hb hxy
    cases a with
    | nil => simp at ha
    | cons x0 xs =>
      cases b with
      | nil => simp at hb
      | cons y0 ys =>
        simp at ha hb
        simp only [strcmpM]
        rw [ha.1, hb.1, if_pos rfl]
        exact ih xs ys a' b' x y ha.2 hb.2 hxy

/-- C10: `cstl_STRING_find_ch(s, c, pos)` aborts when `pos ≥ size`; otherwise it is
`strchr` on the reference string's characters from `pos` (up to their first NUL),
with a hit on the terminator reported as "not found" -/
theorem findCh_eq_libc {v : Vector} {s : List Nat} (h : StrRep v s) (ht : Terminated v) (c pos : Nat) :
    (s.length ≤ pos → findCh v c pos = .error .abort) ∧
    (pos < s.length → findCh v c pos =
      .ok (match strchrM ((s.drop pos).takeWhile (· != 0)) c with
           | none => none
           | some i => if pos + i = s.length then none else some (pos + i))) := by
  unfold findCh
  rw [h.size]
  constructor
  · intro hp; rw [if_pos hp]
  · intro hp
    rw [if_neg (by omega), cstrFrom_rep h ht (by omega)]
    dsimp only
    cases strchrM ((s.drop pos).takeWhile (· != 0)) c with
    | none => rfl
    | some i =>
      dsimp only
      split <;> rfl

/-- C10: `cstl_STRING_find_str(s, ndl, pos)` aborts when `pos ≥ size`; otherwise it is
`strstr` on the reference string's characters from `pos` (`ndl`: the caller's string
up to its NUL), the index counted from the start of the string -/
theorem findStr_eq_libc {v : Vector} {s : List Nat} (h : StrRep v s) (ht : Terminated v) (ndl : List Nat)
    (pos : Nat) :
    (s.length ≤ pos → findStr v ndl pos = .error .abort) ∧
    (pos < s.length → findStr v ndl pos =
      .ok ((strstrM ndl ((s.drop pos).takeWhile (· != 0))).map (pos + ·))) := by
  unfold findStr
  rw [h.size]
  constructor
  · intro hp; rw [if_pos hp]
  · intro hp
    rw [if_neg (by omega), cstrFrom_rep h ht (by omega)]
    dsimp only
    cases strstrM ndl ((s.drop pos).takeWhile (· != 0)) <;> rfl

/-- C10: `cstl_STRING_compare_str` is the sign of `strcmp` / `wcscmp` on the reference
string's characters up to their first NUL -/
theorem compareStr_eq_libc {v : Vector} {s : List Nat} (h : StrRep v s) (ht : Terminated v) (raw : List Nat) :
    compareStr v raw = .ok (strcmpM (unitKey v.esz) (s.takeWhile (· != 0)) raw) := by
  unfold compareStr
  rw [cstrFrom_rep h ht (Nat.zero_le _)]
  simp

theorem terminated_of_count {v : Vector} (h : 0 < v.count) : Terminated v := Or.inr h

theorem terminated_init (esz : Nat) : Terminated (Vector.init esz false false) := Or.inl rfl

end Cstl.Vec
