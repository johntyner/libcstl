import Lean.Meta.Tactic.Simp.RegisterCommand

/-- Equations that evaluate the vocabulary of the C translations: sequencing (`bindF`, `andThen`),
the raw accesses at a byte offset as the model's index-level accesses, the offset computations
of the translated `__at` functions. -/
register_simp_attr csem
