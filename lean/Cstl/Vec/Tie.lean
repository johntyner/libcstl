import Cstl.Gen.VecC
import Cstl.Vec.LemmasStr
import Cstl.Vec.Props
/-
Translator tie for vector / strings (C09, C10): the definitions in
`Cstl/Gen/VecC.lean` are regenerated from /repo's src/vector.c, src/string.c
(+ src/_string.c and the inline functions of the two headers) by
tools/c2lean_vec.py on every check run; the theorems below (hand-written,
not regenerated) state that the hand-written model functions of `Cstl/Vec/Model.lean`
are exactly those translations.  A change to the integer guards, the size
computations, the loop bounds or the order of the steps of one of these C
functions changes its translation and the corresponding equality stops
checking.

Hypotheses that occur:
* `x < W` for values that are `size_t` in C (arguments, `count`): the
  translation computes `size - pos`, `sz--`, `SIZE_MAX - size` with the wrapping
  `subW` where the model uses truncated subtraction on `Nat` under a guard;
* `v.elems.length = v.count` (part of the model's invariant `Inv`) where the
  constructor loop stores into the slot that `count++` has just made live;
* `fuel`: functions that contain a loop (or call one) are translated with
  fuel; the tie holds for every sufficient amount: the vector loops need the
  number of slots that change (`sz - count`, `count - sz`), the string
  functions are stated for `W ≤ fuel`, which covers every loop they reach.

Every function the translator translates is tied here, the string functions for both
instantiations, except `cstl_vector_data` and `cstl_STRING_data`, whose translation is the constant
offset 0 (only `wide_data` speaks of them); the second translator's in Tie2.lean.  Not translated (correspondence remains
the only tie): the init functions.
-/
namespace Cstl.Vec.Tie
open Cstl.Vec Cstl.Gen.VecC

theorem addW_zero_mulW (a b : Nat) : addW 0 (mulW a b) = mulW a b :=
  addW_zero_left (Nat.mod_lt _ (by decide))

theorem subW_one {c : Nat} (h0 : 0 < c) (hc : c ≤ W) : subW c 1 = c - 1 := by
  unfold subW
  rw [W_eq] at *
  omega

/-- `if (c > 0) c--;` in `size_t` arithmetic.  `c = W` is allowed (`W - 1` does not wrap either),
which is why `strSize_tie`, `substrPrep_tie` and `substr_tie` ask only `count ≤ W` of the object
they merely measure, while an object that is resized needs `count < W` -/
theorem pred_tie {c : Nat} (hc : c ≤ W) : (if c > 0 then subW c 1 else c) = if c > 0 then c - 1 else 0 := by
  split
  · rename_i h; exact subW_one h hc
  · omega

/-! ### src/vector.c -/

theorem vsize_tie (v : Vector) : c_cstl_vector_size v = v.count := rfl
theorem vcapacity_tie (v : Vector) : c_cstl_vector_capacity v = v.cap := rfl

/-- `__cstl_vector_at`: the offset `i * elem.size` (mod 2^64) from `elem.base` -/
theorem vatOffset_tie (v : Vector) (i : Nat) : c_priv_cstl_vector_at v i = mulW i v.esz :=
  addW_zero_mulW i v.esz

theorem vatConst_tie (v : Vector) (i : Nat) : c_cstl_vector_at_const v i = vat v i := by
  simp only [c_cstl_vector_at_const, vat, vatOffset_tie]

/-- `cstl_vector_at` (the non-const entry point) is `at_const` -/
theorem vat_public_tie (v : Vector) (i : Nat) : c_cstl_vector_at v i = vat v i := by
  simp only [c_cstl_vector_at, vatConst_tie, csem]

/-- `cstl_vector_set_capacity`: the overflow guard `n == 0 || (size != 0 && n > SIZE_MAX / size)`,
the requested byte count `(sz + 1) * size` (both mod 2^64), commit only on a non-NULL answer -/
theorem setCapacity_tie (ans : Nat → Bool) (newId : Nat) (v : Vector) (sz : Nat) :
    c_cstl_vector_set_capacity ans newId v sz = setCapacity ans newId v sz := by
  simp only [c_cstl_vector_set_capacity, setCapacity]
  split
  · rfl
  · cases reallocM ans newId v.base (mulW (addW sz 1) v.esz) <;> rfl

theorem reserve_tie (ans : Nat → Bool) (newId : Nat) (v : Vector) (sz : Nat) :
    c_cstl_vector_reserve ans newId v sz = reserve ans newId v sz := by
  simp only [c_cstl_vector_reserve, reserve, setCapacity_tie, csem]

theorem shrink_tie (ans : Nat → Bool) (newId : Nat) (v : Vector) :
    c_cstl_vector_shrink_to_fit ans newId v = shrink ans newId v := by
  simp only [c_cstl_vector_shrink_to_fit, shrink, setCapacity_tie, csem]

theorem vswap_tie (a b : Vector) : c_cstl_vector_swap a b = vswap a b := rfl

theorem setCount_succ (v : Vector) :
    setCount v (v.count + 1) = { v with count := v.count + 1, elems := v.elems ++ [undefV] } := by
  unfold setCount
  rw [if_pos (Nat.lt_succ_self _), Nat.add_sub_cancel_left]
  rfl

theorem setCount_pred (v : Vector) (h : 0 < v.count) :
    setCount v (v.count - 1) = { v with count := v.count - 1, elems := v.elems.take (v.count - 1) } := by
  unfold setCount
  rw [if_neg (by omega), if_pos (by omega)]

/-- `do { xtor(__cstl_vector_at(v, v->count++), priv); } while (v->count < sz);` with the
constructor: `sz - count` iterations, slots `count … sz-1` upward -/
theorem consLoop_tie (sz : Nat) (hsz : sz < W) :
    ∀ (k fuel : Nat) (v : Vector) (ev : List Ev),
      sz - v.count = k → v.count < sz → k ≤ fuel → v.elems.length = v.count →
      c_cstl_vector_resize_loop1 sz FnPtr.cons fuel v ev =
        some (.ok ({ v with count := sz, elems := v.elems ++ List.replicate k ctorV },
                   ev ++ consUp k v.count)) := by
  intro k
  induction k with
  | zero => intro _ _ _ h; omega
  | succ k ih =>
    intro fuel v ev hk _ hf hl
    obtain ⟨f, rfl⟩ : ∃ f, fuel = f + 1 := ⟨fuel - 1, by omega⟩
    have hset : (v.elems ++ [undefV]).set v.count ctorV = v.elems ++ [ctorV] := by
      rw [← hl]; simp
    simp only [c_cstl_vector_resize_loop1, addW_of_lt (show v.count + 1 < W by omega), setCount_succ, callX,
      bindF_some_ok, hset]
    by_cases hlt : v.count + 1 < sz
    · rw [if_pos hlt, ih f _ _ (by simp; omega) hlt (by omega) (by simp [hl])]
      simp [consUp, List.replicate_succ]
    · rw [if_neg hlt]
      obtain rfl : k = 0 := by omega
      obtain rfl : v.count + 1 = sz := by omega
      rfl

/-- `do { xtor(__cstl_vector_at(v, --v->count), priv); } while (v->count > sz);` with the
destructor: `count - sz` iterations, slots `count-1 … sz` downward -/
theorem destLoop_tie (sz : Nat) :
    ∀ (k fuel : Nat) (v : Vector) (ev : List Ev),
      v.count - sz = k → v.count > sz → k ≤ fuel → v.count ≤ W →
      c_cstl_vector_resize_loop2 sz FnPtr.dest fuel v ev =
        some (.ok ({ v with count := sz, elems := v.elems.take sz }, ev ++ destDown k v.count)) := by
  intro k
  induction k with
  | zero => intro _ _ _ h; omega
  | succ k ih =>
    intro fuel v ev hk _ hf hW
    obtain ⟨f, rfl⟩ : ∃ f, fuel = f + 1 := ⟨fuel - 1, by omega⟩
    simp only [c_cstl_vector_resize_loop2, subW_one (show 0 < v.count by omega) hW,
      setCount_pred v (by omega), callX, bindF_some_ok]
    by_cases hgt : v.count - 1 > sz
    · rw [if_pos hgt, ih f _ _ (by simp; omega) hgt (by omega) (Nat.le_trans (Nat.sub_le ..) hW)]
      simp only [List.take_take, Nat.min_eq_left (Nat.le_of_lt hgt), destDown, List.append_assoc,
        List.singleton_append]
    · rw [if_neg hgt]
      obtain rfl : k = 0 := by omega
      obtain rfl : v.count - 1 = sz := by omega
      rfl

/-- `cstl_vector_resize`: reserve, abort iff `cap < sz` afterwards, which callback is
chosen, `count = sz` without one, otherwise the constructor loop upward / the destructor
loop downward with exactly the model's bounds -/
theorem resize_tie (fuel : Nat) (ans : Nat → Bool) (newId : Nat) (v : Vector) (sz : Nat)
    (hsz : sz < W) (hc : v.count < W) (hl : v.elems.length = v.count)
    (hf1 : sz - v.count ≤ fuel) (hf2 : v.count - sz ≤ fuel) :
    c_cstl_vector_resize fuel ans newId v sz = some (resize ans newId v sz) := by
  rw [resize_eq]
  unfold resizeTo
  simp only [c_cstl_vector_resize, reserve_tie, List.nil_append]
  obtain ⟨hcnt, _, _, _, hlen⟩ := reserve_frame ans newId v sz
  generalize (reserve ans newId v sz).1 = v1 at *
  generalize (reserve ans newId v sz).2 = e1 at *
  by_cases hcap : v1.cap < sz
  · simp only [hcap, if_true]
  · simp only [hcap, if_false]
    by_cases hlt : v1.count < sz
    · simp only [hlt, if_true, consPtr]
      cases hcons : v1.cons
      · simp only [hcons, setCount, hlt, if_true, Bool.false_eq_true, if_false]
      · simp only [if_true, reduceCtorEq, if_false, bindF_ok_eta]
        rw [consLoop_tie sz hsz _ fuel v1 e1 rfl hlt (hcnt ▸ hf1) (hlen.trans (hl.trans hcnt.symm)), hcons]
    · simp only [hlt, if_false]
      by_cases hgt : v1.count > sz
      · simp only [hgt, if_true, destPtr]
        cases hdest : v1.dest
        · simp only [hdest, setCount, hlt, hgt, if_true, Bool.false_eq_true, if_false]
        · simp only [if_true, reduceCtorEq, if_false, bindF_ok_eta]
          rw [destLoop_tie sz _ fuel v1 e1 rfl hgt (hcnt ▸ hf2) (hcnt ▸ Nat.le_of_lt hc), hdest]
      · simp only [hgt, if_false, if_true, setCount, hlt]

theorem resize_zero_ans (ans ans' : Nat → Bool) (id id' : Nat) (v : Vector) :
    resize ans id v 0 = resize ans' id' v 0 := by
  rw [resize_eq, resize_eq, reserve_of_le ans id (Nat.zero_le _), reserve_of_le ans' id' (Nat.zero_le _)]

theorem clear_tie (fuel : Nat) (ans : Nat → Bool) (newId : Nat) (v : Vector)
    (hc : v.count < W) (hl : v.elems.length = v.count) (hf : v.count ≤ fuel) :
    c_cstl_vector_clear fuel ans newId v = some (clear v) := by
  simp only [c_cstl_vector_clear, clear, resize_tie fuel ans newId v 0 (by decide) hc hl (by omega) (by omega),
    resize_zero_ans ans (fun _ => false) newId 0 v]
  cases resize (fun _ => false) 0 v 0 with
  | error s => rfl
  | ok r => cases hb : r.1.base <;> simp only [bindF_some_ok, List.nil_append, freeEv, clearBase, hb]

/-! ### src/_string.c, include/cstl/_string.h: narrow instantiation -/

/-- `cstl_STRING_size`: `sz = count; if (sz > 0) sz--;` -/
theorem strSize_tie (v : Vector) (hc : v.count ≤ W) : c_cstl_string_size v = strSize v := pred_tie hc

theorem strCap_tie (v : Vector) (hc : v.cap ≤ W) : c_cstl_string_capacity v = strCap v := pred_tie hc

/-- `cstl_STRING_reserve`: `cstl_vector_reserve(&s->v, sz + 1)` with the wrapping `sz + 1` -/
theorem strReserve_tie (ans : Nat → Bool) (newId : Nat) (v : Vector) (sz : Nat) :
    c_cstl_string_reserve ans newId v sz = strReserve ans newId v sz := by
  simp only [c_cstl_string_reserve, strReserve, reserve_tie, csem]

/-- `STRF(__at, s, i)` = `data + i`: byte offset `i * sizeof(char_t)` mod 2^64 -/
theorem strAtOffset_tie (v : Vector) (i : Nat) : c_cstl_string___at v i = mulW i v.esz :=
  addW_zero_mulW i v.esz

attribute [csem] strAtOffset_tie

theorem strAt_tie (v : Vector) (i : Nat) (hc : v.count ≤ W) : c_cstl_string_at v i = strAt v i := by
  simp only [c_cstl_string_at, strAt, strSize_tie v hc, strAtOffset_tie]

theorem strAtConst_tie (v : Vector) (i : Nat) (hc : v.count ≤ W) : c_cstl_string_at_const v i = strAt v i := by
  simp only [c_cstl_string_at_const, strAt_tie v i hc, csem]

theorem strSize_lt_W (v : Vector) (hc : v.count ≤ W) : strSize v < W := by
  unfold strSize; split <;> (rw [W_eq] at *; omega)

/-- `STRF(substr_prep)`: `pos >= size` aborts; the clamp `*len > size - pos` -/
theorem substrPrep_tie (v : Vector) (pos len : Nat) (hc : v.count ≤ W) :
    c_cstl_string_substr_prep v pos len = substrPrep v pos len := by
  simp only [c_cstl_string_substr_prep, substrPrep, strSize_tie v hc]
  split
  · rfl
  · rw [subW_of_le (by omega) (strSize_lt_W v hc)]
    split <;> rfl

theorem substrPrep_lt_W {v : Vector} {pos len l : Nat} (h : substrPrep v pos len = .ok l)
    (hlen : len < W) : l < W := by
  unfold substrPrep at h
  split at h
  · cases h
  · split at h <;> (cases h; omega)

/-- `STRF(__resize)`: the guard `n == SIZE_MAX` (no room for the terminator), then
`cstl_vector_resize(&s->v, n + 1)` and the terminator store at offset `n * sizeof(char_t)` -/
theorem strResize0_tie (fuel : Nat) (ans : Nat → Bool) (newId : Nat) (v : Vector) (n : Nat)
    (hn : n < W) (hc : v.count < W) (hl : v.elems.length = v.count) (hf : W ≤ fuel) :
    c_cstl_string___resize fuel ans newId v n = some (strResize0 ans newId v n) := by
  have h1 := addW_lt_W n 1
  simp only [c_cstl_string___resize, strResize0, ← addW_one_eq_zero_iff hn,
    resize_tie fuel ans newId v (addW n 1) h1 hc hl (by omega) (by omega), csem]

/-- `while (sz < n) { *STRF(__at, s, sz++) = nul; }`: `n - sz` stores at `sz, sz+1, …`; the
caller keeps the string and drops the counter -/
theorem fillNulLoop_tie (n : Nat) (hn : n < W) :
    ∀ (k fuel sz : Nat), n - sz = k → k < fuel → ∀ (s : Vector) (e : List Ev),
      bindF (c_cstl_string_resize_loop1 n fuel s sz) (fun r => some (.ok (r.1, e))) =
        some (andThen (fillLoop k s sz 0) fun s' => .ok (s', e)) := by
  intro k
  induction k with
  | zero =>
    intro fuel sz hk hf s e
    obtain ⟨f, rfl⟩ : ∃ f, fuel = f + 1 := ⟨fuel - 1, by omega⟩
    rw [c_cstl_string_resize_loop1, if_neg (by omega)]
    rfl
  | succ k ih =>
    intro fuel sz hk hf s e
    obtain ⟨f, rfl⟩ : ∃ f, fuel = f + 1 := ⟨fuel - 1, by omega⟩
    rw [c_cstl_string_resize_loop1, if_pos (by omega)]
    simp only [csem, fillLoop, addW_of_lt (show sz + 1 < W by omega)]
    cases rawSet s sz 0 with
    | error _ => rfl
    | ok s1 => exact ih f (sz + 1) (by omega) (by omega) s1 e

/-- `cstl_STRING_resize`: `__resize`, then NUL-fill of the new characters -/
theorem strResize_tie (fuel : Nat) (ans : Nat → Bool) (newId : Nat) (v : Vector) (n : Nat)
    (hn : n < W) (hc : v.count < W) (hl : v.elems.length = v.count) (hf : W ≤ fuel) :
    c_cstl_string_resize fuel ans newId v n = some (strResize ans newId v n) := by
  simp only [c_cstl_string_resize, strResize, strSize_tie v (Nat.le_of_lt hc),
    strResize0_tie fuel ans newId v n hn hc hl hf,
    fillNulLoop_tie n hn (n - strSize v) fuel (strSize v) rfl (by omega), csem]

/-- `STRF(prep_insert)`: `pos > size` aborts; `len > SIZE_MAX - size` aborts; `__resize(size + len)`;
`memmove` of `(size - pos) * sizeof(char_t)` bytes from offset `pos` to offset `pos + len` -/
theorem prepInsert_tie (fuel : Nat) (ans : Nat → Bool) (newId : Nat) (v : Vector) (pos len : Nat)
    (hc : v.count < W) (hl : v.elems.length = v.count) (hf : W ≤ fuel) :
    c_cstl_string_prep_insert fuel ans newId v pos len = some (prepInsert ans newId v pos len) := by
  have hs := strSize_lt_W v (Nat.le_of_lt hc)
  have hsub : subW SIZE_MAX (strSize v) = SIZE_MAX - strSize v :=
    subW_of_le (by rw [SIZE_MAX_eq]; rw [W_eq] at hs; omega) (by decide)
  simp only [c_cstl_string_prep_insert, prepInsert, strSize_tie v (Nat.le_of_lt hc), hsub,
    strResize0_tie fuel ans newId v _ (addW_lt_W _ _) hc hl hf, csem]

/-- `while (cnt-- > 0) { *STRF(__at, s, idx++) = ch; }`: `cnt` stores at `idx, idx+1, …`; the
caller keeps the string and drops the counters -/
theorem fillChLoop_tie (ch : Nat) :
    ∀ (cnt fuel : Nat), cnt < fuel → cnt < W → ∀ (s : Vector) (idx : Nat) (e : List Ev),
      bindF (c_cstl_string_insert_ch_loop1 ch fuel s idx cnt) (fun r => some (.ok (r.1, e))) =
        some (andThen (fillLoop cnt s idx ch) fun s' => .ok (s', e)) := by
  intro cnt
  induction cnt with
  | zero =>
    intro fuel hf _ s idx e
    obtain ⟨f, rfl⟩ : ∃ f, fuel = f + 1 := ⟨fuel - 1, by omega⟩
    rw [c_cstl_string_insert_ch_loop1, if_neg (Nat.lt_irrefl 0)]
    rfl
  | succ k ih =>
    intro fuel hf hW s idx e
    obtain ⟨f, rfl⟩ : ∃ f, fuel = f + 1 := ⟨fuel - 1, by omega⟩
    rw [c_cstl_string_insert_ch_loop1, if_pos (Nat.succ_pos k), subW_one (Nat.succ_pos k) (Nat.le_of_lt hW)]
    simp only [csem, fillLoop]
    cases rawSet s idx ch with
    | error _ => rfl
    | ok s1 => exact ih f (by omega) (by omega) s1 (addW idx 1) e

theorem insertCh_tie (fuel : Nat) (ans : Nat → Bool) (newId : Nat) (v : Vector) (idx cnt ch : Nat)
    (hcnt : cnt < W) (hc : v.count < W) (hl : v.elems.length = v.count) (hf : W ≤ fuel) :
    c_cstl_string_insert_ch fuel ans newId v idx cnt ch = some (insertCh ans newId v idx cnt ch) := by
  simp only [c_cstl_string_insert_ch, insertCh, prepInsert_tie fuel ans newId v idx cnt hc hl hf,
    fillChLoop_tie ch cnt fuel (by omega) hcnt, csem]

/-- `cstl_STRING_insert_str_n`: `memcpy` of `len * sizeof(char_t)` bytes to offset `idx` -/
theorem insertStrN_tie (fuel : Nat) (ans : Nat → Bool) (newId : Nat) (v : Vector) (idx : Nat)
    (src : List Nat) (len : Nat)
    (hc : v.count < W) (hl : v.elems.length = v.count) (hf : W ≤ fuel) :
    c_cstl_string_insert_str_n fuel ans newId v idx src len = some (insertStrN ans newId v idx src len) := by
  simp only [c_cstl_string_insert_str_n, insertStrN, prepInsert_tie fuel ans newId v idx len hc hl hf, csem]

/-- `cstl_STRING_substr`: the clamp, `__resize(sub, len)`, `memcpy` of `len * sizeof(char_t)`
bytes from offset `idx` of `s` to offset 0 of `sub` -/
theorem substr_tie (fuel : Nat) (ans : Nat → Bool) (newId : Nat) (s : Vector) (idx len : Nat) (sub : Vector)
    (hlen : len < W) (hs : s.count ≤ W) (hc : sub.count < W) (hl : sub.elems.length = sub.count)
    (hf : W ≤ fuel) :
    c_cstl_string_substr fuel ans newId s idx len sub = some (substr ans newId s idx len sub) := by
  simp only [c_cstl_string_substr, substr, substrPrep_tie s idx len hs]
  cases h : substrPrep s idx len with
  | error e => rfl
  | ok len1 =>
    simp only [strResize0_tie fuel ans newId sub len1 (substrPrep_lt_W h hlen) hc hl hf, csem]

theorem rawMove_frame {v v1 : Vector} {d s b : Nat} (h : rawMove v d s b = .ok v1) :
    v1.count = v.count ∧ v1.elems.length = v.elems.length := by
  unfold rawMove at h
  split at h
  · cases h; exact ⟨rfl, rfl⟩
  · split at h
    · cases h
    · dsimp only at h
      split at h
      · cases h; exact ⟨rfl, writeAt_length ..⟩
      · cases h

/-- `cstl_STRING_erase`: the clamp, `memmove` of `(size - (idx + len)) * sizeof(char_t)` bytes
from offset `idx + len` to offset `idx`, `__resize(size - len)` -/
theorem erase_tie (fuel : Nat) (ans : Nat → Bool) (newId : Nat) (v : Vector) (idx len : Nat)
    (hc : v.count < W) (hl : v.elems.length = v.count) (hf : W ≤ fuel) :
    c_cstl_string_erase fuel ans newId v idx len = some (erase ans newId v idx len) := by
  simp only [c_cstl_string_erase, erase, substrPrep_tie v idx len (Nat.le_of_lt hc),
    strSize_tie v (Nat.le_of_lt hc), csem]
  -- not a case split followed by `simp [csem]`: `bindF_some_ok` holds by `rfl`, and on a goal whose
  -- reduct starts with `bindF (some (moveOff …))` again the kernel compares the arguments first and
  -- tries to evaluate the `%` in the byte count symbolically
  refine bindF_some _ _ _ fun len1 _ => bindF_some _ _ _ fun v1 h => ?_
  obtain ⟨h1, h2⟩ := rawMove_frame h
  simp only [strResize0_tie fuel ans newId v1 _ (subW_lt_W _ _) (by omega) (by omega) hf, csem]

theorem strClear_tie (fuel : Nat) (ans : Nat → Bool) (newId : Nat) (v : Vector)
    (hc : v.count < W) (hl : v.elems.length = v.count) (hf : v.count ≤ fuel) :
    c_cstl_string_clear fuel ans newId v = some (clear v) := by
  simp only [c_cstl_string_clear, clear_tie fuel ans newId v hc hl hf, csem]

theorem strSwap_tie (a b : Vector) : c_cstl_string_swap a b = vswap a b := rfl

/-- `cstl_STRING_insert(s, pos, ins)` = `insert_str_n(s, pos, str(ins), size(ins))` -/
theorem insertObj_tie (fuel : Nat) (ans : Nat → Bool) (newId : Nat) (v : Vector) (pos : Nat) (ins : Vector)
    (hi : ins.count ≤ W) (hc : v.count < W) (hl : v.elems.length = v.count) (hf : W ≤ fuel) :
    c_cstl_string_insert fuel ans newId v pos ins =
      some (insertStrN ans newId v pos (objChars ins) (strSize ins)) := by
  simp only [c_cstl_string_insert, strSize_tie ins hi,
    insertStrN_tie fuel ans newId v pos (objChars ins) (strSize ins) hc hl hf, csem]

/-- `cstl_STRING_append(s1, s2)` = `insert(s1, size(s1), s2)` -/
theorem append_tie (fuel : Nat) (ans : Nat → Bool) (newId : Nat) (v ins : Vector)
    (hi : ins.count ≤ W) (hc : v.count < W) (hl : v.elems.length = v.count) (hf : W ≤ fuel) :
    c_cstl_string_append fuel ans newId v ins =
      some (insertStrN ans newId v (strSize v) (objChars ins) (strSize ins)) := by
  simp only [c_cstl_string_append, strSize_tie v (Nat.le_of_lt hc),
    insertObj_tie fuel ans newId v (strSize v) ins hi hc hl hf, csem]

/-- `cstl_STRING_append_ch(s, cnt, ch)` = `insert_ch(s, size(s), cnt, ch)` -/
theorem appendCh_tie (fuel : Nat) (ans : Nat → Bool) (newId : Nat) (v : Vector) (cnt ch : Nat)
    (hcnt : cnt < W) (hc : v.count < W) (hl : v.elems.length = v.count) (hf : W ≤ fuel) :
    c_cstl_string_append_ch fuel ans newId v cnt ch = some (insertCh ans newId v (strSize v) cnt ch) := by
  simp only [c_cstl_string_append_ch, strSize_tie v (Nat.le_of_lt hc),
    insertCh_tie fuel ans newId v (strSize v) cnt ch hcnt hc hl hf, csem]

/-- `cstl_STRING_append_str_n(s, str, len)` = `insert_str_n(s, size(s), str, len)` -/
theorem appendStrN_tie (fuel : Nat) (ans : Nat → Bool) (newId : Nat) (v : Vector) (src : List Nat) (len : Nat)
    (hc : v.count < W) (hl : v.elems.length = v.count) (hf : W ≤ fuel) :
    c_cstl_string_append_str_n fuel ans newId v src len =
      some (insertStrN ans newId v (strSize v) src len) := by
  simp only [c_cstl_string_append_str_n, strSize_tie v (Nat.le_of_lt hc),
    insertStrN_tie fuel ans newId v (strSize v) src len hc hl hf, csem]

/-! ### the wide instantiation (`cstl_wstring_*`, `wchar_t`)

`src/string.c` includes the template twice.  Each function of the wide
instantiation is translated on its own; the theorems `wide_*` state that its
translation coincides with that of the narrow instantiation (the code-unit
width enters only through `.esz`), so every tie above holds for both.  The ties
the checks name are restated for the wide functions explicitly. -/

theorem wide_resize_loop1 : @c_cstl_wstring_resize_loop1 = @c_cstl_string_resize_loop1 := by
  funext n fuel
  induction fuel with
  | zero => rfl
  | succ f ih =>
    funext s sz
    rw [c_cstl_wstring_resize_loop1, c_cstl_string_resize_loop1, ih]
    rfl

theorem wide_insert_ch_loop1 : @c_cstl_wstring_insert_ch_loop1 = @c_cstl_string_insert_ch_loop1 := by
  funext ch fuel
  induction fuel with
  | zero => rfl
  | succ f ih =>
    funext s idx cnt
    rw [c_cstl_wstring_insert_ch_loop1, c_cstl_string_insert_ch_loop1, ih]
    rfl

/-! Apart from the two loops, the functions are not recursive: both sides unfold to the same term. -/

theorem wide_size : @c_cstl_wstring_size = @c_cstl_string_size := rfl
theorem wide_capacity : @c_cstl_wstring_capacity = @c_cstl_string_capacity := rfl
theorem wide_reserve : @c_cstl_wstring_reserve = @c_cstl_string_reserve := rfl
theorem wide_data : @c_cstl_wstring_data = @c_cstl_string_data := rfl
theorem wide___at : @c_cstl_wstring___at = @c_cstl_string___at := rfl
theorem wide_at : @c_cstl_wstring_at = @c_cstl_string_at := rfl
theorem wide_at_const : @c_cstl_wstring_at_const = @c_cstl_string_at_const := rfl
theorem wide___resize : @c_cstl_wstring___resize = @c_cstl_string___resize := rfl

theorem wide_resize : @c_cstl_wstring_resize = @c_cstl_string_resize := by
  unfold c_cstl_wstring_resize c_cstl_string_resize
  rw [wide_resize_loop1]
  rfl

theorem wide_prep_insert : @c_cstl_wstring_prep_insert = @c_cstl_string_prep_insert := rfl

theorem wide_insert_ch : @c_cstl_wstring_insert_ch = @c_cstl_string_insert_ch := by
  unfold c_cstl_wstring_insert_ch c_cstl_string_insert_ch
  rw [wide_insert_ch_loop1]
  rfl

theorem wide_insert_str_n : @c_cstl_wstring_insert_str_n = @c_cstl_string_insert_str_n := rfl
theorem wide_substr_prep : @c_cstl_wstring_substr_prep = @c_cstl_string_substr_prep := rfl
theorem wide_substr : @c_cstl_wstring_substr = @c_cstl_string_substr := rfl
theorem wide_erase : @c_cstl_wstring_erase = @c_cstl_string_erase := rfl
theorem wide_clear : @c_cstl_wstring_clear = @c_cstl_string_clear := rfl
theorem wide_swap : @c_cstl_wstring_swap = @c_cstl_string_swap := rfl
theorem wide_insert : @c_cstl_wstring_insert = @c_cstl_string_insert := rfl
theorem wide_append : @c_cstl_wstring_append = @c_cstl_string_append := rfl

theorem wide_append_ch : @c_cstl_wstring_append_ch = @c_cstl_string_append_ch := by
  unfold c_cstl_wstring_append_ch c_cstl_string_append_ch
  rw [wide_insert_ch]
  rfl

theorem wide_append_str_n : @c_cstl_wstring_append_str_n = @c_cstl_string_append_str_n := rfl

theorem wstrResize0_tie (fuel : Nat) (ans : Nat → Bool) (newId : Nat) (v : Vector) (n : Nat)
    (hn : n < W) (hc : v.count < W) (hl : v.elems.length = v.count) (hf : W ≤ fuel) :
    c_cstl_wstring___resize fuel ans newId v n = some (strResize0 ans newId v n) := by
  rw [wide___resize]; exact strResize0_tie fuel ans newId v n hn hc hl hf

theorem wprepInsert_tie (fuel : Nat) (ans : Nat → Bool) (newId : Nat) (v : Vector) (pos len : Nat)
    (hc : v.count < W) (hl : v.elems.length = v.count) (hf : W ≤ fuel) :
    c_cstl_wstring_prep_insert fuel ans newId v pos len = some (prepInsert ans newId v pos len) := by
  rw [wide_prep_insert]; exact prepInsert_tie fuel ans newId v pos len hc hl hf

theorem wsubstrPrep_tie (v : Vector) (pos len : Nat) (hc : v.count ≤ W) :
    c_cstl_wstring_substr_prep v pos len = substrPrep v pos len := by
  rw [wide_substr_prep]; exact substrPrep_tie v pos len hc

theorem wsubstr_tie (fuel : Nat) (ans : Nat → Bool) (newId : Nat) (s : Vector) (idx len : Nat) (sub : Vector)
    (hlen : len < W) (hs : s.count ≤ W) (hc : sub.count < W) (hl : sub.elems.length = sub.count)
    (hf : W ≤ fuel) :
    c_cstl_wstring_substr fuel ans newId s idx len sub = some (substr ans newId s idx len sub) := by
  rw [wide_substr]; exact substr_tie fuel ans newId s idx len sub hlen hs hc hl hf

theorem werase_tie (fuel : Nat) (ans : Nat → Bool) (newId : Nat) (v : Vector) (idx len : Nat)
    (hc : v.count < W) (hl : v.elems.length = v.count) (hf : W ≤ fuel) :
    c_cstl_wstring_erase fuel ans newId v idx len = some (erase ans newId v idx len) := by
  rw [wide_erase]; exact erase_tie fuel ans newId v idx len hc hl hf

theorem wstrResize_tie (fuel : Nat) (ans : Nat → Bool) (newId : Nat) (v : Vector) (n : Nat)
    (hn : n < W) (hc : v.count < W) (hl : v.elems.length = v.count) (hf : W ≤ fuel) :
    c_cstl_wstring_resize fuel ans newId v n = some (strResize ans newId v n) := by
  rw [wide_resize]; exact strResize_tie fuel ans newId v n hn hc hl hf

theorem winsertCh_tie (fuel : Nat) (ans : Nat → Bool) (newId : Nat) (v : Vector) (idx cnt ch : Nat)
    (hcnt : cnt < W) (hc : v.count < W) (hl : v.elems.length = v.count) (hf : W ≤ fuel) :
    c_cstl_wstring_insert_ch fuel ans newId v idx cnt ch = some (insertCh ans newId v idx cnt ch) := by
  rw [wide_insert_ch]; exact insertCh_tie fuel ans newId v idx cnt ch hcnt hc hl hf

theorem winsertStrN_tie (fuel : Nat) (ans : Nat → Bool) (newId : Nat) (v : Vector) (idx : Nat)
    (src : List Nat) (len : Nat)
    (hc : v.count < W) (hl : v.elems.length = v.count) (hf : W ≤ fuel) :
    c_cstl_wstring_insert_str_n fuel ans newId v idx src len = some (insertStrN ans newId v idx src len) := by
  rw [wide_insert_str_n]; exact insertStrN_tie fuel ans newId v idx src len hc hl hf

theorem wstrAt_tie (v : Vector) (i : Nat) (hc : v.count ≤ W) : c_cstl_wstring_at v i = strAt v i := by
  rw [wide_at]; exact strAt_tie v i hc

end Cstl.Vec.Tie
