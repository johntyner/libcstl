import Cstl.Gen.VecC2
import Cstl.Vec.Tie
import Cstl.Vec.StrSearch
import Cstl.Sort.Props
/-
Second translator tie for vector / strings (C09, C10, C11): the definitions in `Cstl/Gen/VecC2.lean`
are regenerated from /repo's src/vector.c, src/string.c (+ src/_string.c and the two headers) by
tools/c2lean_vec2.py on every check run (tools/areas/swap_tie.py); the theorems below (hand-written,
not regenerated) tie them to Cstl/Vec/Model.lean.

`cstl_vector_search` / `cstl_vector_find` have no counterpart in Cstl/Vec/Model.lean (the sort model's
`search` / `find` are used for them directly): their tie is the argument theorem.

Hypotheses that occur: `Inv v` (the C09 storage invariant, proved for every reachable vector);
`v.esz = 1` resp. `4` (the object was initialised by `cstl_STRING_init`); `v.count < 2^63` where an
index is returned as `ssize_t` (`toSsize_small`; `toSsize_large` shows what is excluded); `cview n = .ok ndl`: the caller's array holds a NUL;
`hs` in `vsort_tie` and `v.count ≤ 2^31` in `vreverse_tie`: see there.
-/
-- the modelled callees take the C function's arguments whether or not the model reads them
set_option linter.unusedVariables false
namespace Cstl.Vec.Tie2
open Cstl.Vec Cstl.Gen.VecC2

/-- `__cstl_vector_at(v, i)` = `elem.base + i * elem.size` -/
theorem vatOffset_tie (v : Vector) (i : Nat) : c_priv_cstl_vector_at v i = SPtr.add (basePtr v) (mulW i v.esz) := rfl

/-- the scratch pointer the wrappers pass: NULL without storage, otherwise byte offset
`cap * elem.size` (mod 2^64) from `elem.base` — the slot at index `cap` -/
theorem scratch_ptr (v : Vector) :
    c_priv_cstl_vector_at v v.cap = match v.base with
      | none => SPtr.null
      | some _ => SPtr.stor (mulW v.cap v.esz) := by
  unfold c_priv_cstl_vector_at basePtr
  cases v.base with
  | none => rfl
  | some p =>
    exact congrArg SPtr.stor (Tie.addW_zero_mulW ..)

theorem vsort_args {β : Type} (k : SPtr → Nat → Nat → Opq → Opq → Opq → SPtr → Nat → β)
    (v : Vector) (cmp priv swap : Opq) (algo : Nat) :
    c_priv_cstl_vector_sort k v cmp priv swap algo =
      k (basePtr v) v.count v.esz cmp priv swap (SPtr.add (basePtr v) (mulW v.cap v.esz)) algo := rfl

theorem vsearch_args {β : Type} (k : SPtr → Nat → Nat → Opq → Opq → Opq → β) (v : Vector) (e cmp priv : Opq) :
    c_cstl_vector_search k v e cmp priv = k (basePtr v) v.count v.esz e cmp priv := rfl

theorem vfind_args {β : Type} (k : SPtr → Nat → Nat → Opq → Opq → Opq → β) (v : Vector) (e cmp priv : Opq) :
    c_cstl_vector_find k v e cmp priv = k (basePtr v) v.count v.esz e cmp priv := rfl

theorem vreverse_args {β : Type} (k : SPtr → Nat → Nat → Opq → SPtr → β) (v : Vector) (swap : Opq) :
    c_priv_cstl_vector_reverse k v swap =
      k (basePtr v) v.count v.esz swap (SPtr.add (basePtr v) (mulW v.cap v.esz)) := rfl

/-- an element value of the vector model as an element of the sort model (the comparison callback
orders the values; equal values are the same bytes) -/
def toElem (x : Nat) : Cstl.Sort.Elem := ⟨(x : Int), x⟩

/-- the live slots of `v` as the array handed to the algorithms -/
def stOf (v : Vector) : Cstl.Sort.St := { arr := (v.elems.map toElem).toArray }

def valsOf (s : Cstl.Sort.St) : List Nat := s.arr.toList.map (·.id)

/-- `tmp` is a slot of `v`'s block behind the `count` elements of `size` bytes -/
def scratchUsable (v : Vector) (count size : Nat) : SPtr → Bool
  | .stor off =>
    match v.base with
    | some (_, n) => count * size ≤ off && off + size ≤ n
    | none => false
  | _ => false

/-- `cstl_raw_array_sort(arr, count, size, cmp, priv, swap, tmp, algo)` on the storage of `v` as the
model of array.c describes it: the call must be on the whole live array (`arr = elem.base`,
`count` live slots of `size = elem.size` bytes); with fewer than two elements nothing is accessed;
otherwise the elements are accessed through `arr` (NULL: crash), ordered by `Cstl.Sort.sort`, and
every exchange goes through `tmp`, which then has to be a slot of the block outside the array.  The
last arm (the array model stops: out of fuel, index overflow) is reported as `oob` arbitrarily; the ties
never reach it (`hs` in `vsort_tie`, `Cstl.Sort.reverse_mirror` in `vreverse_tie`). -/
def rawSortOn (fuel : Nat) (v : Vector) (arr : SPtr) (count size : Nat) (cmp priv swap : Opq) (tmp : SPtr)
    (algo : Nat) : Except Stop Vector :=
  if count ≠ v.count ∨ size ≠ v.esz ∨ arr ≠ basePtr v then .error .oob
  else if count < 2 then .ok v
  else if arr = SPtr.null then .error .nullDeref
  else match Cstl.Sort.sort fuel (stOf v) algo with
    | .ok s' =>
      if s'.log.nswap = 0 ∨ scratchUsable v count size tmp = true then .ok { v with elems := valsOf s' }
      else .error .oob
    | .error _ => .error .oob

/-- `cstl_raw_array_reverse(arr, count, size, swap, tmp)` likewise, by `Cstl.Sort.reverse` (last arm as above) -/
def rawReverseOn (v : Vector) (arr : SPtr) (count size : Nat) (swap : Opq) (tmp : SPtr) : Except Stop Vector :=
  if count ≠ v.count ∨ size ≠ v.esz ∨ arr ≠ basePtr v then .error .oob
  else if count < 2 then .ok v
  else if arr = SPtr.null then .error .nullDeref
  else match Cstl.Sort.reverse (stOf v) with
    | .ok s' =>
      if s'.log.nswap = 0 ∨ scratchUsable v count size tmp = true then .ok { v with elems := valsOf s' }
      else .error .oob
    | .error _ => .error .oob

theorem stOf_toList (v : Vector) : (stOf v).arr.toList = v.elems.map toElem := rfl

theorem stOf_size (v : Vector) : (stOf v).arr.size = v.elems.length := by simp [stOf]

theorem valsOf_of_toList {s : Cstl.Sort.St} {xs : List Nat} (h : s.arr.toList = xs.map toElem) : valsOf s = xs := by
  simp [valsOf, h, toElem, Function.comp_def]

/-- the two notions of "sorted permutation" meet: an array that is a permutation of the images of `xs`,
ordered by key (what `Cstl.Sort.sort_of_ok` gives), holds the model's `sortVals xs`: keys are the values,
and a sorted permutation is unique (`Cstl.Vec.sorted_perm_unique`) -/
theorem valsOf_sorted {s' : Cstl.Sort.St} {xs : List Nat} (hp : s'.arr.toList.Perm (xs.map toElem))
    (hs : s'.arr.toList.Pairwise (fun x y => x.key ≤ y.key)) : valsOf s' = sortVals xs := by
  refine Vec.sorted_perm_unique (by simpa [valsOf, toElem, Function.comp_def] using hp.map (·.id)) ?_
  refine List.pairwise_map.2 (hs.imp_of_mem fun {a b} ha hb hab => ?_)
  -- every element is some `toElem x`: its key is its id
  obtain ⟨x, _, rfl⟩ := List.mem_map.1 (hp.mem_iff.1 ha)
  obtain ⟨y, _, rfl⟩ := List.mem_map.1 (hp.mem_iff.1 hb)
  exact Int.ofNat_le.1 hab

theorem scratchUsable_of_inv {v : Vector} (h : Inv v) (hc : 2 ≤ v.count) :
    basePtr v ≠ SPtr.null ∧ scratchUsable v v.count v.esz (SPtr.add (basePtr v) (mulW v.cap v.esz)) = true := by
  have hcc := h.count_le_cap
  obtain ⟨b, n, hb, _, hlt, hle⟩ := h.block (by omega)
  have h1 := hle v.cap (Nat.le_refl _)
  have h2 := Nat.mul_le_mul_right v.esz hcc
  have hm : v.cap * v.esz < W := by omega
  simp only [hb, basePtr, SPtr.add, scratchUsable, mulW_of_lt hm, addW_zero_left hm,
    Bool.and_eq_true, decide_eq_true_eq]
  exact ⟨SPtr.noConfusion, h2, h1⟩

/-- **`__cstl_vector_sort` is the model's `vsort`**: the translated wrapper, its callee read by the
model of array.c, on any vector satisfying the storage invariant, for every algorithm selector and
every outcome `s'` of the array model's sort (it has one whenever the fuel suffices:
`Cstl.Sort.sort_terminates`). -/
theorem vsort_tie (fuel : Nat) (v : Vector) (cmp priv swap : Opq) (algo : Nat) (h : Inv v)
    (s' : Cstl.Sort.St) (hs : Cstl.Sort.sort fuel (stOf v) algo = .ok s') :
    c_priv_cstl_vector_sort (rawSortOn fuel v) v cmp priv swap algo = vsort v := by
  rw [vsort_args]
  unfold rawSortOn vsort
  rw [if_neg (by simp)]
  by_cases hc : v.count ≥ 2
  · obtain ⟨hnn, hscr⟩ := scratchUsable_of_inv h hc
    rw [if_neg (by omega), if_neg hnn, hs, if_pos hc, scratch_in_block h hc]
    simp only [hscr, or_true, if_true]
    rw [valsOf_sorted (Cstl.Sort.sort_of_ok hs).1 (Cstl.Sort.sort_of_ok hs).2]
  · rw [if_pos (by omega), if_neg hc]

/-- … and for every selector but the random pivot (whose termination depends on `rand()`) the
array model's sort has an outcome with fuel `count`, so the equality holds outright; in particular for
`cstl_vector_sort` (= selector `CSTL_SORT_ALGORITHM_DEFAULT`) -/
theorem vsort_tie_total (v : Vector) (cmp priv swap : Opq) (algo : Nat) (h : Inv v) (halgo : algo ≠ 1) :
    c_priv_cstl_vector_sort (rawSortOn v.count v) v cmp priv swap algo = vsort v := by
  obtain ⟨s', hs, _, _⟩ := Cstl.Sort.sort_terminates v.count (stOf v) algo halgo (by rw [stOf_size, h.len]; exact Nat.le_refl _)
  exact vsort_tie v.count v cmp priv swap algo h s' hs

/-- **`__cstl_vector_reverse` is the model's `vreverse`** (`count ≤ 2^31`: the C loop keeps its indices
in `int`, DESIGN section 7 "Bounds") -/
theorem vreverse_tie (v : Vector) (swap : Opq) (h : Inv v) (hcnt : v.count ≤ 2147483648) :
    c_priv_cstl_vector_reverse (rawReverseOn v) v swap = vreverse v := by
  rw [vreverse_args]
  unfold rawReverseOn vreverse
  rw [if_neg (by simp)]
  by_cases hc : v.count ≥ 2
  · obtain ⟨hnn, hscr⟩ := scratchUsable_of_inv h hc
    obtain ⟨s', h1, h2, _, _⟩ := Cstl.Sort.reverse_mirror (stOf v) (by rw [stOf_size, h.len]; exact hcnt)
    rw [if_neg (by omega), if_neg hnn, h1, if_pos hc, scratch_in_block h hc]
    simp only [hscr, or_true, if_true]
    rw [valsOf_of_toList (h2.trans (List.map_reverse ..).symm)]
  · rw [if_pos (by omega), if_neg hc]

/-- what `cstl_STRING_str` returns: the storage, or the static NUL of the instantiation -/
def strPtr (v : Vector) : SPtr :=
  match v.base with
  | none => .nul 0
  | some _ => .stor 0

theorem str_tie (v : Vector) : c_cstl_string_str v = strPtr v := by
  unfold c_cstl_string_str c_cstl_string_data c_cstl_vector_data basePtr strPtr
  cases v.base <;> simp

theorem wstr_tie (v : Vector) : c_cstl_wstring_str v = strPtr v := str_tie v

theorem strSize_tie2 (v : Vector) (hc : v.count ≤ W) : c_cstl_string_size v = strSize v := Tie.pred_tie hc

theorem wstrSize_tie2 (v : Vector) (hc : v.count ≤ W) : c_cstl_wstring_size v = strSize v := Tie.pred_tie hc

/-- the model's `cstrFrom` as the result of a C-library read -/
def ofView : Option (List Nat) → Except Stop (List Nat)
  | some l => .ok l
  | none => .error .oob

/-- what the C library reads at `str()` is the model's `cstrFrom · 0` -/
theorem str_view (v : Vector) : viewAt v (strPtr v) = ofView (cstrFrom v 0) := by
  unfold strPtr cstrFrom
  cases hb : v.base with
  | none => simp [viewAt, unitsAt, cview, ofView]
  | some p =>
    simp only [viewAt, unitsAt, hb, Nat.zero_mod, Nat.zero_div, List.drop_zero, if_true, cview]
    split <;> rfl

theorem viewAt_stor {v : Vector} (he : 0 < v.esz) {b n : Nat} (hb : v.base = some (b, n)) (pos : Nat) :
    viewAt v (SPtr.stor (pos * v.esz)) = ofView (cstrFrom v pos) := by
  simp only [viewAt, unitsAt, hb, Nat.mul_mod_left, if_true, Nat.mul_div_cancel _ he, cview, cstrFrom]
  split <;> rfl

theorem strchrM_le {view : List Nat} {c i : Nat} (h : strchrM view c = some i) : i ≤ view.length := by
  by_cases hc : c = 0
  · rw [(strchrM_spec view c).1 hc] at h; cases h; exact Nat.le_refl _
  · exact Nat.le_of_lt (((strchrM_spec view c).2 hc).2 i h).1

theorem strstrM_le (ndl hay : List Nat) (i : Nat) (h : strstrM ndl hay = some i) : i ≤ hay.length :=
  ((strstrM_spec ndl hay).1 i h).1

theorem cstrFrom_len {v : Vector} {pos : Nat} {view : List Nat} (h : cstrFrom v pos = some view) (hl : v.elems.length = v.count) :
    pos + view.length ≤ max pos v.count := by
  unfold cstrFrom at h
  cases hb : v.base with
  | none =>
    rw [hb] at h
    simp only at h
    split at h
    · cases h; simp; omega
    · cases h
  | some p =>
    rw [hb] at h
    simp only at h
    split at h
    · cases h
      have := (List.takeWhile_sublist (fun x => x != 0) (l := v.elems.drop pos)).length_le
      simp only [List.length_drop] at this
      omega
    · cases h

/-- `str() + k` units for `k ≤ cap`: byte offset `k * esz`, no wrap -/
theorem stor_idx {v : Vector} (h : Inv v) {b n : Nat} (hb : v.base = some (b, n)) {k : Nat} (hk : k ≤ v.cap) :
    SPtr.add (strPtr v) (mulW k v.esz) = SPtr.stor (k * v.esz) := by
  simp only [strPtr, hb, SPtr.add, mulW_of_lt (h.mul_lt_W hk), addW_zero_left (h.mul_lt_W hk)]

theorem stor_idx_add {v : Vector} (h : Inv v) {p i : Nat} (hk : p + i ≤ v.cap) :
    SPtr.add (SPtr.stor (p * v.esz)) (mulW i v.esz) = SPtr.stor ((p + i) * v.esz) := by
  simp only [SPtr.add, mulW_of_lt (h.mul_lt_W (Nat.le_trans (Nat.le_add_left i p) hk))]
  rw [Nat.add_mul]
  exact congrArg _ (addW_of_lt (Nat.add_mul .. ▸ h.mul_lt_W hk))

/-- `(f - str) / sizeof(char_t)` as `ssize_t` for a pointer at unit `k` is `k` -/
theorem idx_of_stor {v : Vector} (h : Inv v) {b n : Nat} (hb : v.base = some (b, n)) {k : Nat} (hk : k ≤ v.cap)
    (hcnt : k < 2 ^ 63) :
    toSsize (SPtr.diff (SPtr.stor (k * v.esz)) (strPtr v) / v.esz) = (k : Int) := by
  simp only [strPtr, hb, SPtr.diff, subW_of_le (Nat.zero_le _) (h.mul_lt_W hk), Nat.sub_zero, Nat.mul_div_cancel _ h.esz_pos]
  exact toSsize_small hcnt

theorem stor_inj {v : Vector} (he : 0 < v.esz) {a b : Nat} : (SPtr.stor (a * v.esz) = SPtr.stor (b * v.esz)) ↔ a = b := by
  constructor
  · intro e
    injection e with e
    exact Nat.eq_of_mul_eq_mul_right he e
  · intro e; rw [e]

/-- the body of `find_ch` after `str` and `size` have been identified -/
def findChBody (w : Nat) (v : Vector) (c pos : Nat) : Except Stop Int :=
  if pos ≥ strSize v then .error .abort else
  andThen (libcChr w v (SPtr.add (strPtr v) (mulW pos v.esz)) c) fun f =>
  .ok (if (f ≠ SPtr.null) ∧ (f ≠ SPtr.add (strPtr v) (mulW (strSize v) v.esz))
       then toSsize (SPtr.diff f (strPtr v) / v.esz) else (-1 : Int))

/-- a library call at unit `pos < size` of a string satisfying `Inv`: the pointer `str() + pos` is
inside the storage and the library reads the model's `cstrFrom v pos` there -/
theorem view_at_pos {v : Vector} (h : Inv v) {pos : Nat} (hp : pos < strSize v) :
    ∃ b n, v.base = some (b, n) ∧ strSize v = v.count - 1 ∧ 2 ≤ v.count ∧
      SPtr.add (strPtr v) (mulW pos v.esz) = SPtr.stor (pos * v.esz) ∧
      viewAt v (SPtr.stor (pos * v.esz)) = ofView (cstrFrom v pos) := by
  have hs : strSize v = v.count - 1 ∧ 2 ≤ v.count := by
    unfold strSize at hp ⊢; split at hp <;> (split <;> omega)
  have hcc := h.count_le_cap
  obtain ⟨b, n, hb, _⟩ := h.block (by omega)
  exact ⟨b, n, hb, hs.1, hs.2, stor_idx h hb (by omega), viewAt_stor h.esz_pos hb pos⟩

theorem findCh_core (w : Nat) (v : Vector) (c pos : Nat) (h : Inv v) (hw : v.esz = w) (hcnt : v.count < 2 ^ 63) :
    findChBody w v c pos = (findCh v c pos).map optIdx := by
  unfold findChBody findCh
  by_cases hp : pos ≥ strSize v
  · simp only [hp, if_true]; rfl
  · simp only [hp, if_false]
    obtain ⟨b, n, hb, hsz, hc2, hptr, hview⟩ := view_at_pos h (Nat.lt_of_not_le hp)
    have hcc := h.count_le_cap
    rw [hptr, stor_idx h hb (by omega)]
    unfold libcChr
    rw [if_neg (by omega), hview]
    cases hv : cstrFrom v pos with
    | none => rfl
    | some view =>
      have hlen := cstrFrom_len hv h.len
      simp only [ofView, andThen_ok]
      cases hm : strchrM view c with
      | none => simp [andThen_ok, Except.map, optIdx]
      | some i =>
        have hi := strchrM_le hm
        have hle : pos + i ≤ v.cap := by omega
        simp only [andThen_ok]
        rw [stor_idx_add h hle, idx_of_stor h hb hle (by omega)]
        simp only [ne_eq, reduceCtorEq, not_false_eq_true, true_and, stor_inj h.esz_pos]
        by_cases he : pos + i = strSize v
        · simp [he, Except.map, optIdx]
        · simp [he, Except.map, optIdx]

theorem findCh_tie (v : Vector) (c pos : Nat) (h : Inv v) (hw : v.esz = 1) (hcnt : v.count < 2 ^ 63) :
    c_cstl_string_find_ch v c pos = (findCh v c pos).map optIdx := by
  have hc : v.count ≤ W := Nat.le_of_lt h.count_lt_W
  rw [← findCh_core 1 v c pos h hw hcnt]
  simp only [c_cstl_string_find_ch, str_tie, strSize_tie2 v hc, findChBody]

theorem wfindCh_tie (v : Vector) (c pos : Nat) (h : Inv v) (hw : v.esz = 4) (hcnt : v.count < 2 ^ 63) :
    c_cstl_wstring_find_ch v c pos = (findCh v c pos).map optIdx := by
  have hc : v.count ≤ W := Nat.le_of_lt h.count_lt_W
  rw [← findCh_core 4 v c pos h hw hcnt]
  simp only [c_cstl_wstring_find_ch, wstr_tie, wstrSize_tie2 v hc, findChBody]

def findStrBody (w : Nat) (v : Vector) (n : Except Stop (List Nat)) (pos : Nat) : Except Stop Int :=
  if pos ≥ strSize v then .error .abort else
  andThen (libcStr w v (SPtr.add (strPtr v) (mulW pos v.esz)) n) fun f =>
  .ok (if f ≠ SPtr.null then toSsize (SPtr.diff f (strPtr v) / v.esz) else (-1 : Int))

theorem findStr_core (w : Nat) (v : Vector) (ndl : List Nat) (pos : Nat) (h : Inv v) (hw : v.esz = w)
    (hcnt : v.count < 2 ^ 63) :
    findStrBody w v (.ok ndl) pos = (findStr v ndl pos).map optIdx := by
  unfold findStrBody findStr
  by_cases hp : pos ≥ strSize v
  · simp only [hp, if_true]; rfl
  · simp only [hp, if_false]
    obtain ⟨b, n, hb, hsz, hc2, hptr, hview⟩ := view_at_pos h (Nat.lt_of_not_le hp)
    have hcc := h.count_le_cap
    rw [hptr]
    unfold libcStr
    rw [if_neg (by omega), hview]
    cases hv : cstrFrom v pos with
    | none => rfl
    | some view =>
      have hlen := cstrFrom_len hv h.len
      simp only [ofView, andThen_ok]
      cases hm : strstrM ndl view with
      | none => simp [andThen_ok, Except.map, optIdx]
      | some i =>
        have hi := strstrM_le ndl view i hm
        have hle : pos + i ≤ v.cap := by omega
        simp only [andThen_ok]
        rw [stor_idx_add h hle, idx_of_stor h hb hle (by omega)]
        simp [Except.map, optIdx]

/-- an unterminated needle: the library reads past the caller's array (after the position check) -/
theorem findStr_core_oob (w : Nat) (v : Vector) (e : Stop) (pos : Nat) (h : Inv v) (hw : v.esz = w) :
    findStrBody w v (.error e) pos =
      if pos ≥ strSize v then .error .abort
      else match cstrFrom v pos with
        | none => .error .oob
        | some _ => .error e := by
  unfold findStrBody
  by_cases hp : pos ≥ strSize v
  · simp only [hp, if_true]
  · simp only [hp, if_false]
    obtain ⟨b, n, hb, hsz, hc2, hptr, hview⟩ := view_at_pos h (Nat.lt_of_not_le hp)
    rw [hptr]
    unfold libcStr
    rw [if_neg (by omega), hview]
    cases hv : cstrFrom v pos <;> rfl

theorem findStr_tie (v : Vector) (n ndl : List Nat) (pos : Nat) (h : Inv v) (hw : v.esz = 1)
    (hcnt : v.count < 2 ^ 63) (hn : cview n = .ok ndl) :
    c_cstl_string_find_str v n pos = (findStr v ndl pos).map optIdx := by
  have hc : v.count ≤ W := Nat.le_of_lt h.count_lt_W
  rw [← findStr_core 1 v ndl pos h hw hcnt, ← hn]
  simp only [c_cstl_string_find_str, str_tie, strSize_tie2 v hc, findStrBody]

theorem wfindStr_tie (v : Vector) (n ndl : List Nat) (pos : Nat) (h : Inv v) (hw : v.esz = 4)
    (hcnt : v.count < 2 ^ 63) (hn : cview n = .ok ndl) :
    c_cstl_wstring_find_str v n pos = (findStr v ndl pos).map optIdx := by
  have hc : v.count ≤ W := Nat.le_of_lt h.count_lt_W
  rw [← findStr_core 4 v ndl pos h hw hcnt, ← hn]
  simp only [c_cstl_wstring_find_str, wstr_tie, wstrSize_tie2 v hc, findStrBody]

/-- what a callee reads in the array `str(o)` hands it: the model's `cstrFrom o 0` -/
theorem cview_str (o : Vector) : cview (unitsAt o (strPtr o)) = ofView (cstrFrom o 0) := by
  have := str_view o
  unfold strPtr at this ⊢
  cases hb : o.base <;> (rw [hb] at this; exact this)

/-- `find(hay, ndl, pos)` = `find_str(hay, str(ndl), pos)`: the model's `findStr` on what is stored in `ndl` -/
theorem find_tie (hay ndl : Vector) (pos : Nat) (h : Inv hay) (hw : hay.esz = 1) (hcnt : hay.count < 2 ^ 63)
    (view : List Nat) (hn : cstrFrom ndl 0 = some view) :
    c_cstl_string_find hay ndl pos = (findStr hay view pos).map optIdx := by
  unfold c_cstl_string_find
  rw [str_tie, findStr_tie hay _ view pos h hw hcnt (by rw [cview_str, hn]; rfl)]
  exact andThen_ok_right _

theorem wfind_tie (hay ndl : Vector) (pos : Nat) (h : Inv hay) (hw : hay.esz = 4) (hcnt : hay.count < 2 ^ 63)
    (view : List Nat) (hn : cstrFrom ndl 0 = some view) :
    c_cstl_wstring_find hay ndl pos = (findStr hay view pos).map optIdx := by
  unfold c_cstl_wstring_find
  rw [wstr_tie, wfindStr_tie hay _ view pos h hw hcnt (by rw [cview_str, hn]; rfl)]
  exact andThen_ok_right _

theorem compareStr_core (w : Nat) (v : Vector) (raw : Except Stop (List Nat)) (hw : v.esz = w) :
    libcCmp w v (strPtr v) raw =
      match cstrFrom v 0, raw with
      | none, _ => .error .oob
      | some _, .error e => .error e
      | some a, .ok r => .ok (strcmpM (unitKey v.esz) a r) := by
  unfold libcCmp
  rw [if_neg (by omega), str_view, hw]
  cases cstrFrom v 0 with
  | none => rfl
  | some a => cases raw <;> rfl

/-- `compare_str(s, str)` = sign of `strcmp(str(s), str)`: the model's `compareStr` on the units before the
NUL of the caller's array -/
theorem compareStr_tie (v : Vector) (raw r : List Nat) (hw : v.esz = 1) (hn : cview raw = .ok r) :
    c_cstl_string_compare_str v raw = compareStr v r := by
  unfold c_cstl_string_compare_str compareStr
  rw [str_tie, andThen_ok_right, compareStr_core 1 v _ hw, hn]
  cases cstrFrom v 0 <;> rfl

theorem wcompareStr_tie (v : Vector) (raw r : List Nat) (hw : v.esz = 4) (hn : cview raw = .ok r) :
    c_cstl_wstring_compare_str v raw = compareStr v r := by
  unfold c_cstl_wstring_compare_str compareStr
  rw [wstr_tie, andThen_ok_right, compareStr_core 4 v _ hw, hn]
  cases cstrFrom v 0 <;> rfl

/-- `compare(s1, s2)` = `compare_str(s1, str(s2))` -/
theorem compare_tie (s1 s2 : Vector) (hw : s1.esz = 1) :
    c_cstl_string_compare s1 s2 =
      match cstrFrom s2 0 with
      | some r => compareStr s1 r
      | none => .error .oob := by
  unfold c_cstl_string_compare c_cstl_string_compare_str
  rw [str_tie, str_tie, andThen_ok_right, andThen_ok_right, compareStr_core 1 s1 _ hw, cview_str]
  unfold compareStr
  cases cstrFrom s2 0 <;> cases cstrFrom s1 0 <;> rfl

theorem wcompare_tie (s1 s2 : Vector) (hw : s1.esz = 4) :
    c_cstl_wstring_compare s1 s2 =
      match cstrFrom s2 0 with
      | some r => compareStr s1 r
      | none => .error .oob := by
  unfold c_cstl_wstring_compare c_cstl_wstring_compare_str
  rw [wstr_tie, wstr_tie, andThen_ok_right, andThen_ok_right, compareStr_core 4 s1 _ hw, cview_str]
  unfold compareStr
  cases cstrFrom s2 0 <;> cases cstrFrom s1 0 <;> rfl

/-- `insert_str(s, pos, str)` = `insert_str_n(s, pos, str, strlen(str))`, for every callee -/
theorem insertStr_args (k : Vector → Nat → List Nat → Nat → Eff) (s : Vector) (pos : Nat) (str : List Nat) :
    c_cstl_string_insert_str k s pos str =
      bindF (some (libcLen 1 s.esz (cview str))) fun n => k s pos str n := by
  simp only [c_cstl_string_insert_str, csem]

theorem winsertStr_args (k : Vector → Nat → List Nat → Nat → Eff) (s : Vector) (pos : Nat) (str : List Nat) :
    c_cstl_wstring_insert_str k s pos str =
      bindF (some (libcLen 4 s.esz (cview str))) fun n => k s pos str n := by
  simp only [c_cstl_wstring_insert_str, csem]

/-- `append_str(s, str)` = `insert_str(s, size(s), str)` -/
theorem appendStr_args (k : Vector → Nat → List Nat → Nat → Eff) (s : Vector) (str : List Nat) (hc : s.count ≤ W) :
    c_cstl_string_append_str k s str = c_cstl_string_insert_str k s (strSize s) str := by
  simp only [c_cstl_string_append_str, strSize_tie2 s hc, csem]

theorem wappendStr_args (k : Vector → Nat → List Nat → Nat → Eff) (s : Vector) (str : List Nat) (hc : s.count ≤ W) :
    c_cstl_wstring_append_str k s str = c_cstl_wstring_insert_str k s (strSize s) str := by
  simp only [c_cstl_wstring_append_str, wstrSize_tie2 s hc, csem]

/-- `set_str(s, str)` = `resize(s, 0)` then `append_str(s, str)` on the resized object; the events of
both, in order -/
theorem setStr_args (kr : Vector → Nat → Eff) (ki : Vector → Nat → List Nat → Nat → Eff) (s : Vector) (str : List Nat) :
    c_cstl_string_set_str kr ki s str =
      bindF (kr s 0) fun r1 => bindF (c_cstl_string_append_str ki r1.1 str) fun r2 =>
        some (.ok (r2.1, r1.2 ++ r2.2)) := by
  unfold c_cstl_string_set_str
  simp only [List.nil_append]

theorem wsetStr_args (kr : Vector → Nat → Eff) (ki : Vector → Nat → List Nat → Nat → Eff) (s : Vector) (str : List Nat) :
    c_cstl_wstring_set_str kr ki s str =
      bindF (kr s 0) fun r1 => bindF (c_cstl_wstring_append_str ki r1.1 str) fun r2 =>
        some (.ok (r2.1, r1.2 ++ r2.2)) := by
  unfold c_cstl_wstring_set_str
  simp only [List.nil_append]

theorem libcLen_ok {w cw : Nat} {str view : List Nat} (hw : cw = w) (hn : cview str = .ok view) :
    libcLen w cw (cview str) = .ok view.length := by
  unfold libcLen
  rw [if_neg (by omega), hn]; rfl

/-- `insert_str` is its callee with the length of the caller's string -/
theorem insertStr_tie (k : Vector → Nat → List Nat → Nat → Eff) (s : Vector) (pos : Nat) (str view : List Nat)
    (hw : s.esz = 1) (hn : cview str = .ok view) :
    c_cstl_string_insert_str k s pos str = k s pos str view.length := by
  rw [insertStr_args, libcLen_ok hw hn, bindF_some_ok]

theorem winsertStr_tie (k : Vector → Nat → List Nat → Nat → Eff) (s : Vector) (pos : Nat) (str view : List Nat)
    (hw : s.esz = 4) (hn : cview str = .ok view) :
    c_cstl_wstring_insert_str k s pos str = k s pos str view.length := by
  rw [winsertStr_args, libcLen_ok hw hn, bindF_some_ok]

theorem appendStr_tie (k : Vector → Nat → List Nat → Nat → Eff) (s : Vector) (str view : List Nat)
    (hw : s.esz = 1) (hc : s.count ≤ W) (hn : cview str = .ok view) :
    c_cstl_string_append_str k s str = k s (strSize s) str view.length := by
  rw [appendStr_args k s str hc, insertStr_tie k s _ str view hw hn]

theorem wappendStr_tie (k : Vector → Nat → List Nat → Nat → Eff) (s : Vector) (str view : List Nat)
    (hw : s.esz = 4) (hc : s.count ≤ W) (hn : cview str = .ok view) :
    c_cstl_wstring_append_str k s str = k s (strSize s) str view.length := by
  rw [wappendStr_args k s str hc, winsertStr_tie k s _ str view hw hn]

/-- `set_str` for either width and any callees `kr`, `ki` that are the model's `strResize` /
`insertStrN` (on objects whose `count` is a `size_t` and whose slots are all tracked): `strResize 0`,
then `insertStrN` at the (new) size with `strlen(str)`; `s` represents a string (`StrRep`, the C10
invariant).  `appendStr` is the instantiation's `append_str`. -/
theorem setStr_core {w : Nat} {appendStr : (Vector → Nat → List Nat → Nat → Eff) → Vector → List Nat → Eff}
    (happ : ∀ k s str view, s.esz = w → s.count ≤ W → cview str = .ok view →
      appendStr k s str = k s (strSize s) str view.length)
    {kr : Vector → Nat → Eff} {ki : Vector → Nat → List Nat → Nat → Eff} {ans ans2 : Nat → Bool} {id id2 : Nat}
    {s : Vector} {rep str view : List Nat} (hrep : StrRep s rep) (hw : s.esz = w) (hn : cview str = .ok view)
    (hkr : kr s 0 = some (strResize ans id s 0))
    (hki : ∀ v p n, v.count < W → v.elems.length = v.count → ki v p str n = some (insertStrN ans2 id2 v p str n)) :
    (bindF (kr s 0) fun r1 => bindF (appendStr ki r1.1 str) fun r2 => some (.ok (r2.1, r1.2 ++ r2.2))) =
      some (andThen (strResize ans id s 0) fun r1 =>
            andThen (insertStrN ans2 id2 r1.1 (strSize r1.1) str view.length) fun r2 =>
            .ok (r2.1, r1.2 ++ r2.2)) := by
  rw [hkr]
  refine bindF_some _ _ _ fun r1 hr => ?_
  obtain ⟨hrep1, hesz, _⟩ := strResize_refines hrep (by decide) hr
  have hc1 := hrep1.ok.inv.count_lt_W
  rw [happ _ _ _ _ (hesz.trans hw) (Nat.le_of_lt hc1) hn, hki _ _ _ hc1 hrep1.ok.inv.len, bindF_some_some]

theorem setStr_tie (ans ans2 : Nat → Bool) (id id2 : Nat) (s : Vector) (rep str view : List Nat)
    (hrep : StrRep s rep) (hw : s.esz = 1) (hn : cview str = .ok view) :
    c_cstl_string_set_str (fun v n => some (strResize ans id v n)) (fun v p a n => some (insertStrN ans2 id2 v p a n)) s str =
      some (andThen (strResize ans id s 0) fun r1 =>
            andThen (insertStrN ans2 id2 r1.1 (strSize r1.1) str view.length) fun r2 =>
            .ok (r2.1, r1.2 ++ r2.2)) := by
  rw [setStr_args]
  exact setStr_core (appendStr := c_cstl_string_append_str) (kr := fun v n => some (strResize ans id v n))
    (ki := fun v p a n => some (insertStrN ans2 id2 v p a n))
    appendStr_tie hrep hw hn rfl fun _ _ _ _ _ => rfl

theorem wsetStr_tie (ans ans2 : Nat → Bool) (id id2 : Nat) (s : Vector) (rep str view : List Nat)
    (hrep : StrRep s rep) (hw : s.esz = 4) (hn : cview str = .ok view) :
    c_cstl_wstring_set_str (fun v n => some (strResize ans id v n)) (fun v p a n => some (insertStrN ans2 id2 v p a n)) s str =
      some (andThen (strResize ans id s 0) fun r1 =>
            andThen (insertStrN ans2 id2 r1.1 (strSize r1.1) str view.length) fun r2 =>
            .ok (r2.1, r1.2 ++ r2.2)) := by
  rw [wsetStr_args]
  exact setStr_core (appendStr := c_cstl_wstring_append_str) (kr := fun v n => some (strResize ans id v n))
    (ki := fun v p a n => some (insertStrN ans2 id2 v p a n))
    wappendStr_tie hrep hw hn rfl fun _ _ _ _ _ => rfl

/-! ### … with the translations of Cstl/Gen/VecC.lean as the callees -/

theorem setStr_tie_c (fuel : Nat) (ans : Nat → Bool) (newId : Nat) (s : Vector) (rep str view : List Nat)
    (hrep : StrRep s rep) (hw : s.esz = 1) (hn : cview str = .ok view) (hf : W ≤ fuel) :
    c_cstl_string_set_str (Cstl.Gen.VecC.c_cstl_string_resize fuel ans newId)
        (Cstl.Gen.VecC.c_cstl_string_insert_str_n fuel ans newId) s str =
      some (andThen (strResize ans newId s 0) fun r1 =>
            andThen (insertStrN ans newId r1.1 (strSize r1.1) str view.length) fun r2 =>
            .ok (r2.1, r1.2 ++ r2.2)) := by
  rw [setStr_args]
  exact setStr_core (appendStr := c_cstl_string_append_str)
    appendStr_tie hrep hw hn
    (Tie.strResize_tie fuel ans newId s 0 (by decide) hrep.ok.inv.count_lt_W hrep.ok.inv.len hf)
    fun v p n hc hl => Tie.insertStrN_tie fuel ans newId v p str n hc hl hf

theorem wsetStr_tie_c (fuel : Nat) (ans : Nat → Bool) (newId : Nat) (s : Vector) (rep str view : List Nat)
    (hrep : StrRep s rep) (hw : s.esz = 4) (hn : cview str = .ok view) (hf : W ≤ fuel) :
    c_cstl_wstring_set_str (Cstl.Gen.VecC.c_cstl_wstring_resize fuel ans newId)
        (Cstl.Gen.VecC.c_cstl_wstring_insert_str_n fuel ans newId) s str =
      some (andThen (strResize ans newId s 0) fun r1 =>
            andThen (insertStrN ans newId r1.1 (strSize r1.1) str view.length) fun r2 =>
            .ok (r2.1, r1.2 ++ r2.2)) := by
  rw [wsetStr_args]
  exact setStr_core (appendStr := c_cstl_wstring_append_str)
    wappendStr_tie hrep hw hn
    (Tie.wstrResize_tie fuel ans newId s 0 (by decide) hrep.ok.inv.count_lt_W hrep.ok.inv.len hf)
    fun v p n hc hl => Tie.winsertStrN_tie fuel ans newId v p str n hc hl hf

/-- the `ssize_t` the find functions would return for an index `k ≥ 2^63` is negative, while the
model's `findCh` / `findStr` return `some k` (such an object cannot exist: hypothesis
`v.count < 2^63` of the find ties) -/
theorem toSsize_large {k : Nat} (h1 : 2 ^ 63 ≤ k) (h2 : k < 2 ^ 64) : toSsize k < 0 := by
  unfold toSsize; rw [if_neg (by omega)]; omega

/-! ### concrete objects: the hypotheses are satisfiable, the translated functions compute -/

def demoStr : Vector :=
  { base := some (1, 8), esz := 1, count := 5, cap := 7, cons := false, dest := false, elems := [97, 98, 99, 97, 0] }

theorem demoStr_inv : Inv demoStr := .of_block rfl (by decide) rfl (by decide) (by decide) rfl

theorem demo_find_ch_hit : c_cstl_string_find_ch demoStr 97 1 = .ok 3 := by rfl
theorem demo_find_ch_miss : c_cstl_string_find_ch demoStr 100 0 = .ok (-1) := by rfl
theorem demo_find_ch_nul : c_cstl_string_find_ch demoStr 0 0 = .ok (-1) := by rfl
theorem demo_find_ch_abort : c_cstl_string_find_ch demoStr 97 4 = .error .abort := by rfl
theorem demo_find_str_hit : c_cstl_string_find_str demoStr [99, 97, 0] 0 = .ok 2 := by rfl
theorem demo_find_str_miss : c_cstl_string_find_str demoStr [98, 98, 0] 0 = .ok (-1) := by rfl
theorem demo_compare_str : c_cstl_string_compare_str demoStr [97, 98, 100, 0] = .ok (-1) := by rfl
theorem demo_compare : c_cstl_string_compare demoStr demoStr = .ok 0 := by rfl
theorem demo_str : c_cstl_string_str (Vector.init 1 false false) = SPtr.nul 0 ∧ c_cstl_string_str demoStr = SPtr.stor 0 := by decide
theorem demo_compare_empty : c_cstl_string_compare_str (Vector.init 1 false false) [0] = .ok 0 := by rfl
theorem demo_model_find_ch : (findCh demoStr 97 1).map optIdx = .ok 3 := by rfl

def demoVec : Vector :=
  { base := some (1, 16), esz := 4, count := 3, cap := 3, cons := false, dest := false, elems := [30, 10, 20] }

theorem demoVec_inv : Inv demoVec := .of_block rfl (by decide) rfl (by decide) (by decide) rfl

theorem demo_scratch : c_priv_cstl_vector_at demoVec demoVec.cap = SPtr.stor 12 := by decide
/-- selector 2 = `CSTL_SORT_ALGORITHM_QUICK_M` (median pivot, the default); fuel 10 is enough for three elements -/
theorem demo_sort : (c_priv_cstl_vector_sort (rawSortOn 10 demoVec) demoVec 0 0 0 2).toOption.map (·.elems) = some [10, 20, 30] := by
  decide

end Cstl.Vec.Tie2
