import Cstl.Hash.Enum
import Cstl.Hash.Run
/-
Fail-stop bookkeeping for ARBITRARY hash functions and ARBITRARY table states
(no invariant needed): an operation stops with `abort` exactly when a hash
result it consulted was >= the bucket count it was asked for (C17 part b).
The only source of `abort` in the model is `__cstl_hash_get_bucket`.
-/
namespace Cstl.Hash

variable (hf : HashId → Nat → Nat → Nat)

theorem getBucket_FS (f : Option HashId) (k m : Nat) : (getBucket hf f k m).FailStop hf := by
  cases f with
  | none => exact R.FailStop.of_noCalls hf rfl (by simp [getBucket])
  | some fn =>
    unfold R.FailStop getBucket
    simp only [bind_def, R.bind, logCall]
    by_cases h : m ≤ hf fn k m
    · simp [h, stop, Tr.append, Call.bad]
    · simp [h, pure_def, R.pure, Tr.append, Call.bad]

theorem rd_FS (t : HT) (i : Nat) : (rd t i).FailStop hf := by
  unfold rd
  split
  · exact R.FailStop.pure hf _
  · split
    · exact R.FailStop.stop_ne hf (by simp)
    · exact R.FailStop.stop_ne hf (by simp)

theorem tickReloc_FS : tickReloc.FailStop hf := R.FailStop.of_noCalls hf rfl (by simp [tickReloc])
theorem logEv_FS (e : AllocEv) : (logEv e).FailStop hf := R.FailStop.of_noCalls hf rfl (by simp [logEv])

theorem pushHead_FS (t : HT) (j : Nat) (n : Node) : (pushHead t j n).FailStop hf :=
  R.FailStop.bind hf (rd_FS hf t j) (fun _ => R.FailStop.pure hf _)

theorem reinsert_FS : ∀ (ns : List Node) (t : HT), (reinsert hf t ns).FailStop hf
  | [], t => R.FailStop.pure hf t
  | n :: ns, t => by
    rw [reinsert_cons]
    exact R.FailStop.bind hf (getBucket_FS hf _ _ _) (fun j =>
      R.FailStop.bind hf (pushHead_FS hf t j n) (fun t' => reinsert_FS ns t'))

theorem cleanBucket_FS (t : HT) (i : Nat) : (cleanBucket hf t i).FailStop hf := by
  rw [cleanBucket_unfold]
  refine R.FailStop.bind hf (rd_FS hf t i) (fun b => ?_)
  refine R.FailStop.ite hf (R.FailStop.pure hf t) ?_
  refine R.FailStop.bind hf (reinsert_FS hf _ _) (fun t2 => ?_)
  refine R.FailStop.bind hf (tickReloc_FS hf) (fun _ => ?_)
  exact R.FailStop.bind hf (rd_FS hf t2 i) (fun _ => R.FailStop.pure hf _)

theorem skipClean_FS : ∀ (d : Nat) (t : HT), (skipClean t d).FailStop hf
  | 0, t => R.FailStop.pure hf t
  | d + 1, t => by
    rw [skipClean_succ]
    refine R.FailStop.ite hf ?_ (R.FailStop.pure hf t)
    exact R.FailStop.bind hf (rd_FS hf _ _) (fun b => R.FailStop.ite hf (skipClean_FS d _) (R.FailStop.pure hf t))

theorem sweep_FS : ∀ (d : Nat) (t : HT) (n : Option Nat), (sweep hf t n d).FailStop hf
  | 0, t, _ => R.FailStop.pure hf t
  | d + 1, t, n => by
    rw [sweep_succ]
    refine R.FailStop.ite hf ?_ (R.FailStop.pure hf t)
    exact R.FailStop.bind hf (cleanBucket_FS hf _ _) (fun t' => sweep_FS d _ _)

theorem rehashN_FS (t : HT) (n : Option Nat) : (rehashN hf t n).FailStop hf := by
  rw [rehashN_unfold]
  refine R.FailStop.bind hf (skipClean_FS hf _ _) (fun t1 => ?_)
  refine R.FailStop.bind hf (sweep_FS hf _ _ _) (fun t2 => ?_)
  exact R.FailStop.ite hf (R.FailStop.pure hf _) (R.FailStop.pure hf _)

theorem rehash_FS (t : HT) : (rehash hf t).FailStop hf := by
  unfold rehash
  exact R.FailStop.ite hf (rehashN_FS hf t none) (R.FailStop.pure hf t)

theorem keyed_FS (t : HT) (k : Nat) : (keyed hf t k).FailStop hf := by
  rw [keyed_unfold]
  refine R.FailStop.bind hf (getBucket_FS hf _ _ _) (fun i => ?_)
  refine R.FailStop.ite hf ?_ (R.FailStop.pure hf _)
  refine R.FailStop.bind hf (getBucket_FS hf _ _ _) (fun j => ?_)
  refine R.FailStop.bind hf (cleanBucket_FS hf _ _) (fun t1 => ?_)
  refine R.FailStop.bind hf (cleanBucket_FS hf _ _) (fun t2 => ?_)
  exact R.FailStop.bind hf (rehashN_FS hf _ _) (fun t3 => R.FailStop.pure hf _)

theorem insert_FS (t : HT) (k e : Nat) : (insert hf t k e).FailStop hf := by
  rw [insert_unfold]
  refine R.FailStop.bind hf (keyed_FS hf t k) (fun r => ?_)
  exact R.FailStop.bind hf (pushHead_FS hf _ _ _) (fun _ => R.FailStop.pure hf _)

theorem find_FS (t : HT) (k : Nat) (acc : Option (Nat → Node → Bool)) : (find hf t k acc).FailStop hf := by
  rw [find_unfold]
  refine R.FailStop.bind hf (keyed_FS hf t k) (fun r => ?_)
  exact R.FailStop.bind hf (rd_FS hf _ _) (fun _ => R.FailStop.pure hf _)

theorem erase_FS (t : HT) (k e : Nat) : (erase hf t k e).FailStop hf := by
  rw [erase_unfold]
  refine R.FailStop.bind hf (keyed_FS hf t k) (fun r => ?_)
  refine R.FailStop.bind hf (rd_FS hf _ _) (fun b => ?_)
  split
  · exact R.FailStop.pure hf _
  · exact R.FailStop.pure hf _

theorem setCapacity_FS (oracle : Nat → Bool) (t : HT) (sz : Nat) : (setCapacity oracle t sz).FailStop hf := by
  unfold setCapacity
  refine R.FailStop.ite hf (R.FailStop.pure hf t) (R.FailStop.ite hf (R.FailStop.stop_ne hf (by simp)) ?_)
  exact R.FailStop.bind hf (logEv_FS hf _) (fun _ => R.FailStop.ite hf (R.FailStop.pure hf _) (R.FailStop.pure hf _))

theorem initBuckets_FS : ∀ (d : Nat) (t : HT) (lo : Nat), (initBuckets t lo d).FailStop hf
  | 0, t, _ => R.FailStop.pure hf t
  | d + 1, t, lo => by
    rw [initBuckets_succ]
    exact R.FailStop.bind hf (rd_FS hf _ _) (fun _ => initBuckets_FS d _ _)

theorem resizeTail_FS (t : HT) (n : Nat) (f : Option HashId) : (resizeTail t n f).FailStop hf := by
  rw [resizeTail_unfold]
  exact R.FailStop.bind hf (initBuckets_FS hf _ _ _) (fun _ => R.FailStop.ite hf (R.FailStop.pure hf _) (R.FailStop.pure hf _))

theorem resize_FS (oracle : Nat → Bool) (t : HT) (n : Nat) (f : Option HashId) :
    (resize hf oracle t n f).FailStop hf := by
  rw [resize_unfold]
  refine R.FailStop.ite hf (R.FailStop.pure hf t) ?_
  refine R.FailStop.bind hf ?_ (fun t1 => ?_)
  · unfold ensureCapacity
    exact R.FailStop.ite hf (setCapacity_FS hf _ _ _) (R.FailStop.pure hf t)
  · refine R.FailStop.ite hf ?_ (R.FailStop.pure hf _)
    exact R.FailStop.bind hf (rehash_FS hf _) (fun t2 => resizeTail_FS hf _ _ _)

theorem shrink_FS (oracle : Nat → Bool) (t : HT) : (shrink hf oracle t).FailStop hf := by
  unfold shrink
  refine R.FailStop.ite hf ?_ (R.FailStop.pure hf t)
  exact R.FailStop.bind hf (rehash_FS hf t) (fun t1 => setCapacity_FS hf _ _ _)

theorem visitErase_FS (t : HT) (er : Bool) (n : Node) : (visitErase hf t er n).FailStop hf := by
  unfold visitErase
  exact R.FailStop.ite hf (erase_FS hf _ _ _) (R.FailStop.pure hf _)

theorem bucketWalk_FS (visit : Nat → Node → Int × Bool) : ∀ (ns : List Node) (w : Walk),
    (bucketWalk hf visit w ns).FailStop hf
  | [], w => R.FailStop.pure hf w
  | n :: ns, w => by
    rw [bucketWalk_cons]
    refine R.FailStop.bind hf (visitErase_FS hf _ _ _) (fun t' => ?_)
    exact R.FailStop.ite hf (R.FailStop.pure hf _) (bucketWalk_FS visit ns _)

theorem tableWalk_FS (visit : Nat → Node → Int × Bool) : ∀ (d : Nat) (w : Walk) (i : Nat),
    (tableWalk hf visit w i d).FailStop hf
  | 0, w, _ => R.FailStop.pure hf w
  | d + 1, w, i => by
    rw [tableWalk_succ]
    refine R.FailStop.ite hf ?_ (R.FailStop.pure hf w)
    refine R.FailStop.bind hf (rd_FS hf _ _) (fun b => ?_)
    exact R.FailStop.bind hf (bucketWalk_FS hf visit _ _) (fun w' => tableWalk_FS visit d _ _)

theorem hforeach_FS (t : HT) (visit : Nat → Node → Int × Bool) : (hforeach hf t visit).FailStop hf :=
  tableWalk_FS hf visit _ _ _

theorem foreach_FS (t : HT) (visit : Nat → Node → Int × Bool) : (foreach hf t visit).FailStop hf :=
  R.FailStop.bind hf (rehash_FS hf t) (fun t1 =>
    R.FailStop.bind hf (hforeach_FS hf t1 visit) (fun _ => R.FailStop.pure hf _))

theorem foreachConst_FS (t : HT) (visit : Nat → Node → Int) : (foreachConst hf t visit).FailStop hf :=
  R.FailStop.bind hf (hforeach_FS hf t _) (fun _ => R.FailStop.pure hf _)

theorem clear_FS (t : HT) (withCb : Bool) : (clear hf t withCb).FailStop hf := by
  rw [clear_unfold]
  refine R.FailStop.bind hf ?_ (fun w => R.FailStop.bind hf ?_ (fun _ => R.FailStop.pure hf _))
  · unfold clearWalk
    exact R.FailStop.ite hf (hforeach_FS hf t _) (R.FailStop.pure hf _)
  · unfold freeArr
    exact R.FailStop.ite hf (logEv_FS hf _) (R.FailStop.pure hf _)

theorem step_FS (s : Sys) (op : Op) : (step hf s op).FailStop hf := by
  cases op with
  | insert tb k e => exact R.FailStop.bind hf (insert_FS hf _ _ _) (fun _ => R.FailStop.pure hf _)
  | find tb k acc => exact R.FailStop.bind hf (find_FS hf _ _ _) (fun _ => R.FailStop.pure hf _)
  | erase tb e => exact R.FailStop.bind hf (erase_FS hf _ _ _) (fun _ => R.FailStop.pure hf _)
  | resize tb n f oracle => exact R.FailStop.bind hf (resize_FS hf _ _ _ _) (fun _ => R.FailStop.pure hf _)
  | rehash tb => exact R.FailStop.bind hf (rehash_FS hf _) (fun _ => R.FailStop.pure hf _)
  | shrink tb oracle => exact R.FailStop.bind hf (shrink_FS hf _ _) (fun _ => R.FailStop.pure hf _)
  | swap => exact R.FailStop.pure hf _
  | foreach tb visit => exact R.FailStop.bind hf (foreach_FS hf _ _) (fun _ => R.FailStop.pure hf _)
  | foreachConst tb visit => exact R.FailStop.bind hf (foreachConst_FS hf _ _) (fun _ => R.FailStop.pure hf _)
  | clear tb withCb => exact R.FailStop.bind hf (clear_FS hf _ _) (fun _ => R.FailStop.pure hf _)

theorem run_FS : ∀ (ops : List Op) (s : Sys), (run hf s ops).FailStop hf
  | [], _ => R.FailStop.pure hf _
  | op :: ops, s =>
    R.FailStop.bind hf (step_FS hf s op) (fun r =>
      R.FailStop.bind hf (run_FS ops r.1) (fun _ => R.FailStop.pure hf _))

end Cstl.Hash
