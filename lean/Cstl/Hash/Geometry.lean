import Cstl.Hash.Ops
/-
Specifications of the geometry operations of src/hash.c:
`__cstl_hash_set_capacity`, `cstl_hash_resize`, `cstl_hash_shrink_to_fit`.
-/
namespace Cstl.Hash

variable (hf : HashId → Nat → Nat → Nat)

def emptyBucket : Bucket := { chain := [], cst := false }

@[simp] theorem emptyBucket_chain : emptyBucket.chain = [] := rfl

theorem size_resizeArr (a : Array Bucket) (sz : Nat) : (resizeArr a sz).size = sz := by
  unfold resizeArr
  by_cases h : sz ≤ a.size
  · simp [h]
  · simp [h]; omega

theorem getElem?_resizeArr (a : Array Bucket) (sz i : Nat) :
    (resizeArr a sz)[i]? = if i < sz then (if i < a.size then a[i]? else some emptyBucket) else none := by
  unfold resizeArr emptyBucket
  split
  · simp only [Array.getElem?_extract]
    grind
  · rw [Array.getElem?_append]
    grind

theorem flatMap_take_of_empty_beyond {α β : Type} (f : α → List β) :
    ∀ (l : List α) (sz : Nat), (∀ (i : Nat) (b : α), l[i]? = some b → sz ≤ i → f b = []) →
      (l.take sz).flatMap f = l.flatMap f
  | [], sz, _ => by simp
  | x :: xs, 0, h => by
    simp only [List.take_zero, List.flatMap_nil, List.flatMap_cons]
    have h0 := h 0 x (by simp) (Nat.le_refl _)
    have := flatMap_take_of_empty_beyond f xs 0 (fun i b hb _ => h (i + 1) b (by simpa using hb) (by omega))
    simp only [List.take_zero, List.flatMap_nil] at this
    rw [h0, ← this]; rfl
  | x :: xs, sz + 1, h => by
    simp only [List.take_succ_cons, List.flatMap_cons]
    rw [flatMap_take_of_empty_beyond f xs sz (fun i b hb hi => h (i + 1) b (by simpa using hb) (by omega))]

theorem nodes_resizeArr_eq (t : HT) (sz : Nat) :
    nodes { t with bk := resizeArr t.bk sz } = (t.bk.toList.take sz).flatMap (·.chain) := by
  unfold nodes resizeArr
  by_cases hs : sz ≤ t.bk.size
  · simp only [hs, if_true, Array.toList_extract, List.extract_eq_take_drop, List.drop_zero, Nat.sub_zero]
  · have : (List.replicate (sz - t.bk.size) ({ chain := [], cst := false } : Bucket)).flatMap (·.chain) = [] := by
      apply List.flatMap_eq_nil_iff.mpr
      intro b hb
      rw [List.eq_of_mem_replicate hb]
    simp only [hs, if_false, Array.toList_append, Array.toList_replicate, List.flatMap_append, this, List.append_nil]
    rw [List.take_of_length_le (by simp; omega)]

theorem flatMap_take_len {α β : Type} (f : α → List β) (l : List α) (sz : Nat) :
    ((l.take sz).flatMap f).length ≤ (l.flatMap f).length := by
  have h := congrArg (fun l => (l.flatMap f).length) (List.take_append_drop sz l)
  simp only [List.flatMap_append, List.length_append] at h
  omega

theorem nodes_resizeArr_len (t : HT) (sz : Nat) :
    (nodes { t with bk := resizeArr t.bk sz }).length ≤ (nodes t).length := by
  rw [nodes_resizeArr_eq]
  exact flatMap_take_len _ _ _

theorem nodes_resizeArr {t : HT} {sz : Nat}
    (h : ∀ (i : Nat) (b : Bucket), t.bk[i]? = some b → sz ≤ i → b.chain = []) :
    nodes { t with bk := resizeArr t.bk sz } = nodes t := by
  rw [nodes_resizeArr_eq]
  exact flatMap_take_of_empty_beyond _ _ _ (fun i b hb hi => h i b (by simpa using hb) hi)

theorem resizeArr_get {a : Array Bucket} {sz i : Nat} {b : Bucket} (h : (resizeArr a sz)[i]? = some b) :
    (i < a.size ∧ a[i]? = some b) ∨ (a.size ≤ i ∧ b = emptyBucket) := by
  rw [getElem?_resizeArr] at h
  by_cases h1 : i < sz
  · rw [if_pos h1] at h
    by_cases h2 : i < a.size
    · rw [if_pos h2] at h; exact Or.inl ⟨h2, h⟩
    · rw [if_neg h2] at h; exact Or.inr ⟨by omega, (Option.some.inj h).symm⟩
  · rw [if_neg h1] at h; cases h

theorem Inv.realloc {t : HT} (inv : Inv hf t) (hr : t.hash.isSome) {sz : Nat} (hsz : t.ubound ≤ sz) :
    Inv hf { t with bk := resizeArr t.bk sz } := by
  have hub := inv.toGeom.ubound_le
  have hcu := t.count_le_ubound
  have key : ∀ (i : Nat) (b : Bucket), (resizeArr t.bk sz)[i]? = some b →
      t.bk[i]? = some b ∨ (t.ubound ≤ i ∧ b.chain = []) := by
    intro i b hb
    rcases resizeArr_get hb with ⟨_, h⟩ | ⟨h, rfl⟩
    · exact Or.inl h
    · exact Or.inr ⟨by omega, rfl⟩
  refine ⟨⟨?_, ?_, inv.ready, ?_⟩, ⟨?_, ?_, ?_⟩, ⟨?_, ?_⟩⟩
  · show t.count ≤ (resizeArr t.bk sz).size
    rw [size_resizeArr]; omega
  · intro h; rw [h] at hr; cases hr
  · intro h
    have hp := inv.pend h
    have hru := HT.rhCount_le_ubound (t := t) h
    refine ⟨hp.1, hp.2.1, ?_, hp.2.2.2⟩
    show t.rhCount ≤ (resizeArr t.bk sz).size
    rw [size_resizeArr]; omega
  · intro i b hb hi
    have hi' : t.ubound ≤ i := hi
    rcases key i b hb with h | h
    · exact inv.beyond i b h hi'
    · exact h.2
  · intro hrh h hh i b hb
    rcases key i b hb with h' | ⟨h1, h2⟩
    · exact inv.settled hrh h hh i b h'
    · refine ⟨fun hi => ?_, fun n hn => by simp [h2] at hn⟩
      have hi' : i < t.count := hi
      omega
  · intro g h hg hh i b hb
    rcases key i b hb with h' | ⟨h1, h2⟩
    · exact inv.pending g h hg hh i b h'
    · refine ⟨fun hi => ?_, fun n hn => by simp [h2] at hn⟩
      have hi' : i < t.clean ∨ (t.count ≤ i ∧ i < t.rhCount) := hi
      have hg' : t.rhHash = some g := hg
      have hps : t.rhHash.isSome := by rw [hg']; rfl
      have hp := inv.pend hps
      have hru := HT.rhCount_le_ubound (t := t) hps
      omega
  · rw [nodes_resizeArr (fun i b hb hi => inv.beyond i b hb (by omega))]
    exact inv.nodup
  · rw [nodes_resizeArr (fun i b hb hi => inv.beyond i b hb (by omega))]
    exact inv.size_eq

/-- does `realloc` to `sz` buckets succeed? (the byte count must be representable) -/
def allocOK (oracle : Nat → Bool) (sz : Nat) : Prop := sz ≤ (2 ^ 64 - 1) / 16 ∧ oracle (16 * sz) = true

instance (oracle : Nat → Bool) (sz : Nat) : Decidable (allocOK oracle sz) := by
  unfold allocOK; exact inferInstance

theorem setCapacity_eq (oracle : Nat → Bool) (t : HT) {sz : Nat} (hsz : 1 ≤ sz) :
    setCapacity oracle t sz =
      if (2 ^ 64 - 1) / 16 < sz then pure t
      else (logEv (.realloc (16 * sz) (oracle (16 * sz))) >>= fun _ =>
        if oracle (16 * sz) then pure { t with bk := resizeArr t.bk sz } else pure t) := by
  unfold setCapacity
  by_cases h : (2 ^ 64 - 1) / 16 < sz
  · simp [h]
  · have h0 : sz ≠ 0 := by omega
    have hm : 16 * sz % 2 ^ 64 = 16 * sz := by
      apply Nat.mod_eq_of_lt; omega
    simp only [h, if_false, h0, hm]

/-- the byte count handed to `realloc` is the true size of the array: no wrap-around -/
theorem setCapacity_spec (oracle : Nat → Bool) {t : HT} {sz : Nat} (hsz : 1 ≤ sz) :
    (setCapacity oracle t sz).Spec (fun tr t' =>
      tr.calls = [] ∧ tr.reloc = 0 ∧
      ((allocOK oracle sz ∧ t' = { t with bk := resizeArr t.bk sz } ∧ tr.evs = [.realloc (16 * sz) true]) ∨
       (¬ allocOK oracle sz ∧ t' = t))) := by
  rw [setCapacity_eq oracle t hsz]
  by_cases h : (2 ^ 64 - 1) / 16 < sz
  · rw [if_pos h]
    refine R.Spec.pure ⟨rfl, rfl, Or.inr ⟨?_, rfl⟩⟩
    unfold allocOK; omega
  · rw [if_neg h]
    have hle : sz ≤ (2 ^ 64 - 1) / 16 := by omega
    by_cases ho : oracle (16 * sz) = true
    · simp [R.Spec, bind_def, R.bind, logEv, pure_def, R.pure, Tr.append, allocOK, ho, hle]
    · simp [R.Spec, bind_def, R.bind, logEv, pure_def, R.pure, Tr.append, allocOK, ho]

theorem nodes_eq_of_chains {t t' : HT}
    (h : ∀ i : Nat, (t'.bk[i]?).map Bucket.chain = (t.bk[i]?).map Bucket.chain) : nodes t' = nodes t := by
  have hl : t'.bk.toList.map Bucket.chain = t.bk.toList.map Bucket.chain := by
    apply List.ext_getElem?
    intro i
    simpa only [List.getElem?_map, Array.getElem?_toList] using h i
  show List.flatMap Bucket.chain t'.bk.toList = List.flatMap Bucket.chain t.bk.toList
  rw [List.flatMap_def, List.flatMap_def, hl]

theorem initBuckets_succ (t : HT) (lo d : Nat) :
    initBuckets t lo (d + 1) = (rd t lo >>= fun _ =>
      initBuckets (wr t lo { chain := [], cst := t.cst }) (lo + 1) d) := rfl

theorem initBuckets_spec : ∀ (d : Nat) (t : HT) (lo : Nat), lo + d ≤ t.bk.size →
    (initBuckets t lo d).Spec (fun tr t' => tr = {} ∧ SameGeom t t' ∧
      ∀ i, t'.bk[i]? = if lo ≤ i ∧ i < lo + d then some { chain := [], cst := t.cst } else t.bk[i]?)
  | 0, t, lo, _ => by
    refine R.Spec.pure ⟨rfl, SameGeom.refl t, fun i => ?_⟩
    have : ¬ (lo ≤ i ∧ i < lo + 0) := by omega
    rw [if_neg this]
  | d + 1, t, lo, h => by
    rw [initBuckets_succ]
    refine R.Spec.bind (rd_spec (by omega)) ?_
    rintro tr b ⟨rfl, hb⟩
    have sg := wr_sameGeom t lo { chain := [], cst := t.cst }
    refine (initBuckets_spec d (wr t lo { chain := [], cst := t.cst }) (lo + 1) (by rw [sg.bksz]; omega)).mono ?_
    rintro tr t' ⟨rfl, sg', hbk⟩
    refine ⟨by simp, sg.trans sg', fun i => ?_⟩
    rw [hbk i, wr_get]
    have hcst : (wr t lo { chain := [], cst := t.cst }).cst = t.cst := rfl
    grind

theorem resizeTail_unfold (t2 : HT) (n : Nat) (f : Option HashId) :
    resizeTail t2 n f = (initBuckets { t2 with cst := !t2.cst } t2.count (n - t2.count) >>= fun t4 =>
      if t4.hash = none then
        pure { t4 with rhHash := none, rhCount := n, clean := 0, hash := some (pickHash f t4.hash), count := n }
      else pure { t4 with rhHash := some (pickHash f t4.hash), rhCount := n, clean := 0 }) := rfl

theorem resize_unfold (oracle : Nat → Bool) (t : HT) (n : Nat) (f : Option HashId) :
    resize hf oracle t n f = if n = 0 then pure t else
      (ensureCapacity oracle t n >>= fun t1 =>
        if t1.bk.size ≠ 0 ∧ n ≤ t1.bk.size ∧ (n ≠ t1.effCount ∨ (f ≠ none ∧ f ≠ t1.effHash)) then
          (rehash hf t1 >>= fun t2 => resizeTail t2 n f)
        else pure t1) := rfl

/-- the function a resize request asks for: the one given, else the one the
table was heading for, else `cstl_hash_mul` -/
def reqHash (t : HT) (f : Option HashId) : HashId := pickHash f t.effHash

theorem tail_buckets {t2 t4 : HT} {n : Nat}
    (hbk : ∀ i, t4.bk[i]? = if t2.count ≤ i ∧ i < t2.count + (n - t2.count)
      then some { chain := [], cst := !t2.cst } else t2.bk[i]?)
    (hempty : ∀ (i : Nat) (b : Bucket), t2.bk[i]? = some b → t2.count ≤ i → b.chain = [])
    {i : Nat} {b : Bucket} (hb : t4.bk[i]? = some b) :
    (i < t2.count ∧ t2.bk[i]? = some b) ∨ (t2.count ≤ i ∧ b.chain = [] ∧ (i < n → b.cst = !t2.cst)) := by
  rw [hbk i] at hb
  by_cases hi : t2.count ≤ i ∧ i < t2.count + (n - t2.count)
  · rw [if_pos hi] at hb
    cases hb
    exact Or.inr ⟨hi.1, rfl, fun _ => rfl⟩
  · rw [if_neg hi] at hb
    by_cases hi2 : i < t2.count
    · exact Or.inl ⟨hi2, hb⟩
    · exact Or.inr ⟨by omega, hempty i b hb (by omega), fun hlt => by omega⟩

/-- what the tail of `cstl_hash_resize` leaves of a settled table that has a hash function: the same
table with the clean bit flipped and a rehash to the requested geometry pending -/
structure TailReady (t2 t5 : HT) (n : Nat) (f : Option HashId) : Prop where
  inv : Inv hf t5
  rhHash : t5.rhHash = some (reqHash t2 f)
  rhCount : t5.rhCount = n
  hash : t5.hash = t2.hash
  size : t5.size = t2.size
  perm : List.Perm (nodes t5) (nodes t2)

theorem resizeTail_ready {t2 : HT} {n : Nat} (f : Option HashId) (inv : Inv hf t2) (hs : t2.rhHash = none)
    {h : HashId} (hh : t2.hash = some h) (hn1 : 1 ≤ n) (hn : n ≤ t2.bk.size) :
    (resizeTail t2 n f).Spec (fun tr t5 => tr = {} ∧ TailReady hf t2 t5 n f) := by
  rw [resizeTail_unfold]
  have hcnt := inv.cnt_le
  have hc1 : 1 ≤ t2.count := inv.ready (by simp [hh])
  refine R.Spec.bind (initBuckets_spec _ { t2 with cst := !t2.cst } t2.count (by simp only; omega)) ?_
  rintro tr t4 ⟨rfl, sg, hbk⟩
  have hcount4 : t4.count = t2.count := sg.count
  have hhash4 : t4.hash = t2.hash := sg.hash
  have hcst4 : t4.cst = !t2.cst := sg.cst
  have hsize4 : t4.size = t2.size := sg.size
  have hbksz4 : t4.bk.size = t2.bk.size := sg.bksz
  have hh4 : t4.hash = some h := by rw [hhash4, hh]
  have hne : ¬ (t4.hash = none) := by rw [hh4]; simp
  rw [if_neg hne]
  have hg : pickHash f t4.hash = reqHash t2 f := by
    unfold reqHash
    rw [hhash4, (eff_settled hs).2]
  rw [hg]
  have hnodes : nodes t4 = nodes t2 := by
    apply nodes_eq_of_chains
    intro i
    rw [hbk i]
    by_cases hi : t2.count ≤ i ∧ i < t2.count + (n - t2.count)
    · rw [if_pos hi]
      have hlt : i < t2.bk.size := by omega
      have : t2.bk[i]? = some t2.bk[i] := Array.getElem?_eq_getElem hlt
      rw [this, Option.map_some, Option.map_some, inv.beyond i _ this (by simp [HT.ubound, hs]; omega)]
    · rw [if_neg hi]
  refine R.Spec.pure ⟨by simp, ?_, rfl, rfl, hhash4, hsize4, ?_⟩
  · have key : ∀ (i : Nat) (b : Bucket), t4.bk[i]? = some b →
        (i < t2.count ∧ t2.bk[i]? = some b) ∨ (t2.count ≤ i ∧ b.chain = [] ∧ (i < n → b.cst = !t2.cst)) :=
      fun i b hb => tail_buckets hbk
        (fun i b hb hi => inv.beyond i b hb (by simp [HT.ubound, hs]; exact hi)) hb
    refine ⟨⟨?_, ?_, ?_, ?_⟩, ⟨?_, ?_, ?_⟩, ⟨?_, ?_⟩⟩
    · show t4.count ≤ t4.bk.size
      rw [hcount4, hbksz4]; exact hcnt
    · intro hnone
      have : t4.hash = none := hnone
      rw [hh4] at this; cases this
    · intro _; show 1 ≤ t4.count; rw [hcount4]; exact hc1
    · intro _
      refine ⟨by show t4.hash.isSome; rw [hh4]; rfl, hn1, ?_, ?_⟩
      · show n ≤ t4.bk.size; rw [hbksz4]; exact hn
      · show 0 ≤ t4.count; omega
    · intro i b hb hi
      have hb' : t4.bk[i]? = some b := hb
      rcases key i b hb' with ⟨h1, _⟩ | ⟨_, h2, _⟩
      · have : max t4.count n ≤ i := by simpa [HT.ubound] using hi
        rw [hcount4] at this; omega
      · exact h2
    · intro hnone; cases hnone
    · intro g h' hg' hh' i b hb
      have hb' : t4.bk[i]? = some b := hb
      have hh'' : t4.hash = some h' := hh'
      rw [hh4] at hh''; cases hh''
      show ((i < 0 ∨ (t4.count ≤ i ∧ i < n)) → b.cst = t4.cst) ∧
        ∀ m ∈ b.chain, (i < n ∧ hf g m.key n = i) ∨ (b.cst ≠ t4.cst ∧ i < t4.count ∧ hf h m.key t4.count = i)
      rw [hcount4, hcst4]
      rcases key i b hb' with ⟨h1, h2⟩ | ⟨h1, h2, h3⟩
      · have hset := inv.settled hs h hh i b h2
        refine ⟨fun hi => by omega, fun m hm => Or.inr ⟨?_, h1, hset.2 m hm⟩⟩
        rw [hset.1 h1]; cases t2.cst <;> simp
      · refine ⟨fun hi => ?_, fun m hm => by simp [h2] at hm⟩
        rcases hi with hi | hi
        · omega
        · exact h3 hi.2
    · show ((nodes t4).map (·.id)).Nodup
      rw [hnodes]; exact inv.nodup
    · show t4.size = (nodes t4).length
      rw [hsize4, hnodes]; exact inv.size_eq
  · show List.Perm (nodes t4) (nodes t2)
    rw [hnodes]

/-- a table that has not been resized since `cstl_hash_init` / `cstl_hash_clear`
(possibly with bucket memory already allocated inside `cstl_hash_resize`) -/
structure Fresh (t : HT) : Prop where
  hash : t.hash = none
  rh : t.rhHash = none
  count : t.count = 0
  size : t.size = 0
  empty : ∀ (i : Nat) (b : Bucket), t.bk[i]? = some b → b.chain = []

theorem nodes_nil_of_empty {t : HT} (h : ∀ (i : Nat) (b : Bucket), t.bk[i]? = some b → b.chain = []) :
    nodes t = [] := by
  apply List.eq_nil_iff_forall_not_mem.mpr
  intro n hn
  obtain ⟨i, b, hb, hnb⟩ := mem_nodes.mp hn
  rw [h i b hb] at hnb
  simp at hnb

theorem Inv.fresh {t : HT} (inv : Inv hf t) (hh : t.hash = none) : Fresh t := by
  have hu := inv.unready hh
  have he : ∀ (i : Nat) (b : Bucket), t.bk[i]? = some b → b.chain = [] := by
    intro i b hb
    have := lt_of_get hb
    omega
  refine ⟨hh, hu.2.1, hu.1, ?_, he⟩
  rw [inv.size_eq, nodes_nil_of_empty he]; rfl

/-- what the tail of `cstl_hash_resize` leaves of a table that has no hash function yet (the first-resize
shortcut): an empty table settled on the requested geometry -/
structure TailFresh (t2 t5 : HT) (n : Nat) (f : Option HashId) : Prop where
  inv : Inv hf t5
  rhHash : t5.rhHash = none
  hash : t5.hash = some (pickHash f none)
  count : t5.count = n
  size : t5.size = 0
  nodes : nodes t5 = []

theorem resizeTail_fresh {t2 : HT} {n : Nat} (f : Option HashId) (fr : Fresh t2) (hn1 : 1 ≤ n)
    (hn : n ≤ t2.bk.size) :
    (resizeTail t2 n f).Spec (fun tr t5 => tr = {} ∧ TailFresh hf t2 t5 n f) := by
  rw [resizeTail_unfold]
  refine R.Spec.bind (initBuckets_spec _ { t2 with cst := !t2.cst } t2.count (by simp only; rw [fr.count]; omega)) ?_
  rintro tr t4 ⟨rfl, sg, hbk⟩
  have hhash4 : t4.hash = t2.hash := sg.hash
  have hcst4 : t4.cst = !t2.cst := sg.cst
  have hsize4 : t4.size = t2.size := sg.size
  have hbksz4 : t4.bk.size = t2.bk.size := sg.bksz
  have hh4 : t4.hash = none := by rw [hhash4, fr.hash]
  rw [if_pos hh4, hh4]
  have key : ∀ (i : Nat) (b : Bucket), t4.bk[i]? = some b → b.chain = [] ∧ (i < n → b.cst = !t2.cst) :=
    fun i b hb => ((tail_buckets hbk (fun i b hb _ => fr.empty i b hb) hb).resolve_left
      (fun h => by rw [fr.count] at h; omega)).2
  have hnil : nodes t4 = [] := nodes_nil_of_empty (fun i b hb => (key i b hb).1)
  refine R.Spec.pure ⟨by simp, ?_, rfl, rfl, rfl, by show t4.size = 0; rw [hsize4, fr.size], hnil⟩
  refine ⟨⟨?_, ?_, ?_, ?_⟩, ⟨?_, ?_, ?_⟩, ⟨?_, ?_⟩⟩
  · show n ≤ t4.bk.size; rw [hbksz4]; exact hn
  · intro h; cases h
  · intro _; exact hn1
  · intro h; cases h
  · intro i b hb _; exact (key i b hb).1
  · intro _ h hh i b hb
    have hb' : t4.bk[i]? = some b := hb
    refine ⟨fun hi => ?_, fun m hm => ?_⟩
    · show b.cst = t4.cst
      rw [hcst4]; exact (key i b hb').2 hi
    · rw [(key i b hb').1] at hm; simp at hm
  · intro g h hg; cases hg
  · show ((nodes t4).map (·.id)).Nodup
    rw [hnil]; simp
  · show t4.size = (nodes t4).length
    rw [hnil, hsize4, fr.size]; rfl

/-- a resize request for `n` buckets can be satisfied: the array is large
enough already or `realloc` succeeds (representable byte count, oracle says yes) -/
def Satisfiable (oracle : Nat → Bool) (t : HT) (n : Nat) : Prop :=
  1 ≤ n ∧ (n ≤ t.bk.size ∨ allocOK oracle n)

theorem Fresh.realloc {t : HT} (fr : Fresh t) (n : Nat) : Fresh { t with bk := resizeArr t.bk n } := by
  refine ⟨fr.hash, fr.rh, fr.count, fr.size, ?_⟩
  intro i b hb
  rcases resizeArr_get (a := t.bk) hb with ⟨_, h⟩ | ⟨_, rfl⟩
  · exact fr.empty i b h
  · rfl

/-- what `cstl_hash_resize` has after growing the array where it had to -/
structure Ensured (oracle : Nat → Bool) (t t1 : HT) (n : Nat) : Prop where
  hdr : t1.count = t.count ∧ t1.hash = t.hash ∧ t1.rhHash = t.rhHash ∧ t1.rhCount = t.rhCount ∧ t1.size = t.size
  sat : Satisfiable oracle t n ↔ n ≤ t1.bk.size
  unsat : ¬ n ≤ t1.bk.size → t1 = t
  fresh : Fresh t → Fresh t1
  inv : Inv hf t → t.hash.isSome → Inv hf t1 ∧ nodes t1 = nodes t

theorem ensureCapacity_spec (oracle : Nat → Bool) (t : HT) {n : Nat} (hn : 1 ≤ n) :
    (ensureCapacity oracle t n).Spec (fun _ t1 => Ensured hf oracle t t1 n) := by
  have kept : (n ≤ t.bk.size ∨ ¬ allocOK oracle n) → Ensured hf oracle t t n := by
    intro h
    refine ⟨⟨rfl, rfl, rfl, rfl, rfl⟩, ⟨?_, fun h' => ⟨hn, Or.inl h'⟩⟩, fun _ => rfl, id, fun i _ => ⟨i, rfl⟩⟩
    rintro ⟨_, h' | h'⟩
    · exact h'
    · exact h.resolve_right (fun na => na h')
  unfold ensureCapacity
  by_cases h : t.bk.size < n
  · rw [if_pos h]
    refine (setCapacity_spec oracle (t := t) hn).mono ?_
    rintro tr t1 ⟨_, _, ⟨a, rfl, _⟩ | ⟨a, rfl⟩⟩
    · have hsz : n ≤ (resizeArr t.bk n).size := by rw [size_resizeArr]; exact Nat.le_refl _
      refine ⟨⟨rfl, rfl, rfl, rfl, rfl⟩, ⟨fun _ => hsz, fun _ => ⟨hn, Or.inr a⟩⟩, fun h' => absurd hsz h',
        fun fr => fr.realloc n, fun inv hr => ?_⟩
      have hub : t.ubound ≤ n := by have := inv.toGeom.ubound_le; omega
      exact ⟨inv.realloc hf hr hub, nodes_resizeArr (fun i b hb hi => inv.beyond i b hb (by omega))⟩
    · exact kept (Or.inr a)
  · rw [if_neg h]
    exact R.Spec.pure (kept (Or.inl (by omega)))

theorem resize_spec (oracle : Nat → Bool) {t : HT} (n : Nat) (f : Option HashId) (inv : Inv hf t) :
    (resize hf oracle t n f).Spec (fun _ t' =>
      Inv hf t' ∧ List.Perm (nodes t') (nodes t) ∧ t'.size = t.size ∧
      (Satisfiable oracle t n → t'.effCount = n ∧ t'.effHash = some (reqHash t f) ∧ t'.hash.isSome) ∧
      (¬ Satisfiable oracle t n → t' = t)) := by
  rw [resize_unfold]
  by_cases hn0 : n = 0
  · rw [if_pos hn0]
    refine R.Spec.pure ⟨inv, List.Perm.refl _, rfl, fun hs => ?_, fun _ => rfl⟩
    have := hs.1; omega
  rw [if_neg hn0]
  have hn1 : 1 ≤ n := by omega
  refine R.Spec.bind (ensureCapacity_spec hf oracle t hn1) ?_
  intro _ t1 e
  obtain ⟨hcount1, hhash1, hrh1, hrhc1, hsize1⟩ := e.hdr
  obtain ⟨heffc, heffh⟩ := eff_congr hrh1 hrhc1 hcount1 hhash1
  cases hh : t.hash with
  | none =>
    -- first resize
    have fr := inv.fresh hf hh
    have fr1 : Fresh t1 := e.fresh fr
    have hec : t1.effCount = 0 := (eff_settled fr1.rh).1.trans fr1.count
    by_cases hc : n ≤ t1.bk.size
    · have hcond : t1.bk.size ≠ 0 ∧ n ≤ t1.bk.size ∧ (n ≠ t1.effCount ∨ (f ≠ none ∧ f ≠ t1.effHash)) :=
        ⟨by omega, hc, Or.inl (by omega)⟩
      rw [if_pos hcond]
      have hre : rehash hf t1 = pure t1 := by unfold rehash; rw [fr1.rh]; rfl
      rw [hre, R_pure_bind]
      refine (resizeTail_fresh hf f fr1 hn1 hc).mono ?_
      rintro tr3 t5 ⟨rfl, r5⟩
      have hn : nodes t = [] := nodes_nil_of_empty fr.empty
      refine ⟨r5.inv, by rw [r5.nodes, hn], by rw [r5.size, fr.size], fun _ => ⟨?_, ?_, ?_⟩,
        fun hns => absurd (e.sat.mpr hc) hns⟩
      · exact (eff_settled r5.rhHash).1.trans r5.count
      · rw [(eff_settled r5.rhHash).2, r5.hash, reqHash, (eff_settled fr.rh).2, fr.hash]
      · rw [r5.hash]; rfl
    · have hcond : ¬ (t1.bk.size ≠ 0 ∧ n ≤ t1.bk.size ∧ (n ≠ t1.effCount ∨ (f ≠ none ∧ f ≠ t1.effHash))) :=
        fun h => hc h.2.1
      rw [if_neg hcond]
      have := e.unsat hc
      subst this
      exact R.Spec.pure ⟨inv, List.Perm.refl _, rfl, fun hs => absurd (e.sat.mp hs) hc, fun _ => rfl⟩
  | some h =>
    have hr : t.hash.isSome := by rw [hh]; rfl
    obtain ⟨inv1, hnodes1⟩ := e.inv inv hr
    have hr1 : t1.hash.isSome := by rw [hhash1]; exact hr
    by_cases hcond : t1.bk.size ≠ 0 ∧ n ≤ t1.bk.size ∧ (n ≠ t1.effCount ∨ (f ≠ none ∧ f ≠ t1.effHash))
    · rw [if_pos hcond]
      refine R.Spec.bind (rehash_spec hf inv1) ?_
      rintro tr2 t2 r2
      obtain ⟨h', hh'⟩ := Option.isSome_iff_exists.mp (effHash_isSome hr1)
      have hh2 : t2.hash = some h' := by rw [r2.hash, hh']
      refine (resizeTail_ready hf f r2.inv r2.settled hh2 hn1 (by rw [r2.bksz]; exact hcond.2.1)).mono ?_
      rintro tr3 t5 ⟨rfl, r5⟩
      refine ⟨r5.inv, ?_, by rw [r5.size, r2.size, hsize1], fun _ => ⟨?_, ?_, ?_⟩,
        fun hns => absurd (e.sat.mpr hcond.2.1) hns⟩
      · rw [← hnodes1]; exact r5.perm.trans r2.perm
      · exact (eff_pending (by rw [r5.rhHash]; rfl)).1.trans r5.rhCount
      · rw [(eff_pending (by rw [r5.rhHash]; rfl)).2, r5.rhHash, reqHash, reqHash, (eff_settled r2.settled).2,
          r2.hash, heffh]
      · rw [r5.hash, hh2]; rfl
    · rw [if_neg hcond]
      refine R.Spec.pure ⟨inv1, by rw [hnodes1], hsize1, fun hs => ?_, fun hns => ?_⟩
      · have hle := e.sat.mp hs
        have h3 : ¬ (n ≠ t1.effCount ∨ (f ≠ none ∧ f ≠ t1.effHash)) := fun h3 => hcond ⟨by omega, hle, h3⟩
        obtain ⟨h', hh'⟩ := Option.isSome_iff_exists.mp (effHash_isSome hr1)
        refine ⟨(Classical.not_not.mp (fun h4 => h3 (Or.inl h4))).symm, ?_, hr1⟩
        unfold reqHash
        rw [← heffh, hh']
        cases f with
        | none => rfl
        | some g =>
          by_cases h5 : some g = t1.effHash
          · rw [hh'] at h5; cases h5; rfl
          · exact absurd (Or.inr ⟨by simp, h5⟩) h3
      · exact e.unsat (fun h => hns (e.sat.mpr h))

theorem shrink_spec (oracle : Nat → Bool) {t : HT} (inv : Inv hf t) :
    (shrink hf oracle t).Spec (fun _ t' =>
      Inv hf t' ∧ List.Perm (nodes t') (nodes t) ∧ t'.size = t.size ∧
      t'.effCount = t.effCount ∧ t'.effHash = t.effHash ∧ t'.hash.isSome = t.hash.isSome ∧
      (t'.bk.size = t.bk.size ∨ t'.bk.size = t.effCount)) := by
  unfold shrink
  by_cases hc : t.effCount < t.bk.size
  · rw [if_pos hc]
    have hr : t.hash.isSome := by
      cases hh : t.hash with
      | some h => rfl
      | none => have := (inv.unready hh).2.2; omega
    refine R.Spec.bind (rehash_spec hf inv) ?_
    rintro tr1 t1 r1
    have hr1 : t1.hash.isSome := by rw [r1.hash]; exact effHash_isSome hr
    have hc1 : 1 ≤ t1.count := r1.inv.ready hr1
    obtain ⟨hec1, heh1⟩ := r1.eff
    refine (setCapacity_spec oracle (t := t1) hc1).mono ?_
    rintro tr2 t2 ⟨_, _, h3⟩
    rcases h3 with ⟨_, rfl, _⟩ | ⟨_, rfl⟩
    · have hub : t1.ubound ≤ t1.count := by unfold HT.ubound; rw [r1.settled]; exact Nat.le_refl _
      refine ⟨r1.inv.realloc hf hr1 hub, ?_, r1.size, hec1, heh1, by show t1.hash.isSome = _; rw [hr1, hr], Or.inr ?_⟩
      · rw [nodes_resizeArr (fun i b hb hi => r1.inv.beyond i b hb (by omega))]; exact r1.perm
      · show (resizeArr t1.bk t1.count).size = t.effCount
        rw [size_resizeArr, r1.count]
    · exact ⟨r1.inv, r1.perm, r1.size, hec1, heh1, by rw [hr1, hr], Or.inl r1.bksz⟩
  · rw [if_neg hc]
    exact R.Spec.pure ⟨inv, List.Perm.refl _, rfl, rfl, rfl, rfl, Or.inl rfl⟩

end Cstl.Hash
