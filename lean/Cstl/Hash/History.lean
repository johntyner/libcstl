import Cstl.Hash.Enum
import Cstl.Hash.Run
/-
Histories: two tables (so that swap is covered) and the key fields of the
elements, driven by arbitrary lists of operations from the initial state
(`Sys`, `Op`, `step`, `run`: Run.lean).
The abstract specification is a pair of multisets of (key, id) nodes;
`step_refines` / `run_refines` are `R.Spec` triples against it.  (At link level,
`Cstl.HashL.*_refines` means something else: `Sim`, a simulation of this model.)
-/
namespace Cstl.Hash

variable (hf : HashId → Nat → Nat → Nat)

/-- documented domain: keyed operations need a table that has been resized;
an element is inserted only while it is in no table -/
def Valid (s : Sys) : Op → Prop
  | .insert tb _ e => (s.sel tb).hash.isSome ∧ (∀ n ∈ nodes s.a, n.id ≠ e) ∧ (∀ n ∈ nodes s.b, n.id ≠ e)
  | .find tb _ _ => (s.sel tb).hash.isSome
  | .erase tb _ => (s.sel tb).hash.isSome
  | _ => True

/-- every operation of the history is inside the documented domain when it is issued -/
def ValidFrom (s : Sys) : List Op → Prop
  | [] => True
  | op :: ops => Valid s op ∧ ∀ s' out, (step hf s op).val = .ok (s', out) → ValidFrom s' ops

/-- system invariant: both tables satisfy the table invariant, the key field
of every stored element is the key of its node, no element is in both tables -/
structure SysInv (s : Sys) : Prop where
  ia : Inv hf s.a
  ib : Inv hf s.b
  ka : ∀ n ∈ nodes s.a, s.key n.id = n.key
  kb : ∀ n ∈ nodes s.b, s.key n.id = n.key
  disj : ∀ n ∈ nodes s.a, ∀ m ∈ nodes s.b, n.id ≠ m.id

abbrev Abs := List Node × List Node

def Abs.sel (m : Abs) (tb : Bool) : List Node := if tb then m.2 else m.1
def Abs.other (m : Abs) (tb : Bool) : List Node := if tb then m.1 else m.2

def absOf (s : Sys) : Abs := (nodes s.a, nodes s.b)

/-- what one operation may do to the multisets and what it may answer -/
def SpecStep (m m' : Abs) : Op → Out → Prop
  | .insert tb k e, _ => List.Perm (m'.sel tb) ({ key := k, id := e } :: m.sel tb) ∧ m'.other tb = m.other tb
  | .find tb k acc, out => List.Perm (m'.sel tb) (m.sel tb) ∧ m'.other tb = m.other tb ∧
      ∃ r offers cands, out = .found r offers ∧ List.Perm cands ((m.sel tb).filter (fun n => n.key = k)) ∧
        FindOK acc cands r offers
  | .erase tb e, _ => m'.other tb = m.other tb ∧
      ((∀ n ∈ m.sel tb, n.id ≠ e) → List.Perm (m'.sel tb) (m.sel tb)) ∧
      (∀ n ∈ m.sel tb, n.id = e → List.Perm (m.sel tb) (n :: m'.sel tb))
  | .resize tb _ _ _, _ => List.Perm (m'.sel tb) (m.sel tb) ∧ m'.other tb = m.other tb
  | .rehash tb, _ => List.Perm (m'.sel tb) (m.sel tb) ∧ m'.other tb = m.other tb
  | .shrink tb _, _ => List.Perm (m'.sel tb) (m.sel tb) ∧ m'.other tb = m.other tb
  | .swap, _ => m' = (m.2, m.1)
  | .foreach tb visit, out => m'.other tb = m.other tb ∧
      ∃ L, List.Perm L (m.sel tb) ∧ out = .visited (visitList visit 0 L).2.1 (visitList visit 0 L).1 ∧
        List.Perm L ((visitList visit 0 L).2.2 ++ m'.sel tb)
  | .foreachConst tb visit, out => m' = m ∧
      ∃ L, List.Perm L (m.sel tb) ∧
        out = .visited (visitList (fun i n => (visit i n, false)) 0 L).2.1 (visitList (fun i n => (visit i n, false)) 0 L).1
  | .clear tb withCb, out => m'.other tb = m.other tb ∧ m'.sel tb = [] ∧
      ∃ seen, out = .visited 0 seen ∧ (withCb = true → List.Perm seen (m.sel tb)) ∧ (withCb = false → seen = [])

def SpecRun : Abs → List Op → List Out → Abs → Prop
  | m, [], [], m' => m' = m
  | m, op :: ops, out :: outs, m' => ∃ m1, SpecStep m m1 op out ∧ SpecRun m1 ops outs m'
  | _, _, _, _ => False


theorem absOf_sel (s : Sys) (tb : Bool) : (absOf s).sel tb = nodes (s.sel tb) := by
  cases tb <;> rfl

theorem absOf_put_sel (s : Sys) (tb : Bool) (t : HT) : (absOf (s.put tb t)).sel tb = nodes t := by
  cases tb <;> rfl

theorem absOf_put_other (s : Sys) (tb : Bool) (t : HT) : (absOf (s.put tb t)).other tb = (absOf s).other tb := by
  cases tb <;> rfl

theorem SysInv.sel {s : Sys} (si : SysInv hf s) (tb : Bool) : Inv hf (s.sel tb) := by
  cases tb
  · exact si.ia
  · exact si.ib

theorem SysInv.ksel {s : Sys} (si : SysInv hf s) (tb : Bool) : ∀ n ∈ nodes (s.sel tb), s.key n.id = n.key := by
  cases tb
  · exact si.ka
  · exact si.kb

theorem SysInv.put_sub {s : Sys} (si : SysInv hf s) (tb : Bool) {t' : HT} (inv : Inv hf t')
    (hsub : ∀ n ∈ nodes t', n ∈ nodes (s.sel tb)) : SysInv hf (s.put tb t') := by
  cases tb
  · exact ⟨inv, si.ib, fun n hn => si.ka n (hsub n hn), si.kb, fun n hn m hm => si.disj n (hsub n hn) m hm⟩
  · exact ⟨si.ia, inv, si.ka, fun n hn => si.kb n (hsub n hn), fun n hn m hm => si.disj n hn m (hsub m hm)⟩

theorem SysInv.put_perm {s : Sys} (si : SysInv hf s) (tb : Bool) {t' : HT} (inv : Inv hf t')
    (hperm : List.Perm (nodes t') (nodes (s.sel tb))) :
    SysInv hf (s.put tb t') ∧ List.Perm ((absOf (s.put tb t')).sel tb) ((absOf s).sel tb) ∧
      (absOf (s.put tb t')).other tb = (absOf s).other tb :=
  ⟨si.put_sub hf tb inv (fun n hn => hperm.subset hn), by rw [absOf_put_sel, absOf_sel]; exact hperm,
    absOf_put_other s tb t'⟩

theorem SysInv.put_new {s : Sys} (si : SysInv hf s) (tb : Bool) {t' : HT} (inv : Inv hf t') {k e : Nat}
    (hnew : ∀ n ∈ nodes t', n = ⟨k, e⟩ ∨ n ∈ nodes (s.sel tb)) (hfa : ∀ n ∈ nodes s.a, n.id ≠ e)
    (hfb : ∀ n ∈ nodes s.b, n.id ≠ e) :
    SysInv hf { s.put tb t' with key := fun x => if x = e then k else s.key x } := by
  -- the key memory stays right for a table that does not hold `e` …
  have hk : ∀ l : List Node, (∀ n ∈ l, n.id ≠ e) → (∀ n ∈ l, s.key n.id = n.key) →
      ∀ n ∈ l, (if n.id = e then k else s.key n.id) = n.key :=
    fun l hl hkk n hn => by rw [if_neg (hl n hn)]; exact hkk n hn
  -- … and is right for the table that gained the new node
  have hk' : ∀ n ∈ nodes t', (if n.id = e then k else s.key n.id) = n.key := by
    intro n hn
    rcases hnew n hn with rfl | hn'
    · simp
    · exact hk _ (by cases tb <;> assumption) (si.ksel hf tb) n hn'
  cases tb
  · refine ⟨inv, si.ib, hk', hk _ hfb si.kb, fun n hn m hm => ?_⟩
    rcases hnew n hn with rfl | hn'
    · exact fun h => hfb m hm h.symm
    · exact si.disj n hn' m hm
  · refine ⟨si.ia, inv, hk _ hfa si.ka, hk', fun n hn m hm => ?_⟩
    rcases hnew m hm with rfl | hm'
    · exact hfa n hn
    · exact si.disj n hn m hm'

theorem step_refines {s : Sys} (si : SysInv hf s) (op : Op) (hv : Valid s op) :
    (step hf s op).Spec (fun tr r => (SysInv hf r.1 ∧ SpecStep (absOf s) (absOf r.1) op r.2) ∧
      ∀ c ∈ tr.calls, 1 ≤ c.m) := by
  refine R.Spec.and_pos ?_
  cases op with
  | insert tb k e =>
    obtain ⟨hr, hfa, hfb⟩ := hv
    refine R.Spec.bind (insert_spec hf k e (si.sel hf tb) hr (by cases tb <;> assumption)) ?_
    rintro tr t' ⟨inv', hperm, _, _⟩
    exact R.Spec.pure ⟨si.put_new hf tb inv' (fun n hn => List.mem_cons.mp (hperm.subset hn)) hfa hfb,
      by cases tb <;> exact hperm, by cases tb <;> rfl⟩
  | find tb k acc =>
    refine R.Spec.bind (find_spec hf k acc (si.sel hf tb) hv) ?_
    rintro tr ⟨t', r, offers⟩ ⟨inv', hperm, _, _, cands, hc, hok⟩
    obtain ⟨h1, h2, h3⟩ := si.put_perm hf tb inv' hperm
    exact R.Spec.pure ⟨h1, h2, h3, r, offers, cands, rfl, by rw [absOf_sel]; exact hc, hok⟩
  | erase tb e =>
    have hkey : ∀ n ∈ nodes (s.sel tb), n.id = e → n.key = s.key e := by
      intro n hn hid
      rw [← hid]; exact (si.ksel hf tb n hn).symm
    refine R.Spec.bind (erase_spec hf (s.key e) e (si.sel hf tb) hv hkey) ?_
    rintro tr t' ⟨inv', _, hno, hyes, hsub⟩
    refine R.Spec.pure ⟨si.put_sub hf tb inv' hsub, absOf_put_other s tb t', ?_, ?_⟩
    · intro h
      rw [absOf_put_sel]; rw [absOf_sel] at h ⊢
      exact (hno h).1
    · intro n hn hid
      rw [absOf_put_sel]; rw [absOf_sel] at hn ⊢
      exact (hyes n hn hid).1
  | resize tb n f oracle =>
    refine R.Spec.bind (resize_spec hf oracle n f (si.sel hf tb)) ?_
    rintro tr t' ⟨inv', hperm, _⟩
    exact R.Spec.pure (si.put_perm hf tb inv' hperm)
  | rehash tb =>
    refine R.Spec.bind (rehash_spec hf (si.sel hf tb)) ?_
    intro tr t' r
    exact R.Spec.pure (si.put_perm hf tb r.inv r.perm)
  | shrink tb oracle =>
    refine R.Spec.bind (shrink_spec hf oracle (si.sel hf tb)) ?_
    rintro tr t' ⟨inv', hperm, _⟩
    exact R.Spec.pure (si.put_perm hf tb inv' hperm)
  | swap =>
    exact R.Spec.pure ⟨⟨si.ib, si.ia, si.kb, si.ka, fun n hn m hm h => si.disj m hm n hn h.symm⟩, rfl⟩
  | foreach tb visit =>
    refine R.Spec.bind (foreach_spec hf visit (si.sel hf tb)) ?_
    rintro tr ⟨t', r, seen⟩ ⟨L, hL, hs, hr, inv', hp, _⟩
    simp only at hs hr inv' hp
    have hsub : ∀ n ∈ nodes t', n ∈ nodes (s.sel tb) := fun n hn =>
      hL.subset (hp.symm.subset (List.mem_append_right _ hn))
    refine R.Spec.pure ⟨si.put_sub hf tb inv' hsub, absOf_put_other s tb t', L, ?_, ?_, ?_⟩
    · rw [absOf_sel]; exact hL
    · show Out.visited r seen = _
      rw [hs, hr]
    · rw [absOf_put_sel]; exact hp
  | foreachConst tb visit =>
    refine R.Spec.bind (foreachConst_spec hf visit (si.sel hf tb)) ?_
    rintro tr ⟨r, seen⟩ ⟨hs, hr, _⟩
    simp only at hs hr
    refine R.Spec.pure ⟨si, rfl, nodes (s.sel tb), by rw [absOf_sel], ?_⟩
    show Out.visited r seen = _
    rw [hs, hr]
  | clear tb withCb =>
    refine R.Spec.bind (clear_spec hf withCb (si.sel hf tb)) ?_
    rintro tr ⟨t', seen⟩ ⟨hs, inv', _, _, _, _, _, hn, _⟩
    simp only at hs inv' hn
    refine R.Spec.pure ⟨si.put_sub hf tb inv' (fun n hn' => by rw [hn] at hn'; simp at hn'),
      absOf_put_other s tb t', by rw [absOf_put_sel]; exact hn, seen, rfl, ?_, ?_⟩
    · intro h; rw [hs, h, absOf_sel]; exact List.Perm.refl _
    · intro h; rw [hs, h]; rfl

/-- the table left by `cstl_hash_init` satisfies the invariant -/
theorem inv_init : Inv hf HT.init := cleared_inv hf HT.init

theorem Sys.init_inv : SysInv hf Sys.init :=
  ⟨inv_init hf, inv_init hf, fun n hn => by simp [Sys.init, nodes, HT.init] at hn,
    fun n hn => by simp [Sys.init, nodes, HT.init] at hn, fun n hn => by simp [Sys.init, nodes, HT.init] at hn⟩

/-- History theorem: along every history inside the documented domain, for every
hash-function family `hf` (in range or not), every allocation oracle and every
visit function, the run either stops with `abort` (only possible when `hf`
leaves its range, see C17) or the invariant holds at the end and the answers
and final contents are those of the multiset specification.  It never reads
or writes outside the bucket array. -/
theorem run_refines_from (ops : List Op) (s : Sys) (si : SysInv hf s) (hv : ValidFrom hf s ops) :
    (run hf s ops).Spec (fun tr r => (SysInv hf r.1 ∧ SpecRun (absOf s) ops r.2 (absOf r.1)) ∧
      ∀ c ∈ tr.calls, 1 ≤ c.m) := by
  refine R.Spec.and_pos ?_
  induction ops generalizing s with
  | nil => exact R.Spec.pure ⟨si, rfl⟩
  | cons op ops ih =>
    show (step hf s op >>= fun r => run hf r.1 ops >>= fun r' => pure (r'.1, r.2 :: r'.2)).Spec _
    refine R.Spec.bind (R.Spec.with_val (step_refines hf si op hv.1)) ?_
    rintro tr r ⟨⟨⟨si1, sp1⟩, _⟩, hval⟩
    refine R.Spec.bind (ih r.1 si1 (hv.2 r.1 r.2 hval)) ?_
    rintro tr2 r' ⟨si2, sp2⟩
    exact R.Spec.pure ⟨si2, absOf r.1, sp1, sp2⟩

/-- the same from the initial state (both tables as left by `cstl_hash_init`) -/
theorem run_refines (ops : List Op) (hv : ValidFrom hf Sys.init ops) :
    (run hf Sys.init ops).Spec (fun tr r => (SysInv hf r.1 ∧ SpecRun (absOf Sys.init) ops r.2 (absOf r.1)) ∧
      ∀ c ∈ tr.calls, 1 ≤ c.m) :=
  run_refines_from hf ops Sys.init (Sys.init_inv hf) hv

end Cstl.Hash
