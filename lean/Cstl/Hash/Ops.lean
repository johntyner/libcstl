import Cstl.Hash.Inv
/-
Specifications of the keyed operations of src/hash.c (insert, find, erase)
against the multiset of nodes, on top of the invariant.
-/
namespace Cstl.Hash

variable (hf : HashId → Nat → Nat → Nat)

theorem Geom.setSize {t : HT} (g : Geom t) (s : Nat) : Geom { t with size := s } :=
  ⟨g.cnt_le, g.unready, g.ready, g.pend⟩

theorem Placed.setSize {t : HT} (p : Placed hf t) (s : Nat) : Placed hf { t with size := s } :=
  ⟨p.beyond, p.settled, p.pending⟩

theorem nodes_setSize (t : HT) (s : Nat) : nodes { t with size := s } = nodes t := rfl

theorem KeyedGeom.wr_size {t t' : HT} {k : Nat} {tr : Tr} (g : KeyedGeom t t' k tr) (j : Nat) (b : Bucket)
    (s : Nat) : KeyedGeom t { wr t' j b with size := s } k tr :=
  ⟨by simp [wr, g.bksz], g.cst, g.evs, g.reloc, g.effCount, g.effHash, g.ready, g.pos, g.settled_case,
    g.pending_case⟩

theorem Placed.wr_chain {t : HT} (p : Placed hf t) (gm : Geom t) {j : Nat} {b : Bucket} (hb : t.bk[j]? = some b)
    {c : List Node} (hc : ∀ n ∈ c, n ∈ b.chain ∨ NewOK hf t j n) : Placed hf (wr t j { b with chain := c }) := by
  refine Placed.transfer hf (wr_sameGeom t j _) gm p ?_
  intro j' b' hb'
  rcases wr_get_cases hb' with ⟨rfl, rfl⟩ | ⟨_, hb'⟩
  · exact ⟨b, hb, Or.inl ⟨rfl, hc⟩⟩
  · exact ⟨b', hb', Or.inl ⟨rfl, fun m hm => Or.inl hm⟩⟩

theorem insert_unfold (t : HT) (k e : Nat) :
    insert hf t k e = (keyed hf t k >>= fun r => pushHead r.1 r.2 { key := k, id := e } >>= fun t2 =>
      pure { t2 with size := t2.size + 1 }) := rfl

theorem insert_spec {t : HT} (k e : Nat) (inv : Inv hf t) (hr : t.hash.isSome)
    (hfresh : ∀ n ∈ nodes t, n.id ≠ e) :
    (insert hf t k e).Spec (fun tr t' => Inv hf t' ∧ List.Perm (nodes t') ({ key := k, id := e } :: nodes t) ∧
      t'.size = t.size + 1 ∧ KeyedGeom t t' k tr) := by
  rw [insert_unfold]
  refine R.Spec.bind (keyed_spec hf k inv hr) ?_
  rintro tr1 ⟨t1, j⟩ r
  simp only at r
  refine R.Spec.bind (pushHead_spec r.jlt) ?_
  rintro tr2 t2 ⟨rfl, b, hb, rfl⟩
  refine R.Spec.pure ?_
  have sg := wr_sameGeom t1 j { b with chain := { key := k, id := e } :: b.chain }
  have hperm : List.Perm (nodes (wr t1 j { b with chain := { key := k, id := e } :: b.chain }))
      ({ key := k, id := e } :: nodes t) :=
    (nodes_pushHead_perm _ hb).trans (List.Perm.cons _ r.perm)
  have hplaced : Placed hf (wr t1 j { b with chain := { key := k, id := e } :: b.chain }) :=
    r.inv.toPlaced.wr_chain hf r.inv.toGeom hb
      (fun n hn => (List.mem_cons.mp hn).elim (fun h => h ▸ Or.inr (r.target e)) Or.inl)
  refine ⟨⟨(sg.geom r.inv.toGeom).setSize _, hplaced.setSize hf _, ?_, ?_⟩, hperm, by simp [wr, r.size],
    by simpa using r.geom.wr_size _ _ _⟩
  · refine (hperm.map (·.id)).nodup_iff.mpr (List.nodup_cons.mpr ⟨fun hmem => ?_, inv.nodup⟩)
    obtain ⟨m, hm, hid⟩ := List.mem_map.mp hmem
    exact hfresh m hm hid
  · rw [nodes_setSize, hperm.length_eq]; simp [wr, r.size, inv.size_eq]

/-- What `cstl_hash_find` may answer when `cands` are the live elements with the
key: only they are offered, each at most once and in their order; without a
visit function nothing is offered and some candidate is returned; with one, the
returned element is the last one offered, it was accepted, every earlier offer
was rejected, and if nothing is returned all candidates were offered and
rejected. -/
structure FindOK (acc : Option (Nat → Node → Bool)) (cands : List Node) (r : Option Node)
    (offers : List Node) : Prop where
  pre : offers <+: cands
  noVisit : acc = none → offers = [] ∧ r = cands.head?
  rejected : ∀ f, acc = some f → ∀ (i : Nat) (n : Node), offers[i]? = some n →
    (i + 1 < offers.length ∨ r = none) → f i n = false
  accepted : ∀ f, acc = some f → ∀ n, r = some n → offers.getLast? = some n ∧ f (offers.length - 1) n = true
  all : ∀ f, acc = some f → r = none → offers = cands

theorem FindOK.nil (acc : Option (Nat → Node → Bool)) : FindOK acc [] none [] :=
  ⟨List.prefix_refl _, fun _ => ⟨rfl, rfl⟩, fun _ _ i n h => (by simp at h), fun _ _ n h => (by cases h),
    fun _ _ _ => rfl⟩

theorem FindOK.first (n : Node) (cands : List Node) : FindOK none (n :: cands) (some n) [] :=
  ⟨List.nil_prefix, fun _ => ⟨rfl, rfl⟩, fun _ h => (by cases h), fun _ h => (by cases h), fun _ h => (by cases h)⟩

theorem FindOK.accept {f : Nat → Node → Bool} {n : Node} (h : f 0 n = true) (cands : List Node) :
    FindOK (some f) (n :: cands) (some n) [n] := by
  refine ⟨by simp, fun h => (by cases h), fun f' hf' i m hm hi => ?_, fun f' hf' m hm => ?_,
    fun _ _ h => (by cases h)⟩
  · simp at hi
  · cases hf'; cases hm; exact ⟨rfl, h⟩

/-- the visit function rejects the first candidate: the rest of the walk sees the indices shifted by one -/
theorem FindOK.reject {f g : Nat → Node → Bool} (hg : ∀ i m, g i m = f (i + 1) m) {n : Node} (h : f 0 n = false)
    {cands offers : List Node} {r : Option Node} (ok : FindOK (some g) cands r offers) :
    FindOK (some f) (n :: cands) r (n :: offers) := by
  refine ⟨(List.prefix_cons_inj n).mpr ok.pre, fun h => (by cases h), fun f' hf' i m hm hi => ?_,
    fun f' hf' m hm => ?_, fun f' hf' hr => (by rw [ok.all g rfl hr])⟩
  · cases hf'
    cases i with
    | zero => simp at hm; subst hm; exact h
    | succ i =>
      rw [← hg]
      exact ok.rejected g rfl i m (by simpa using hm) (hi.imp (fun h => by simp at h; omega) id)
  · cases hf'
    obtain ⟨g1, g2⟩ := ok.accepted g rfl m hm
    have hne : offers ≠ [] := by intro h; subst h; simp at g1
    refine ⟨by rw [List.getLast?_cons_of_ne_nil hne]; exact g1, ?_⟩
    have : 0 < offers.length := List.length_pos_iff.mpr hne
    rw [hg, show offers.length - 1 + 1 = (n :: offers).length - 1 by simp; omega] at g2
    exact g2

/-- `findWalk` started with the offers `offs` already made (latest first) adds a list `pre` of offers that
is a correct answer on the rest of the chain for the visit function with indices shifted by `offs.length` -/
theorem findWalk_spec (k : Nat) (acc : Option (Nat → Node → Bool)) :
    ∀ (l offs : List Node), ∃ pre, (findWalk k acc l offs).2 = offs.reverse ++ pre ∧
      FindOK (acc.map fun f i => f (i + offs.length)) (l.filter (fun n => n.key = k)) (findWalk k acc l offs).1 pre
  | [], offs => ⟨[], by simp [findWalk], by simpa [findWalk] using FindOK.nil _⟩
  | n :: ns, offs => by
    by_cases hk : n.key = k
    · cases acc with
      | none => exact ⟨[], by simp [findWalk, hk], by simpa [findWalk, hk] using FindOK.first n _⟩
      | some f =>
        by_cases ha : f offs.length n = true
        · exact ⟨[n], by simp [findWalk, hk, ha],
            by simpa [findWalk, hk, ha] using FindOK.accept (f := fun i => f (i + offs.length)) (by simpa using ha) _⟩
        · obtain ⟨pre, h1, h2⟩ := findWalk_spec k (some f) ns (n :: offs)
          have hw : findWalk k (some f) (n :: ns) offs = findWalk k (some f) ns (n :: offs) := by
            simp [findWalk, hk, ha]
          rw [hw]
          refine ⟨n :: pre, by simp [h1], ?_⟩
          simp only [hk, decide_true, List.filter_cons_of_pos, Option.map_some]
          exact FindOK.reject (fun i m => by simp only [List.length_cons]; rw [Nat.add_right_comm, Nat.add_assoc])
            (by simpa using ha) h2
    · have hw : findWalk k acc (n :: ns) offs = findWalk k acc ns offs := by simp [findWalk, hk]
      have hfil : (n :: ns).filter (fun n => n.key = k) = ns.filter (fun n => n.key = k) := by simp [hk]
      rw [hw, hfil]
      exact findWalk_spec k acc ns offs

theorem findWalk_ok (k : Nat) (acc : Option (Nat → Node → Bool)) (l : List Node) :
    FindOK acc (l.filter (fun n => n.key = k)) (findWalk k acc l []).1 (findWalk k acc l []).2 := by
  obtain ⟨pre, h1, h2⟩ := findWalk_spec k acc l []
  rw [h1]
  simpa using h2

theorem filter_bucket_perm {t : HT} {j : Nat} {b : Bucket} {k : Nat} (hb : t.bk[j]? = some b)
    (hall : ∀ (i : Nat) (b' : Bucket) (n : Node), t.bk[i]? = some b' → n ∈ b'.chain → n.key = k → i = j) :
    List.Perm ((nodes t).filter (fun n => n.key = k)) (b.chain.filter (fun n => n.key = k)) := by
  have h1 := nodes_wr_perm (b' := { b with chain := [] }) hb
  simp only [List.append_nil] at h1
  have h2 := h1.filter (fun n => n.key = k)
  rw [List.filter_append] at h2
  have h3 : (nodes (wr t j { b with chain := [] })).filter (fun n => n.key = k) = [] := by
    apply List.filter_eq_nil_iff.mpr
    intro n hn
    obtain ⟨i, b', hb', hnb⟩ := mem_nodes.mp hn
    rcases wr_get_cases hb' with ⟨rfl, rfl⟩ | ⟨hij, hb'⟩
    · simp at hnb
    · exact fun hk => hij (hall i b' n hb' hnb (by simpa using hk))
  rw [h3, List.nil_append] at h2
  exact h2.symm

theorem find_unfold (t : HT) (k : Nat) (acc : Option (Nat → Node → Bool)) :
    find hf t k acc = (keyed hf t k >>= fun r => rd r.1 r.2 >>= fun b =>
      pure (r.1, findWalk k acc b.chain [])) := rfl

theorem find_spec {t : HT} (k : Nat) (acc : Option (Nat → Node → Bool)) (inv : Inv hf t) (hr : t.hash.isSome) :
    (find hf t k acc).Spec (fun tr r => Inv hf r.1 ∧ List.Perm (nodes r.1) (nodes t) ∧ r.1.size = t.size ∧
      KeyedGeom t r.1 k tr ∧
      ∃ cands, List.Perm cands ((nodes t).filter (fun n => n.key = k)) ∧ FindOK acc cands r.2.1 r.2.2) := by
  rw [find_unfold]
  refine R.Spec.bind (keyed_spec hf k inv hr) ?_
  rintro tr1 ⟨t1, j⟩ r
  refine R.Spec.bind (rd_spec r.jlt) ?_
  rintro tr2 b ⟨rfl, hb⟩
  refine R.Spec.pure ?_
  refine ⟨r.inv, r.perm, r.size, by simpa using r.geom, b.chain.filter (fun n => n.key = k), ?_, findWalk_ok k acc b.chain⟩
  · exact (filter_bucket_perm hb r.allAt).symm.trans (r.perm.filter _)

theorem unlink_eq_eraseP (e : Nat) : ∀ c : List Node,
    unlink e c = if c.any (·.id == e) then some (c.eraseP (·.id == e)) else none
  | [] => rfl
  | x :: xs => by
    by_cases hx : x.id = e
    · simp [unlink, hx]
    · rw [unlink, if_neg hx, unlink_eq_eraseP e xs]
      split <;> simp [*]

theorem unlink_some {e : Nat} {c c' : List Node} (h : unlink e c = some c') :
    ∃ n, n ∈ c ∧ n.id = e ∧ List.Perm c (n :: c') ∧ ∀ m ∈ c', m ∈ c := by
  rw [unlink_eq_eraseP] at h
  split at h
  · rename_i ha
    cases h
    obtain ⟨x, hx, hp⟩ := List.any_eq_true.mp ha
    obtain ⟨n, l₁, l₂, _, hn, hc, he⟩ := List.exists_of_eraseP (p := (·.id == e)) hx hp
    refine ⟨n, by rw [hc]; simp, by simpa using hn, ?_, fun m hm => List.mem_of_mem_eraseP hm⟩
    rw [he, hc]
    exact List.perm_middle
  · cases h

theorem unlink_none {e : Nat} {c : List Node} (h : unlink e c = none) : ∀ n ∈ c, n.id ≠ e := by
  rw [unlink_eq_eraseP] at h
  split at h
  · cases h
  · rename_i ha
    exact fun n hn hid => ha (List.any_eq_true.mpr ⟨n, hn, by simpa using hid⟩)

theorem eq_of_nodup_map_id : ∀ {l : List Node}, (l.map (·.id)).Nodup → ∀ {a b : Node}, a ∈ l → b ∈ l →
    a.id = b.id → a = b
  | [], _, a, _, ha, _, _ => by simp at ha
  | x :: xs, hnd, a, b, ha, hb, hab => by
    simp only [List.map_cons, List.nodup_cons, List.mem_map, not_exists, not_and] at hnd
    rcases List.mem_cons.mp ha with ha1 | ha1
    · rcases List.mem_cons.mp hb with hb1 | hb1
      · rw [ha1, hb1]
      · subst ha1; exact absurd hab.symm (hnd.1 b hb1)
    · rcases List.mem_cons.mp hb with hb1 | hb1
      · subst hb1; exact absurd hab (hnd.1 a ha1)
      · exact eq_of_nodup_map_id hnd.2 ha1 hb1 hab

theorem erase_unfold (t : HT) (k e : Nat) :
    erase hf t k e = (keyed hf t k >>= fun r => rd r.1 r.2 >>= fun b =>
      match unlink e b.chain with
      | some c => pure { wr r.1 r.2 { b with chain := c } with size := r.1.size - 1 }
      | none => pure r.1) := rfl

theorem keyed_settled_eq {t : HT} {h : HashId} {k : Nat} (hs : t.rhHash = none) (hh : t.hash = some h)
    (hlt : hf h k t.count < t.count) :
    keyed hf t k = { tr := { calls := [⟨h, k, t.count⟩] }, val := .ok (t, hf h k t.count) } := by
  rw [keyed_unfold, hh, hs]
  have hn : ¬ t.count ≤ hf h k t.count := by omega
  simp [getBucket, bind_def, R.bind, logCall, hn, pure_def, R.pure, Tr.append]

theorem erase_settled_eq {t : HT} {h : HashId} {k e : Nat} {b : Bucket} (hs : t.rhHash = none)
    (hh : t.hash = some h) (hlt : hf h k t.count < t.count) (hb : t.bk[hf h k t.count]? = some b) :
    erase hf t k e = { tr := { calls := [⟨h, k, t.count⟩] },
                        val := .ok (match unlink e b.chain with
                          | some c => { wr t (hf h k t.count) { b with chain := c } with size := t.size - 1 }
                          | none => t) } := by
  rw [erase_unfold, keyed_settled_eq hf hs hh hlt]
  simp only [bind_def, R.bind, rd_some hb, pure_def, R.pure]
  cases unlink e b.chain <;> simp [Tr.append]

theorem erase_spec {t : HT} (k e : Nat) (inv : Inv hf t) (hr : t.hash.isSome)
    (hkey : ∀ n ∈ nodes t, n.id = e → n.key = k) :
    (erase hf t k e).Spec (fun tr t' => Inv hf t' ∧ KeyedGeom t t' k tr ∧
      ((∀ n ∈ nodes t, n.id ≠ e) → List.Perm (nodes t') (nodes t) ∧ t'.size = t.size) ∧
      (∀ n ∈ nodes t, n.id = e → List.Perm (nodes t) (n :: nodes t') ∧ t'.size + 1 = t.size) ∧
      ∀ n ∈ nodes t', n ∈ nodes t) := by
  rw [erase_unfold]
  refine R.Spec.bind (keyed_spec hf k inv hr) ?_
  rintro tr1 ⟨t1, j⟩ r
  simp only at r
  refine R.Spec.bind (rd_spec r.jlt) ?_
  rintro tr2 b ⟨rfl, hb⟩
  have hbsub : ∀ n ∈ b.chain, n ∈ nodes t := fun n hn => r.perm.subset (mem_nodes.mpr ⟨j, b, hb, hn⟩)
  cases hu : unlink e b.chain with
  | none =>
    refine R.Spec.pure ⟨r.inv, by simpa using r.geom, fun _ => ⟨r.perm, r.size⟩, ?_, fun n hn => r.perm.subset hn⟩
    -- an element with identity `e` would sit in the bucket of its key, where `unlink` found none
    intro n hn hid
    exfalso
    obtain ⟨i, b', hb', hnb⟩ := mem_nodes.mp (r.perm.symm.subset hn)
    have := r.allAt i b' n hb' hnb (hkey n hn hid)
    subst this
    rw [hb] at hb'; cases hb'
    exact unlink_none hu n hnb hid
  | some c =>
    obtain ⟨n, hn, hid, hp, hs⟩ := unlink_some hu
    have hpermt : List.Perm (nodes t) (n :: nodes (wr t1 j { b with chain := c })) :=
      r.perm.symm.trans (nodes_unlink_perm hb hp)
    have hlen := hpermt.length_eq
    rw [← inv.size_eq, List.length_cons] at hlen
    have hsize : t1.size - 1 + 1 = t.size := by rw [r.size]; omega
    have hplaced : Placed hf (wr t1 j { b with chain := c }) :=
      r.inv.toPlaced.wr_chain hf r.inv.toGeom hb (fun m hm => Or.inl (hs m hm))
    refine R.Spec.pure ⟨⟨((wr_sameGeom t1 j _).geom r.inv.toGeom).setSize _, hplaced.setSize hf _,
        (List.nodup_cons.mp ((hpermt.map (·.id)).nodup_iff.mp inv.nodup)).2,
        by rw [nodes_setSize]; simp only [r.size]; omega⟩, by simpa using r.geom.wr_size _ _ _,
      fun hno => absurd hid (hno n (hbsub n hn)), fun n' hn' hid' => ?_,
      fun m hm => hpermt.symm.subset (List.mem_cons_of_mem _ hm)⟩
    have : n' = n := eq_of_nodup_map_id inv.nodup hn' (hbsub n hn) (by rw [hid, hid'])
    subst this
    exact ⟨hpermt, hsize⟩

end Cstl.Hash
