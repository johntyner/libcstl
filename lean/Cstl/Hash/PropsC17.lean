import Cstl.Hash.Examples
import Cstl.Hash.FailStop
/-
C17, part b — bucket selection is fail-stop for ARBITRARY hash functions.

`hf` is uninterpreted.  For every entry point: (1) on any table satisfying the
invariant the operation never answers `oob` / `nullDeref`, i.e. every bucket
index it uses is below the capacity and no NULL function or array is used;
(2) on ANY table state it stops with `abort` if and only if a hash result it
consulted was >= the bucket count it was asked for: the `_FS` theorems of
FailStop.lean, one per function; the theorems below pair the two under the
invariant.  (The numeric range of
cstl_hash_div / cstl_hash_mul is part a, area hashfn.)
-/
namespace Cstl.Hash

variable (hf : HashId → Nat → Nat → Nat)

/-- the fail-stop verdict of one model operation -/
structure FailStopOK {α : Type} (m : R α) : Prop where
  no_oob : m.val ≠ .error .oob
  no_null : m.val ≠ .error .nullDeref
  abort_iff : m.val = .error .abort ↔ ∃ c ∈ m.tr.calls, c.m ≤ hf c.fn c.key c.m

theorem FailStopOK.of {α : Type} {m : R α} {P : Tr → α → Prop} (hs : m.Spec P) (hfs : m.FailStop hf) :
    FailStopOK hf m :=
  ⟨hs.not_fault.1, hs.not_fault.2, hfs⟩

/-- `__cstl_hash_get_bucket`: the check itself — abort iff the result is out of range -/
theorem getBucket_failstop (fn : HashId) (k m : Nat) :
    ((getBucket hf (some fn) k m).val = .error .abort ↔ m ≤ hf fn k m) ∧
    ∀ i, (getBucket hf (some fn) k m).val = .ok i → i = hf fn k m ∧ i < m := by
  unfold getBucket
  simp only [bind_def, R.bind, logCall]
  by_cases h : m ≤ hf fn k m
  · simp [h, stop]
  · simp [h, pure_def, R.pure]
    omega

theorem insert_failstop {t : HT} (k e : Nat) (inv : Inv hf t) (hr : t.hash.isSome)
    (hfresh : ∀ n ∈ nodes t, n.id ≠ e) : FailStopOK hf (insert hf t k e) :=
  .of hf (insert_spec hf k e inv hr hfresh) (insert_FS hf t k e)

theorem find_failstop {t : HT} (k : Nat) (acc : Option (Nat → Node → Bool)) (inv : Inv hf t) (hr : t.hash.isSome) :
    FailStopOK hf (find hf t k acc) :=
  .of hf (find_spec hf k acc inv hr) (find_FS hf t k acc)

theorem erase_failstop {t : HT} (k e : Nat) (inv : Inv hf t) (hr : t.hash.isSome)
    (hkey : ∀ n ∈ nodes t, n.id = e → n.key = k) : FailStopOK hf (erase hf t k e) :=
  .of hf (erase_spec hf k e inv hr hkey) (erase_FS hf t k e)

theorem resize_failstop (oracle : Nat → Bool) {t : HT} (n : Nat) (f : Option HashId) (inv : Inv hf t) :
    FailStopOK hf (resize hf oracle t n f) :=
  .of hf (resize_spec hf oracle n f inv) (resize_FS hf oracle t n f)

theorem rehash_failstop {t : HT} (inv : Inv hf t) : FailStopOK hf (rehash hf t) :=
  .of hf (rehash_spec hf inv) (rehash_FS hf t)

theorem shrink_failstop (oracle : Nat → Bool) {t : HT} (inv : Inv hf t) : FailStopOK hf (shrink hf oracle t) :=
  .of hf (shrink_spec hf oracle inv) (shrink_FS hf oracle t)

theorem foreach_failstop (visit : Nat → Node → Int × Bool) {t : HT} (inv : Inv hf t) :
    FailStopOK hf (foreach hf t visit) :=
  .of hf (foreach_spec hf visit inv) (foreach_FS hf t visit)

theorem foreachConst_failstop (visit : Nat → Node → Int) {t : HT} (inv : Inv hf t) :
    FailStopOK hf (foreachConst hf t visit) :=
  .of hf (foreachConst_spec hf visit inv) (foreachConst_FS hf t visit)

theorem clear_failstop (withCb : Bool) {t : HT} (inv : Inv hf t) : FailStopOK hf (clear hf t withCb) :=
  .of hf (clear_spec hf withCb inv) (clear_FS hf t withCb)

/-- a function that always answers `m` (out of range): the lookup on the (settled,
empty) example table `t1` aborts -/
example : (find (fun _ _ m => m) Ex.t1 3 none).val = .error .abort := rfl

/-- an in-range run: no abort, and the verdict structure is inhabited on the pending table -/
example : FailStopOK Ex.hf0 (find Ex.hf0 Ex.tPending 5 none) ∧ ∃ r, (find Ex.hf0 Ex.tPending 5 none).val = .ok r :=
  ⟨find_failstop Ex.hf0 5 none Ex.tPending_inv rfl, _, rfl⟩

/-- **History level**: along every history inside the documented domain, for an
arbitrary hash-function family, the library never touches memory outside a
bucket array and never calls through NULL; the history stops with `abort`
exactly when a consulted hash result was out of range. -/
theorem run_failstop (ops : List Op) (hv : ValidFrom hf Sys.init ops) : FailStopOK hf (run hf Sys.init ops) :=
  .of hf (run_refines hf ops hv) (run_FS hf ops Sys.init)

/-- **In-range families never abort**: for every history inside the documented
domain the run returns, the invariant holds and every answer is the one the
multiset specification prescribes (C03/C04 without the `abort` alternative).
`cstl_hash_div` and `cstl_hash_mul` are in range by part a of C17. -/
theorem run_total_in_range (hr : InRange hf) (ops : List Op) (hv : ValidFrom hf Sys.init ops) :
    ∃ r, (run hf Sys.init ops).val = .ok r ∧ SysInv hf r.1 ∧ SpecRun (absOf Sys.init) ops r.2 (absOf r.1) := by
  obtain ⟨r, h1, h2⟩ := returns_of_in_range hf hr (run_refines hf ops hv) (run_FS hf ops Sys.init)
  exact ⟨r, h1, h2.1⟩

/-- the family of the examples (`k mod m` / `(k/2) mod m` / constant 0) is in range -/
example : InRange Ex.hf0 := by
  intro f k m hm
  unfold Ex.hf0
  split
  · exact Nat.mod_lt _ (by omega)
  · split
    · exact Nat.mod_lt _ (by omega)
    · omega

end Cstl.Hash
