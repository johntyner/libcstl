import Cstl.Hash.Examples
/-
C03 — Hash lookups stay exact while the table is incrementally rehashed.

`hf` is an arbitrary hash-function family (no in-range
assumption); `R.Spec m P` reads: `m` returns a value that with the trace of the
run satisfies `P`, or stops with `abort` (which C17 ties to an out-of-range
hash result), and every hash call it logged asked for a table size ≥ 1 — it
never reads or writes outside the bucket array and never goes through NULL.
The abstract specification is the multiset `nodes t` of (key, id) nodes.
-/
namespace Cstl.Hash

variable (hf : HashId → Nat → Nat → Nat)

/-- **insert**: the element is added to the multiset, nothing else changes; the
invariant (nodes new-placed or old-placed in a dirty bucket, clean buckets hold
only new-placed nodes, distinct identities, size = number of nodes, geometry
within capacity) is preserved — whatever stage a pending rehash is in. -/
theorem insert_exact {t : HT} (k e : Nat) (inv : Inv hf t) (hr : t.hash.isSome)
    (hfresh : ∀ n ∈ nodes t, n.id ≠ e) :
    (insert hf t k e).Spec (fun _ t' => Inv hf t' ∧
      List.Perm (nodes t') ({ key := k, id := e } :: nodes t) ∧ t'.size = t.size + 1) :=
  (insert_spec hf k e inv hr hfresh).mono (fun _ _ h => ⟨h.1, h.2.1, h.2.2.1⟩)

example : (insert Ex.hf0 Ex.tPending 7 13).Spec (fun _ t' => Inv Ex.hf0 t' ∧
    List.Perm (nodes t') ({ key := 7, id := 13 } :: nodes Ex.tPending) ∧ t'.size = 4) :=
  insert_exact Ex.hf0 7 13 Ex.tPending_inv rfl (by simp [nodes, Ex.tPending])

/-- **find**: the multiset is unchanged; only live elements with the key are
offered to the visit function, each at most once; the answer is the accepted
one; if none is accepted all of them were offered; without a visit function
some element with the key is returned (none only if there is none). -/
theorem find_exact {t : HT} (k : Nat) (acc : Option (Nat → Node → Bool)) (inv : Inv hf t) (hr : t.hash.isSome) :
    (find hf t k acc).Spec (fun _ r => Inv hf r.1 ∧ List.Perm (nodes r.1) (nodes t) ∧ r.1.size = t.size ∧
      ∃ cands, List.Perm cands ((nodes t).filter (fun n => n.key = k)) ∧ FindOK acc cands r.2.1 r.2.2) :=
  (find_spec hf k acc inv hr).mono (fun _ _ h => ⟨h.1, h.2.1, h.2.2.1, h.2.2.2.2⟩)

example : (find Ex.hf0 Ex.tPending 5 (some (fun _ _ => false))).Spec (fun _ r =>
    Inv Ex.hf0 r.1 ∧ List.Perm (nodes r.1) (nodes Ex.tPending) ∧ r.1.size = 3 ∧
    ∃ cands, List.Perm cands ((nodes Ex.tPending).filter (fun n => n.key = 5)) ∧
      FindOK (some (fun _ _ => false)) cands r.2.1 r.2.2) :=
  find_exact Ex.hf0 5 _ Ex.tPending_inv rfl

/-- what `FindOK` means for the caller: every offer is a live element with the
key, no element is offered twice; a returned element is live and has the key;
nothing returned and nothing accepted ⇒ every live element with the key was
offered; no visit function and nothing returned ⇒ no live element has the key -/
theorem find_answers {t : HT} (inv : Inv hf t) {k : Nat} {acc : Option (Nat → Node → Bool)}
    {cands offers : List Node} {r : Option Node}
    (hc : List.Perm cands ((nodes t).filter (fun n => n.key = k))) (ok : FindOK acc cands r offers) :
    (∀ n ∈ offers, n ∈ nodes t ∧ n.key = k) ∧ (offers.map (·.id)).Nodup ∧
    (∀ n, r = some n → n ∈ nodes t ∧ n.key = k) ∧
    (r = none → ∀ n ∈ nodes t, n.key = k → (acc = none → False) ∧ (acc ≠ none → n ∈ offers)) := by
  have hsub : ∀ n ∈ cands, n ∈ nodes t ∧ n.key = k := by
    intro n hn
    have := hc.subset hn
    simpa using this
  have hcn : (cands.map (·.id)).Nodup :=
    (hc.map _).nodup_iff.mpr (List.Nodup.sublist ((List.filter_sublist).map _) inv.nodup)
  refine ⟨fun n hn => hsub n (ok.pre.subset hn), List.Nodup.sublist (ok.pre.sublist.map _) hcn, ?_, ?_⟩
  · intro n hn
    cases acc with
    | none =>
      have := (ok.noVisit rfl).2
      rw [hn] at this
      exact hsub n (List.mem_of_mem_head? this.symm)
    | some f =>
      have := (ok.accepted f rfl n hn).1
      exact hsub n (ok.pre.subset (List.mem_of_getLast? this))
  · intro hr n hn hk
    have hnc : n ∈ cands := hc.symm.subset (by simpa using ⟨hn, hk⟩)
    refine ⟨fun ha => ?_, fun ha => ?_⟩
    · have := (ok.noVisit ha).2
      rw [hr] at this
      have : cands = [] := List.head?_eq_none_iff.mp this.symm
      rw [this] at hnc; simp at hnc
    · cases acc with
      | none => exact absurd rfl ha
      | some f => rw [ok.all f rfl hr]; exact hnc

/-- **erase** removes exactly the object passed (`k` = what its key field holds)
and is a no-op for an object that is not in the table -/
theorem erase_exact {t : HT} (k e : Nat) (inv : Inv hf t) (hr : t.hash.isSome)
    (hkey : ∀ n ∈ nodes t, n.id = e → n.key = k) :
    (erase hf t k e).Spec (fun _ t' => Inv hf t' ∧
      ((∀ n ∈ nodes t, n.id ≠ e) → List.Perm (nodes t') (nodes t) ∧ t'.size = t.size) ∧
      (∀ n ∈ nodes t, n.id = e → List.Perm (nodes t) (n :: nodes t') ∧ t'.size + 1 = t.size)) :=
  (erase_spec hf k e inv hr hkey).mono (fun _ _ h => ⟨h.1, h.2.2.1, h.2.2.2.1⟩)

example : (erase Ex.hf0 Ex.tPending 5 11).Spec (fun _ t' => Inv Ex.hf0 t' ∧
    ((∀ n ∈ nodes Ex.tPending, n.id ≠ 11) → List.Perm (nodes t') (nodes Ex.tPending) ∧ t'.size = 3) ∧
    (∀ n ∈ nodes Ex.tPending, n.id = 11 → List.Perm (nodes Ex.tPending) (n :: nodes t') ∧ t'.size + 1 = 3)) :=
  erase_exact Ex.hf0 5 11 Ex.tPending_inv rfl (by simp [nodes, Ex.tPending])

/-- the reported size is the number of live elements -/
theorem size_exact {t : HT} (inv : Inv hf t) : t.sizeOf = (nodes t).length := inv.size_eq

/-- **resize** (grow, shrink, other function, also while an earlier one is
pending; every allocation outcome) keeps the multiset and the invariant; a
request that cannot be satisfied leaves the table undisturbed -/
theorem resize_exact (oracle : Nat → Bool) {t : HT} (n : Nat) (f : Option HashId) (inv : Inv hf t) :
    (resize hf oracle t n f).Spec (fun _ t' => Inv hf t' ∧ List.Perm (nodes t') (nodes t) ∧ t'.size = t.size ∧
      (¬ Satisfiable oracle t n → t' = t)) :=
  (resize_spec hf oracle n f inv).mono (fun _ _ h => ⟨h.1, h.2.1, h.2.2.1, h.2.2.2.2⟩)

example : (resize Ex.hf0 Ex.yes Ex.tPending 3 none).Spec (fun _ t' => Inv Ex.hf0 t' ∧
    List.Perm (nodes t') (nodes Ex.tPending) ∧ t'.size = 3 ∧ (¬ Satisfiable Ex.yes Ex.tPending 3 → t' = Ex.tPending)) :=
  resize_exact Ex.hf0 Ex.yes 3 none Ex.tPending_inv

/-- forced **rehash** keeps the multiset, ends with no rehash pending -/
theorem rehash_exact {t : HT} (inv : Inv hf t) :
    (rehash hf t).Spec (fun _ t' => Inv hf t' ∧ List.Perm (nodes t') (nodes t) ∧ t'.size = t.size ∧
      t'.rhHash = none) :=
  (rehash_spec hf inv).mono (fun _ _ h => ⟨h.inv, h.perm, h.size, h.settled⟩)

/-- **shrink-to-fit** keeps the multiset (every allocation outcome) -/
theorem shrink_exact (oracle : Nat → Bool) {t : HT} (inv : Inv hf t) :
    (shrink hf oracle t).Spec (fun _ t' => Inv hf t' ∧ List.Perm (nodes t') (nodes t) ∧ t'.size = t.size) :=
  (shrink_spec hf oracle inv).mono (fun _ _ h => ⟨h.1, h.2.1, h.2.2.1⟩)

/-- every operation preserves the system invariant (two tables, element key
fields) and acts on the multisets as the specification says -/
theorem step_inv {s : Sys} (si : SysInv hf s) (op : Op) (hv : Valid s op) :
    (step hf s op).Spec (fun _ r => SysInv hf r.1 ∧ SpecStep (absOf s) (absOf r.1) op r.2) :=
  (step_refines hf si op hv).mono (fun _ _ h => h.1)

/-- **History theorem**: for every history of insert / find / erase / resize /
rehash / shrink / swap / foreach / foreach_const / clear on two tables from
their initial state that stays inside the documented domain — every key set,
every sequence of bucket counts and hash functions, every visit function,
every allocation outcome, every `hf` — the run either stops with `abort` or
ends in a state satisfying the invariant, having answered every operation as
the multiset specification prescribes. -/
theorem run_exact (ops : List Op) (hv : ValidFrom hf Sys.init ops) :
    (run hf Sys.init ops).Spec (fun _ r => SysInv hf r.1 ∧ SpecRun (absOf Sys.init) ops r.2 (absOf r.1)) :=
  (run_refines hf ops hv).mono (fun _ _ h => h.1)

/-- hence the invariant holds in every reachable state -/
theorem run_inv (ops : List Op) (hv : ValidFrom hf Sys.init ops) {r : Sys × List Out}
    (h : (run hf Sys.init ops).val = .ok r) : Inv hf r.1.a ∧ Inv hf r.1.b :=
  let si := ((run_refines hf ops hv).of_ok h).1.1
  ⟨si.ia, si.ib⟩

/-- the hypotheses of the history theorem are satisfiable (here: first resize,
insert, lookup without a visit function) -/
example : ∃ ops : List Op, ValidFrom Ex.hf0 Sys.init ops ∧ ops.length = 3 := by
  refine ⟨[.resize false 2 (some 1) Ex.yes, .insert false 1 10, .find false 1 none], ?_, rfl⟩
  refine ⟨trivial, fun s1 o1 h1 => ?_⟩
  have e1 : (step Ex.hf0 Sys.init (.resize false 2 (some 1) Ex.yes)).val =
      .ok ({ a := Ex.t1, b := HT.init, key := fun _ => 0 }, .unit) := rfl
  rw [e1] at h1; cases h1
  refine ⟨⟨rfl, by simp [nodes, Ex.t1], by simp [nodes, HT.init]⟩, fun s2 o2 h2 => ?_⟩
  have e2 : (step Ex.hf0 { a := Ex.t1, b := HT.init, key := fun _ => 0 } (.insert false 1 10)).val =
      .ok ({ a := Ex.t2, b := HT.init, key := fun x => if x = 10 then 1 else 0 }, .unit) := rfl
  rw [e2] at h2; cases h2
  exact ⟨rfl, fun _ _ _ => trivial⟩

end Cstl.Hash
