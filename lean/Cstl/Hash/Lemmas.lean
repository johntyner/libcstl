import Cstl.Hash.Model
namespace Cstl.Hash

@[simp] theorem Tr.append_calls (a b : Tr) : (a.append b).calls = a.calls ++ b.calls := rfl
@[simp] theorem Tr.append_reloc (a b : Tr) : (a.append b).reloc = a.reloc + b.reloc := rfl
@[simp] theorem Tr.append_evs (a b : Tr) : (a.append b).evs = a.evs ++ b.evs := rfl
@[simp] theorem Tr.empty_calls : ({} : Tr).calls = [] := rfl
@[simp] theorem Tr.empty_reloc : ({} : Tr).reloc = 0 := rfl
@[simp] theorem Tr.empty_evs : ({} : Tr).evs = [] := rfl

theorem Tr.ext' {a b : Tr} (h1 : a.calls = b.calls) (h2 : a.reloc = b.reloc) (h3 : a.evs = b.evs) : a = b := by
  cases a; cases b; simp_all

@[simp] theorem Tr.empty_append (a : Tr) : Tr.append {} a = a := by
  apply Tr.ext' <;> simp
@[simp] theorem Tr.append_empty (a : Tr) : Tr.append a {} = a := by
  apply Tr.ext' <;> simp

theorem Tr.append_assoc (a b c : Tr) : (a.append b).append c = a.append (b.append c) := by
  apply Tr.ext' <;> simp [List.append_assoc, Nat.add_assoc]

theorem bind_def {α β : Type} (m : R α) (f : α → R β) : (m >>= f) = R.bind m f := rfl
theorem pure_def {α : Type} (a : α) : (pure a : R α) = R.pure a := rfl

@[simp] theorem pure_val {α : Type} (a : α) : (pure a : R α).val = .ok a := rfl
@[simp] theorem pure_tr {α : Type} (a : α) : (pure a : R α).tr = {} := rfl
@[simp] theorem stop_val {α : Type} (e : Stop) : (stop e : R α).val = .error e := rfl
@[simp] theorem stop_tr {α : Type} (e : Stop) : (stop e : R α).tr = {} := rfl

theorem bind_ok {α β : Type} {m : R α} {f : α → R β} {a : α} (h : m.val = .ok a) :
    (m >>= f).val = (f a).val ∧ (m >>= f).tr = m.tr.append (f a).tr := by
  simp [bind_def, R.bind, h]

theorem bind_err {α β : Type} {m : R α} {f : α → R β} {e : Stop} (h : m.val = .error e) :
    (m >>= f).val = .error e ∧ (m >>= f).tr = m.tr := by
  simp [bind_def, R.bind, h]

@[simp] theorem R_pure_bind {α β : Type} (a : α) (f : α → R β) : (pure a >>= f) = f a := by
  show ({ tr := Tr.append {} (f a).tr, val := (f a).val } : R β) = f a
  rw [Tr.empty_append]

theorem R_bind_assoc {α β γ : Type} (m : R α) (f : α → R β) (g : β → R γ) :
    (m >>= f >>= g) = (m >>= fun a => f a >>= g) := by
  show R.bind (R.bind m f) g = R.bind m (fun a => R.bind (f a) g)
  unfold R.bind
  cases m.val with
  | error e => rfl
  | ok a =>
    simp only
    cases (f a).val with
    | error e => rfl
    | ok b => simp only [Tr.append_assoc]

def R.Ret {α : Type} (m : R α) (tr : Tr) (a : α) : Prop := m.val = .ok a ∧ m.tr = tr

theorem bind_val_ok {α β : Type} {m : R α} {f : α → R β} {b : β} :
    (m >>= f).val = .ok b ↔ ∃ a, m.val = .ok a ∧ (f a).val = .ok b := by
  cases h : m.val with
  | ok a => simp [(bind_ok (f := f) h).1]
  | error e => simp [(bind_err (f := f) h).1]

theorem bind_val_err {α β : Type} {m : R α} {f : α → R β} {e : Stop} :
    (m >>= f).val = .error e ↔ m.val = .error e ∨ ∃ a, m.val = .ok a ∧ (f a).val = .error e := by
  cases h : m.val with
  | ok a => simp [(bind_ok (f := f) h).1]
  | error e' => simp [(bind_err (f := f) h).1]

/-- Partial-correctness-with-fail-stop triple: every hash function call the
operation made (also when it stops) was made with a table size `m ≥ 1`, and the
operation either returns a value satisfying `P` (together with its trace) or
stops with `abort`; it never answers `oob` / `nullDeref`.  The bound on the
logged sizes is part of the triple because `returns_of_in_range` needs it: an
in-range family is only asked to be in range for `m ≥ 1`. -/
def R.Spec {α : Type} (m : R α) (P : Tr → α → Prop) : Prop :=
  (∀ c ∈ m.tr.calls, 1 ≤ c.m) ∧
  match m.val with
  | .ok a => P m.tr a
  | .error e => e = .abort

theorem R.Spec.pure {α : Type} {a : α} {P : Tr → α → Prop} (h : P {} a) : (Pure.pure a : R α).Spec P :=
  ⟨by simp, h⟩

theorem R.Spec.pos {α : Type} {m : R α} {P : Tr → α → Prop} (hm : m.Spec P) : ∀ c ∈ m.tr.calls, 1 ≤ c.m := hm.1

theorem R.Spec.bind {α β : Type} {m : R α} {f : α → R β} {P : Tr → α → Prop} {Q : Tr → β → Prop}
    (hm : m.Spec P) (hf' : ∀ tr a, P tr a → (f a).Spec (fun tr' b => Q (tr.append tr') b)) :
    (m >>= f).Spec Q := by
  obtain ⟨hpos, hm⟩ := hm
  unfold R.Spec
  cases h : m.val with
  | ok a =>
    rw [h] at hm
    have hb := bind_ok (f := f) h
    obtain ⟨hpos2, this⟩ := hf' _ _ hm
    rw [hb.1, hb.2]
    refine ⟨?_, ?_⟩
    · intro c hc
      simp only [Tr.append_calls, List.mem_append] at hc
      rcases hc with hc | hc
      · exact hpos c hc
      · exact hpos2 c hc
    · exact this
  | error e =>
    rw [h] at hm
    rw [(bind_err (f := f) h).1, (bind_err (f := f) h).2]; exact ⟨hpos, hm⟩

/-- `R.Spec` without the `match` -/
theorem R.spec_iff {α : Type} {m : R α} {P : Tr → α → Prop} :
    m.Spec P ↔ (∀ c ∈ m.tr.calls, 1 ≤ c.m) ∧ (∀ a, m.val = .ok a → P m.tr a) ∧
      ∀ e, m.val = .error e → e = .abort := by
  unfold R.Spec
  cases m.val <;> simp

theorem R.Spec.mono {α : Type} {m : R α} {P Q : Tr → α → Prop} (hm : m.Spec P) (h : ∀ tr a, P tr a → Q tr a) :
    m.Spec Q :=
  have ⟨p, o, e⟩ := R.spec_iff.1 hm
  R.spec_iff.2 ⟨p, fun a ha => h _ _ (o a ha), e⟩

theorem R.Spec.of_ok {α : Type} {m : R α} {P : Tr → α → Prop} (hm : m.Spec P) {a : α} (h : m.val = .ok a) :
    P m.tr a := (R.spec_iff.1 hm).2.1 a h

theorem R.Spec.not_fault {α : Type} {m : R α} {P : Tr → α → Prop} (hm : m.Spec P) :
    m.val ≠ .error .oob ∧ m.val ≠ .error .nullDeref :=
  ⟨fun h => Stop.noConfusion ((R.spec_iff.1 hm).2.2 _ h), fun h => Stop.noConfusion ((R.spec_iff.1 hm).2.2 _ h)⟩

theorem R.Spec.with_val {α : Type} {m : R α} {P : Tr → α → Prop} (hm : m.Spec P) :
    m.Spec (fun tr a => P tr a ∧ m.val = .ok a) :=
  have ⟨p, o, e⟩ := R.spec_iff.1 hm
  R.spec_iff.2 ⟨p, fun a ha => ⟨o a ha, ha⟩, e⟩

theorem R.Spec.and_pos {α : Type} {m : R α} {P : Tr → α → Prop} (hm : m.Spec P) :
    m.Spec (fun tr a => P tr a ∧ ∀ c ∈ tr.calls, 1 ≤ c.m) :=
  have ⟨p, o, e⟩ := R.spec_iff.1 hm
  R.spec_iff.2 ⟨p, fun a ha => ⟨o a ha, p⟩, e⟩

def R.Ok {α : Type} (m : R α) (Q : α → Prop) : Prop := ∀ a, m.val = .ok a → Q a

theorem R.Ok.pure {α : Type} {a : α} {Q : α → Prop} (h : Q a) : (Pure.pure a : R α).Ok Q := by
  intro a' ha; simp at ha; subst ha; exact h

theorem R.Ok.bind {α β : Type} {m : R α} {f : α → R β} {P : α → Prop} {Q : β → Prop}
    (hm : m.Ok P) (hf' : ∀ a, P a → (f a).Ok Q) : (m >>= f).Ok Q := by
  intro b hb
  obtain ⟨a, ha, hfa⟩ := bind_val_ok.mp hb
  exact hf' a (hm a ha) b hfa

theorem R.Ok.bind_any {α β : Type} {m : R α} {f : α → R β} {Q : β → Prop} (h : ∀ a, (f a).Ok Q) : (m >>= f).Ok Q :=
  R.Ok.bind (P := fun _ => True) (fun _ _ => trivial) (fun a _ => h a)

theorem R.Ok.ite {α : Type} {c : Prop} [Decidable c] {a b : R α} {Q : α → Prop} (ha : a.Ok Q) (hb : b.Ok Q) :
    (if c then a else b).Ok Q := by
  split
  · exact ha
  · exact hb

section failstop
variable (hf : HashId → Nat → Nat → Nat)

def Call.bad (c : Call) : Prop := c.m ≤ hf c.fn c.key c.m

/-- `abort` iff some consulted hash result was out of range -/
def R.FailStop {α : Type} (m : R α) : Prop :=
  (m.val = .error .abort ↔ ∃ c ∈ m.tr.calls, Call.bad hf c)

theorem R.FailStop.pure {α : Type} (a : α) : (Pure.pure a : R α).FailStop hf := by
  simp [R.FailStop]

theorem R.FailStop.stop_ne {α : Type} {e : Stop} (h : e ≠ .abort) : (stop e : R α).FailStop hf := by
  simp [R.FailStop, h]

theorem R.FailStop.bind {α β : Type} {m : R α} {f : α → R β}
    (hm : m.FailStop hf) (hf' : ∀ a, (f a).FailStop hf) : (m >>= f).FailStop hf := by
  unfold R.FailStop at hm ⊢
  cases h : m.val with
  | ok a =>
    have hb := bind_ok (f := f) h
    rw [hb.1, hb.2]
    have h1 := hf' a
    rw [h] at hm
    have hno : ¬ ∃ c ∈ m.tr.calls, Call.bad hf c := by
      intro hc; have := hm.2 hc; simp at this
    constructor
    · intro hab
      obtain ⟨c, hc, hbad⟩ := h1.1 hab
      exact ⟨c, by simp [hc], hbad⟩
    · rintro ⟨c, hc, hbad⟩
      simp at hc
      rcases hc with hc | hc
      · exact absurd ⟨c, hc, hbad⟩ hno
      · exact h1.2 ⟨c, hc, hbad⟩
  | error e =>
    have hb := bind_err (f := f) h
    rw [hb.1, hb.2]
    rw [h] at hm
    simpa using hm

theorem R.FailStop.of_noCalls {α : Type} {m : R α} (hc : m.tr.calls = []) (hv : m.val ≠ .error .abort) : m.FailStop hf := by
  unfold R.FailStop
  rw [hc]
  simp [hv]

theorem R.FailStop.ite {α : Type} {c : Prop} [Decidable c] {a b : R α} (ha : a.FailStop hf) (hb : b.FailStop hf) :
    (if c then a else b).FailStop hf := by
  split
  · exact ha
  · exact hb

/-- a hash-function family that honours its contract: a value in `[0, m)` for every `m ≥ 1` -/
def InRange : Prop := ∀ f k m, 1 ≤ m → hf f k m < m

/-- with an in-range family an operation that satisfies a fail-stop triple does
not stop at all: it returns, and the postcondition holds -/
theorem returns_of_in_range {α : Type} {m : R α} {P : Tr → α → Prop} (hr : InRange hf) (hs : m.Spec P)
    (hfs : m.FailStop hf) : ∃ a, m.val = .ok a ∧ P m.tr a := by
  cases hv : m.val with
  | ok a => exact ⟨a, rfl, hs.of_ok hv⟩
  | error e =>
    have he := (R.spec_iff.1 hs).2.2 e hv
    subst he
    obtain ⟨c, hc, hbad⟩ := hfs.mp hv
    have := hr c.fn c.key c.m (hs.pos c hc)
    unfold Call.bad at hbad
    omega

end failstop

theorem eff_settled {t : HT} (h : t.rhHash = none) : t.effCount = t.count ∧ t.effHash = t.hash := by
  simp [HT.effCount, HT.effHash, h]

theorem eff_pending {t : HT} (h : t.rhHash.isSome) : t.effCount = t.rhCount ∧ t.effHash = t.rhHash := by
  simp [HT.effCount, HT.effHash, h]

theorem effHash_isSome {t : HT} (hr : t.hash.isSome) : t.effHash.isSome := by
  by_cases h : t.rhHash.isSome
  · rw [(eff_pending h).2]; exact h
  · rw [(eff_settled (by simpa using h)).2]; exact hr

theorem eff_congr {t t' : HT} (h1 : t'.rhHash = t.rhHash) (h2 : t'.rhCount = t.rhCount) (h3 : t'.count = t.count)
    (h4 : t'.hash = t.hash) : t'.effCount = t.effCount ∧ t'.effHash = t.effHash := by
  simp [HT.effCount, HT.effHash, h1, h2, h3, h4]

theorem eff_settle {t t' : HT} (hs : t'.rhHash = none) (hc : t'.count = t.effCount) (hh : t'.hash = t.effHash) :
    t'.effCount = t.effCount ∧ t'.effHash = t.effHash := by
  rw [(eff_settled hs).1, (eff_settled hs).2]; exact ⟨hc, hh⟩

/-- all nodes of the table, bucket by bucket -/
def nodes (t : HT) : List Node := t.bk.toList.flatMap (·.chain)

theorem nodes_congr {t t' : HT} (h : t'.bk = t.bk) : nodes t' = nodes t := by simp [nodes, h]

theorem mem_nodes {t : HT} {n : Node} :
    n ∈ nodes t ↔ ∃ (i : Nat) (b : Bucket), t.bk[i]? = some b ∧ n ∈ b.chain := by
  unfold nodes
  simp only [List.mem_flatMap]
  constructor
  · rintro ⟨b, hb, hn⟩
    obtain ⟨i, hi, rfl⟩ := List.getElem_of_mem hb
    refine ⟨i, t.bk.toList[i], ?_, hn⟩
    simp at hi
    simp [hi]
  · rintro ⟨i, b, hb, hn⟩
    refine ⟨b, ?_, hn⟩
    have := Array.mem_of_getElem? hb
    simpa using this

theorem chain_sublist_nodes {t : HT} {i : Nat} {b : Bucket} (hb : t.bk[i]? = some b) :
    b.chain.Sublist (nodes t) := by
  have hmem : b ∈ t.bk.toList := by
    have := Array.mem_of_getElem? hb
    simpa using this
  unfold nodes
  generalize t.bk.toList = l at hmem
  induction l with
  | nil => simp at hmem
  | cons x xs ih =>
    simp only [List.flatMap_cons]
    rcases List.mem_cons.mp hmem with rfl | h
    · exact List.sublist_append_left _ _
    · exact (ih h).trans (List.sublist_append_right _ _)

theorem flatMap_set_perm {α β : Type} (f : α → List β) :
    ∀ (l : List α) (i : Nat) (a : α) (h : i < l.length),
      List.Perm ((l.set i a).flatMap f ++ f l[i]) (l.flatMap f ++ f a)
  | [], i, a, h => by simp at h
  | x :: xs, 0, a, _ => by
    simp only [List.set_cons_zero, List.flatMap_cons, List.getElem_cons_zero]
    -- f a ++ rest ++ f x ~ f x ++ rest ++ f a
    have h1 : List.Perm (f a ++ xs.flatMap f ++ f x) (f x ++ (f a ++ xs.flatMap f)) := List.perm_append_comm
    have h2 : List.Perm (f a ++ xs.flatMap f) (xs.flatMap f ++ f a) := List.perm_append_comm
    exact h1.trans (by simpa using (List.Perm.append_left (f x) h2))
  | x :: xs, i + 1, a, h => by
    simp only [List.set_cons_succ, List.flatMap_cons, List.getElem_cons_succ, List.append_assoc]
    exact List.Perm.append_left (f x) (flatMap_set_perm f xs i a (by simpa using h))

theorem nodes_wr_perm {t : HT} {i : Nat} {b b' : Bucket} (h : t.bk[i]? = some b) :
    List.Perm (nodes (wr t i b') ++ b.chain) (nodes t ++ b'.chain) := by
  have hi : i < t.bk.toList.length := by
    have := (Array.getElem?_eq_some_iff.mp h).1
    simpa using this
  have hb : t.bk.toList[i] = b := by
    have := (Array.getElem?_eq_some_iff.mp h).2
    simpa using this
  have := flatMap_set_perm (fun b : Bucket => b.chain) t.bk.toList i b' hi
  rw [hb] at this
  simpa [nodes, wr] using this

theorem nodes_pushHead_perm {t : HT} {j : Nat} {b : Bucket} (n : Node) (h : t.bk[j]? = some b) :
    List.Perm (nodes (wr t j { b with chain := n :: b.chain })) (n :: nodes t) := by
  have hw := nodes_wr_perm (b' := { b with chain := n :: b.chain }) h
  have h4 : List.Perm (nodes t ++ n :: b.chain) ((n :: nodes t) ++ b.chain) := by
    exact List.perm_middle
  exact (List.perm_append_right_iff b.chain).mp (hw.trans h4)

theorem nodes_unlink_perm {t : HT} {j : Nat} {b : Bucket} {n : Node} {c : List Node} (h : t.bk[j]? = some b)
    (hp : List.Perm b.chain (n :: c)) : List.Perm (nodes t) (n :: nodes (wr t j { b with chain := c })) := by
  have hw := nodes_wr_perm (b' := { b with chain := c }) h
  have h1 : List.Perm ((n :: nodes (wr t j { b with chain := c })) ++ c) (nodes t ++ c) :=
    (List.perm_middle.symm.trans (List.Perm.append_left _ hp.symm)).trans hw
  exact ((List.perm_append_right_iff c).mp h1).symm

end Cstl.Hash
