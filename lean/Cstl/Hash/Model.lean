/-
Executable model of src/hash.c (separate chaining, incremental rehash driven by
per-bucket / table-wide "clean" bits and a sweep index), as repaired by the
`fix:` commits for defects #2, #3, #4 and #12 of DESIGN section 5.

* The bucket array `bucket.at` is `bk : Array Bucket`; `bucket.capacity` is its
  size and `bucket.at == NULL` is "size 0" (the C code changes pointer and
  capacity only together: init, `__cstl_hash_set_capacity`, clear).
* The hash functions are ONE uninterpreted parameter
  `hf : HashId → Nat → Nat → Nat` with no in-range assumption: an out-of-range
  result stops the operation with `abort` exactly where
  `__cstl_hash_get_bucket` checks it.
* Every operation runs in the trace monad `R`: besides its result it reports the
  hash-function calls it made (in order, also when it stops), the number of
  buckets whose chain was detached and re-inserted, and its realloc/free
  requests.  `Stop.oob` / `Stop.nullDeref` are what the model answers where the C
  code would read or write outside the bucket array / call or read through NULL.
* Allocation is a parameter: `oracle bytes = true` iff `realloc` succeeds.

Core Lean only (the driver links this file).
-/
namespace Cstl.Hash

abbrev HashId := Nat

/-- what `cstl_hash_resize(h, n, NULL)` installs on a table that has no hash
function yet: `cstl_hash_mul` -/
def mulId : HashId := 0

inductive Stop where
  | abort      -- abort(): the documented fail-stop
  | oob        -- access outside the bucket array
  | nullDeref  -- call / access through a NULL pointer
deriving DecidableEq, Repr, Inhabited

/-- `struct cstl_hash_node` seen from outside: the key it was inserted with and
the identity (address) of the element it is embedded in -/
structure Node where
  key : Nat
  id : Nat
deriving DecidableEq, Repr, Inhabited

/-- `struct cstl_hash_bucket`: chain (head first) and the bucket's clean bit -/
structure Bucket where
  chain : List Node
  cst : Bool
deriving DecidableEq, Repr, Inhabited

/-- one call of a hash function: which one, key, table size it was given -/
structure Call where
  fn : HashId
  key : Nat
  m : Nat
deriving DecidableEq, Repr, Inhabited

inductive AllocEv where
  | realloc (bytes : Nat) (ok : Bool)
  | free
deriving DecidableEq, Repr, Inhabited

/-- what an operation did besides computing its result -/
structure Tr where
  calls : List Call := []
  reloc : Nat := 0
  evs : List AllocEv := []
deriving DecidableEq, Repr, Inhabited

def Tr.append (a b : Tr) : Tr :=
  { calls := a.calls ++ b.calls, reloc := a.reloc + b.reloc, evs := a.evs ++ b.evs }

/-- result of a model operation: the trace up to the point where it returned
or stopped, and the value or the stop kind -/
structure R (α : Type) where
  tr : Tr
  val : Except Stop α

namespace R
def pure {α : Type} (a : α) : R α := { tr := {}, val := .ok a }
def bind {α β : Type} (m : R α) (f : α → R β) : R β :=
  match m.val with
  | .ok a => { tr := m.tr.append (f a).tr, val := (f a).val }
  | .error e => { tr := m.tr, val := .error e }
end R

instance : Monad R where
  pure := R.pure
  bind := R.bind

def stop {α : Type} (e : Stop) : R α := { tr := {}, val := .error e }
def logCall (c : Call) : R Unit := { tr := { calls := [c] }, val := .ok () }
def tickReloc : R Unit := { tr := { reloc := 1 }, val := .ok () }
def logEv (e : AllocEv) : R Unit := { tr := { evs := [e] }, val := .ok () }

/-- `struct cstl_hash` (the `off` member is constant and not modelled) -/
structure HT where
  bk : Array Bucket            -- bucket.at / bucket.capacity
  count : Nat                  -- bucket.count
  hash : Option HashId         -- bucket.hash (none = NULL)
  cst : Bool                   -- bucket.cst
  rhHash : Option HashId       -- bucket.rh.hash (some = a rehash is pending)
  rhCount : Nat                -- bucket.rh.count
  clean : Nat                  -- bucket.rh.clean (sweep index)
  size : Nat                   -- count (number of elements)
deriving DecidableEq, Repr, Inhabited

/-- `cstl_hash_init` -/
def HT.init : HT :=
  { bk := #[], count := 0, hash := none, cst := false, rhHash := none, rhCount := 0, clean := 0, size := 0 }

def HT.capacity (t : HT) : Nat := t.bk.size
def HT.pending (t : HT) : Bool := t.rhHash.isSome

/-- geometry the table is heading for: what `cstl_hash_load` divides by -/
def HT.effCount (t : HT) : Nat := if t.rhHash.isSome then t.rhCount else t.count
def HT.effHash (t : HT) : Option HashId := if t.rhHash.isSome then t.rhHash else t.hash

/-- `cstl_hash_size` -/
def HT.sizeOf (t : HT) : Nat := t.size

/-- `cstl_hash_load` as the pair (numerator, denominator) of the float division -/
def HT.load (t : HT) : Nat × Nat := (t.size, t.effCount)

/-- read `bucket.at[i]` -/
def rd (t : HT) (i : Nat) : R Bucket :=
  match t.bk[i]? with
  | some b => pure b
  | none => if t.bk.size = 0 then stop .nullDeref else stop .oob

/-- write `bucket.at[i]` (only used after `rd t i` succeeded) -/
def wr (t : HT) (i : Nat) (b : Bucket) : HT := { t with bk := t.bk.setIfInBounds i b }

section
variable (hf : HashId → Nat → Nat → Nat)

/-- `__cstl_hash_get_bucket(h, k, hash, count)`: the bucket index, after the range check -/
def getBucket (f : Option HashId) (k m : Nat) : R Nat :=
  match f with
  | none => stop .nullDeref
  | some fn => do
    logCall { fn := fn, key := k, m := m }
    if m ≤ hf fn k m then stop .abort else pure (hf fn k m)

/-- `HASH_LIST_INSERT(bk->n, n)` -/
def pushHead (t : HT) (j : Nat) (n : Node) : R HT := do
  let b ← rd t j
  pure (wr t j { b with chain := n :: b.chain })

/-- the loop of `cstl_clean_bucket`: every node of the detached chain, in chain
order, goes to the head of its bucket under the pending geometry -/
def reinsert (t : HT) : List Node → R HT
  | [] => pure t
  | n :: ns => do
    let j ← getBucket hf t.rhHash n.key t.rhCount
    let t' ← pushHead t j n
    reinsert t' ns

/-- `cstl_clean_bucket(h, &h->bucket.at[i])` -/
def cleanBucket (t : HT) (i : Nat) : R HT := do
  let b ← rd t i
  if b.cst = t.cst then pure t
  else do
    let t1 := wr t i { b with chain := [] }
    let t2 ← reinsert hf t1 b.chain
    tickReloc
    let b2 ← rd t2 i
    pure (wr t2 i { b2 with cst := t.cst })

/-- first loop of `__cstl_hash_rehash`: skip over already-cleaned buckets.
Called with `d = count - clean`, so `d = 0` means `clean ≥ count`. -/
def skipClean (t : HT) : Nat → R HT
  | 0 => pure t
  | d + 1 =>
    if t.clean < t.count then do
      let b ← rd t t.clean
      if b.cst = t.cst then skipClean { t with clean := t.clean + 1 } d else pure t
    else pure t

/-- second loop of `__cstl_hash_rehash`: clean up to `n` buckets (`none` = SIZE_MAX).
Called with `d = count - clean`. -/
def sweep (t : HT) (n : Option Nat) : Nat → R HT
  | 0 => pure t
  | d + 1 =>
    if t.clean < t.count ∧ n ≠ some 0 then do
      let t' ← cleanBucket hf t t.clean
      sweep { t' with clean := t'.clean + 1 } (n.map (· - 1)) d
    else pure t

/-- `__cstl_hash_rehash(h, n)` -/
def rehashN (t : HT) (n : Option Nat) : R HT := do
  let t1 ← skipClean t (t.count - t.clean)
  let t2 ← sweep hf t1 n (t1.count - t1.clean)
  if t2.count ≤ t2.clean then
    pure { t2 with count := t2.rhCount, hash := t2.rhHash, rhHash := none }
  else pure t2

/-- `cstl_hash_rehash` -/
def rehash (t : HT) : R HT :=
  if t.rhHash.isSome then rehashN hf t none else pure t

/-- `cstl_hash_get_bucket(h, k)`: clean the key's old bucket, its new bucket,
sweep one more, use the new one -/
def keyed (t : HT) (k : Nat) : R (HT × Nat) := do
  let i ← getBucket hf t.hash k t.count
  if t.rhHash.isSome then do
    let j ← getBucket hf t.rhHash k t.rhCount
    let t1 ← cleanBucket hf t i
    let t2 ← cleanBucket hf t1 j
    let t3 ← rehashN hf t2 (some 1)
    pure (t3, j)
  else pure (t, i)

/-- `cstl_hash_insert(h, k, e)` -/
def insert (t : HT) (k e : Nat) : R HT := do
  let (t1, j) ← keyed hf t k
  let t2 ← pushHead t1 j { key := k, id := e }
  pure { t2 with size := t2.size + 1 }

/-- the chain walk of `cstl_hash_find`: nodes with the key are offered to the
visit function (`accept idx node`, `idx` = number of offers made before) until
one is accepted; without a visit function the first one is returned.
Result: (found, offers in order). -/
def findWalk (k : Nat) (accept : Option (Nat → Node → Bool)) : List Node → List Node → Option Node × List Node
  | [], offers => (none, offers.reverse)
  | n :: ns, offers =>
    if n.key = k then
      match accept with
      | none => (some n, offers.reverse)
      | some acc =>
        if acc offers.length n then (some n, (n :: offers).reverse)
        else findWalk k accept ns (n :: offers)
    else findWalk k accept ns offers

/-- `cstl_hash_find(h, k, visit, p)` -/
def find (t : HT) (k : Nat) (accept : Option (Nat → Node → Bool)) : R (HT × Option Node × List Node) := do
  let (t1, j) ← keyed hf t k
  let b ← rd t1 j
  pure (t1, findWalk k accept b.chain [])

/-- unlink the first node whose element is `e` (pointer identity) -/
def unlink (e : Nat) : List Node → Option (List Node)
  | [] => none
  | n :: ns => if n.id = e then some ns else (unlink e ns).map (n :: ·)

/-- `cstl_hash_erase(h, e)`; `k` is what the element's key field holds -/
def erase (t : HT) (k e : Nat) : R HT := do
  let (t1, j) ← keyed hf t k
  let b ← rd t1 j
  match unlink e b.chain with
  | some c => pure { wr t1 j { b with chain := c } with size := t1.size - 1 }
  | none => pure t1

/-- what a successful `realloc` to `sz` buckets does to the array: the first
`min sz size` buckets are kept; added memory is uninitialised in C (the code
never reads it before `cstl_hash_resize` has initialised it), here empty. -/
def resizeArr (a : Array Bucket) (sz : Nat) : Array Bucket :=
  if sz ≤ a.size then a.extract 0 sz
  else a ++ Array.replicate (sz - a.size) { chain := [], cst := false }

/-- `__cstl_hash_set_capacity(h, sz)`, repaired (defect #12): a bucket byte
count that does not fit `size_t` is an allocation failure; otherwise `realloc`
is asked for `sizeof(struct cstl_hash_bucket) * sz = (16 * sz) mod 2^64` bytes.
A request for 0 bytes (glibc: frees the array and returns NULL, the stale
pointer would be kept) is answered with `oob`; no operation ever makes it:
`resize_spec` and `shrink_spec` (Hash/Geometry.lean) reach this function with
`1 ≤ sz` only, and their triples exclude `oob`. -/
def setCapacity (oracle : Nat → Bool) (t : HT) (sz : Nat) : R HT :=
  if (2 ^ 64 - 1) / 16 < sz then pure t
  else if sz = 0 then stop .oob
  else do
    let bytes := (16 * sz) % 2 ^ 64
    let ok := oracle bytes
    logEv (.realloc bytes ok)
    if ok then pure { t with bk := resizeArr t.bk sz } else pure t

/-- the bucket-initialisation loop of `cstl_hash_resize`: `at[i] = (NULL, cst)` for `i` in `[lo, lo+d)` -/
def initBuckets (t : HT) (lo : Nat) : Nat → R HT
  | 0 => pure t
  | d + 1 => do
    let _ ← rd t lo
    initBuckets (wr t lo { chain := [], cst := t.cst }) (lo + 1) d

/-- the hash function `cstl_hash_resize` installs: the one given, else the
current one, else `cstl_hash_mul` -/
def pickHash (f cur : Option HashId) : HashId :=
  match f with
  | some g => g
  | none => match cur with
    | some h => h
    | none => mulId

/-- the part of `cstl_hash_resize` after the pending rehash has been forced:
flip the table bit, initialise the added buckets as clean, install the pending
geometry (on the first resize: the geometry itself) -/
def resizeTail (t2 : HT) (n : Nat) (f : Option HashId) : R HT := do
  let t3 := { t2 with cst := !t2.cst }
  let t4 ← initBuckets t3 t3.count (n - t3.count)
  let g := pickHash f t4.hash
  let t5 := { t4 with rhHash := some g, rhCount := n, clean := 0 }
  if t5.hash = none then
    pure { t5 with hash := some g, count := n, rhHash := none }
  else pure t5

/-- `if (count > h->bucket.capacity) __cstl_hash_set_capacity(h, count);` -/
def ensureCapacity (oracle : Nat → Bool) (t : HT) (n : Nat) : R HT :=
  if t.bk.size < n then setCapacity oracle t n else pure t

/-- `cstl_hash_resize(h, n, f)`, repaired (defect #4): the request is compared
with the geometry the table is heading for -/
def resize (oracle : Nat → Bool) (t : HT) (n : Nat) (f : Option HashId) : R HT :=
  if n = 0 then pure t
  else do
    let t1 ← ensureCapacity oracle t n
    if t1.bk.size ≠ 0 ∧ n ≤ t1.bk.size ∧ (n ≠ t1.effCount ∨ (f ≠ none ∧ f ≠ t1.effHash)) then do
      let t2 ← rehash hf t1
      resizeTail t2 n f
    else pure t1

/-- `cstl_hash_shrink_to_fit` -/
def shrink (oracle : Nat → Bool) (t : HT) : R HT :=
  if t.effCount < t.bk.size then do
    let t1 ← rehash hf t
    setCapacity oracle t1 t1.count
  else pure t

/-- state of an enumeration: table, number of callbacks made, elements handed
to the callback (in order), result of the last callback -/
structure Walk where
  t : HT
  idx : Nat
  seen : List Node
  res : Int
deriving Repr

/-- what the visit callback of `cstl_hash_foreach` may do to the table: with
`er` it calls `cstl_hash_erase` on the element it is visiting -/
def visitErase (t : HT) (er : Bool) (n : Node) : R HT :=
  if er then erase hf t n.key n.id else pure t

/-- `cstl_hash_bucket_foreach` under `__cstl_hash_foreach`: the successor is read
before the visit; the callback returns (result, erase-me): with erase-me it
calls `cstl_hash_erase` on the element it is visiting before it returns. -/
def bucketWalk (visit : Nat → Node → Int × Bool) (w : Walk) : List Node → R Walk
  | [] => pure w
  | n :: ns => do
    let t' ← visitErase hf w.t (visit w.idx n).2 n
    let w' : Walk := { t := t', idx := w.idx + 1, seen := n :: w.seen, res := (visit w.idx n).1 }
    if (visit w.idx n).1 ≠ 0 then pure w' else bucketWalk visit w' ns

/-- upper bound of the bucket walk of `__cstl_hash_foreach`, repaired (defect
#2): the pending count while a grow is pending -/
def HT.bound (t : HT) : Nat :=
  if t.rhHash.isSome ∧ t.count < t.rhCount then t.rhCount else t.count

/-- `__cstl_hash_foreach`: buckets `i, i+1, …` while `i < bound` and the result is 0; `d = bound - i` -/
def tableWalk (visit : Nat → Node → Int × Bool) (w : Walk) (i : Nat) : Nat → R Walk
  | 0 => pure w
  | d + 1 =>
    if i < w.t.bound ∧ w.res = 0 then do
      let b ← rd w.t i
      let w' ← bucketWalk hf visit w b.chain
      tableWalk visit w' (i + 1) d
    else pure w

def hforeach (t : HT) (visit : Nat → Node → Int × Bool) : R Walk :=
  tableWalk hf visit { t := t, idx := 0, seen := [], res := 0 } 0 t.bound

/-- `cstl_hash_foreach`: (table, result, visited elements in order) -/
def foreach (t : HT) (visit : Nat → Node → Int × Bool) : R (HT × Int × List Node) := do
  let t1 ← rehash hf t
  let w ← hforeach hf t1 visit
  pure (w.t, w.res, w.seen.reverse)

/-- `cstl_hash_foreach_const`: the callback cannot touch the table -/
def foreachConst (t : HT) (visit : Nat → Node → Int) : R (Int × List Node) := do
  let w ← hforeach hf t (fun i n => (visit i n, false))
  pure (w.res, w.seen.reverse)

/-- the walk of `cstl_hash_clear`: every element is handed to `clr` (which returns nothing) -/
def clearWalk (t : HT) (withCb : Bool) : R Walk :=
  if withCb then hforeach hf t (fun _ _ => (0, false))
  else pure { t := t, idx := 0, seen := [], res := 0 }

/-- `free(h->bucket.at)` -/
def freeArr (t : HT) : R Unit := if t.bk.size ≠ 0 then logEv .free else pure ()

/-- `cstl_hash_clear(h, clr)`, repaired (defect #3: the current hash function
is reset as well).  `withCb = false` is `clr == NULL`.  Returns the emptied
table and the elements handed to `clr`, in order. -/
def clear (t : HT) (withCb : Bool) : R (HT × List Node) := do
  let w ← clearWalk hf t withCb
  freeArr t
  pure ({ w.t with bk := #[], count := 0, hash := none, rhHash := none, size := 0 }, w.seen.reverse)

end

end Cstl.Hash
