import Cstl.Hash.Ops
import Cstl.Hash.Run
/-
A keyed operation touches at most three buckets: every other bucket keeps its
chain as a suffix of its new chain (nodes relocated into it are put in
front).  Purely structural: holds on every table state, for every `hf`.
-/
namespace Cstl.Hash

variable (hf : HashId → Nat → Nat → Nat)

def Keeps (t t' : HT) (S : List Nat) : Prop :=
  ∀ (j : Nat) (b : Bucket), j ∉ S → t.bk[j]? = some b → ∃ b', t'.bk[j]? = some b' ∧ b.chain <:+ b'.chain

theorem Keeps.refl (t : HT) (S : List Nat) : Keeps t t S :=
  fun _ b _ hb => ⟨b, hb, List.suffix_refl _⟩

theorem Keeps.of_bk {t t' : HT} (h : t'.bk = t.bk) (S : List Nat) : Keeps t t' S :=
  fun _ b _ hb => ⟨b, by rw [h]; exact hb, List.suffix_refl _⟩

theorem Keeps.trans {a b c : HT} {S1 S2 : List Nat} (h1 : Keeps a b S1) (h2 : Keeps b c S2) :
    Keeps a c (S1 ++ S2) := by
  intro j ba hj hba
  simp only [List.mem_append, not_or] at hj
  obtain ⟨bb, hbb, s1⟩ := h1 j ba hj.1 hba
  obtain ⟨bc, hbc, s2⟩ := h2 j bb hj.2 hbb
  exact ⟨bc, hbc, s1.trans s2⟩

theorem Keeps.mono {t t' : HT} {S S' : List Nat} (h : Keeps t t' S) (hs : ∀ j, j ∈ S → j ∈ S') : Keeps t t' S' :=
  fun j b hj hb => h j b (fun hm => hj (hs j hm)) hb

theorem rd_Ok (t : HT) (i : Nat) : (rd t i).Ok (fun b => t.bk[i]? = some b) := by
  intro b hb
  unfold rd at hb
  cases h : t.bk[i]? with
  | some b' => simp [h] at hb; rw [hb]
  | none =>
    simp only [h] at hb
    split at hb <;> simp at hb

theorem wr_keeps_other (t : HT) (i : Nat) (b : Bucket) : Keeps t (wr t i b) [i] := by
  intro j bj hj hbj
  simp only [List.mem_singleton] at hj
  refine ⟨bj, ?_, List.suffix_refl _⟩
  rw [wr_get_other hj]; exact hbj

theorem pushHead_keeps (t : HT) (j : Nat) (n : Node) : (pushHead t j n).Ok (fun t' => Keeps t t' []) := by
  refine R.Ok.bind (rd_Ok t j) (fun b hb => R.Ok.pure ?_)
  intro j' bj _ hbj
  by_cases hjj : j' = j
  · subst hjj
    rw [hb] at hbj; cases hbj
    exact ⟨_, wr_get_same hb, List.suffix_cons _ _⟩
  · exact ⟨bj, by rw [wr_get_other hjj]; exact hbj, List.suffix_refl _⟩

theorem reinsert_keeps : ∀ (ns : List Node) (t : HT), (reinsert hf t ns).Ok (fun t' => Keeps t t' [])
  | [], t => R.Ok.pure (Keeps.refl t [])
  | n :: ns, t => by
    rw [reinsert_cons]
    refine R.Ok.bind_any (fun j => ?_)
    refine R.Ok.bind (pushHead_keeps t j n) (fun t1 h1 => ?_)
    intro t2 ht2
    have := (reinsert_keeps ns t1) t2 ht2
    exact (h1.trans this).mono (by simp)

theorem cleanBucket_keeps (t : HT) (i : Nat) : (cleanBucket hf t i).Ok (fun t' => Keeps t t' [i]) := by
  rw [cleanBucket_unfold]
  refine R.Ok.bind (rd_Ok t i) (fun b _ => ?_)
  refine R.Ok.ite (R.Ok.pure (Keeps.refl t _)) ?_
  refine R.Ok.bind (reinsert_keeps hf b.chain _) (fun t2 h2 => ?_)
  refine R.Ok.bind_any (fun _ => ?_)
  refine R.Ok.bind_any (fun b2 => R.Ok.pure ?_)
  have k1 := wr_keeps_other t i { b with chain := [] }
  have k3 := wr_keeps_other t2 i { b2 with cst := t.cst }
  exact ((k1.trans h2).trans k3).mono (by simp)

theorem skipClean_keeps : ∀ (d : Nat) (t : HT), (skipClean t d).Ok (fun t' => t'.bk = t.bk)
  | 0, t => R.Ok.pure rfl
  | d + 1, t => by
    rw [skipClean_succ]
    refine R.Ok.ite ?_ (R.Ok.pure rfl)
    refine R.Ok.bind_any (fun b => ?_)
    refine R.Ok.ite ?_ (R.Ok.pure rfl)
    intro t' ht'
    exact skipClean_keeps d { t with clean := t.clean + 1 } t' ht'

theorem sweep_keeps : ∀ (d : Nat) (t : HT) (k : Nat),
    (sweep hf t (some k) d).Ok (fun t' => ∃ S : List Nat, S.length ≤ k ∧ Keeps t t' S)
  | 0, t, _ => R.Ok.pure ⟨[], by simp, Keeps.refl t []⟩
  | d + 1, t, k => by
    rw [sweep_succ]
    by_cases hc : t.clean < t.count ∧ (some k : Option Nat) ≠ some 0
    · rw [if_pos hc]
      refine R.Ok.bind (cleanBucket_keeps hf t t.clean) (fun t1 h1 => ?_)
      intro t2 ht2
      cases k with
      | zero => exact absurd rfl hc.2
      | succ k =>
        have := sweep_keeps d { t1 with clean := t1.clean + 1 } k t2 (by simpa using ht2)
        obtain ⟨S, hS, hk⟩ := this
        -- `Keeps` reads a table through `.bk` only: re-expanding `hk` lets its `{ t1 with clean := … }` pass for
        -- `t1` (the same step recurs below wherever a scalar member was set)
        have hk' : Keeps t1 t2 S := fun j b hj hb => hk j b hj hb
        exact ⟨t.clean :: S, by simp; omega, (h1.trans hk').mono (by simp)⟩
    · rw [if_neg hc]
      exact R.Ok.pure ⟨[], by simp, Keeps.refl t []⟩

theorem rehashN_keeps (t : HT) (k : Nat) :
    (rehashN hf t (some k)).Ok (fun t' => ∃ S : List Nat, S.length ≤ k ∧ Keeps t t' S) := by
  rw [rehashN_unfold]
  refine R.Ok.bind (skipClean_keeps _ t) (fun t1 h1 => ?_)
  refine R.Ok.bind (sweep_keeps hf _ t1 k) (fun t2 h2 => ?_)
  obtain ⟨S, hS, hk⟩ := h2
  have hk1 : Keeps t t2 S := by
    have := (Keeps.of_bk h1 ([] : List Nat)).trans hk
    exact this.mono (by simp)
  refine R.Ok.ite (R.Ok.pure ⟨S, hS, ?_⟩) (R.Ok.pure ⟨S, hS, hk1⟩)
  exact fun j b hj hb => hk1 j b hj hb

theorem keyed_keeps (t : HT) (k : Nat) :
    (keyed hf t k).Ok (fun r => ∃ S : List Nat, S.length ≤ 3 ∧ Keeps t r.1 S ∧ (t.rhHash.isSome → r.2 ∈ S) ∧
      (¬ t.rhHash.isSome → S = [])) := by
  rw [keyed_unfold]
  refine R.Ok.bind_any (fun i => ?_)
  by_cases hp : t.rhHash.isSome
  · rw [if_pos hp]
    refine R.Ok.bind_any (fun j => ?_)
    refine R.Ok.bind (cleanBucket_keeps hf t i) (fun t1 h1 => ?_)
    refine R.Ok.bind (cleanBucket_keeps hf t1 j) (fun t2 h2 => ?_)
    refine R.Ok.bind (rehashN_keeps hf t2 1) (fun t3 h3 => R.Ok.pure ?_)
    obtain ⟨S, hS, hk⟩ := h3
    refine ⟨[i] ++ [j] ++ S, by simp; omega, (h1.trans h2).trans hk, fun _ => by simp, fun h => absurd hp h⟩
  · rw [if_neg hp]
    exact R.Ok.pure ⟨[], by simp, Keeps.refl t [], fun h => absurd h hp, fun _ => rfl⟩

theorem keyed_untouched_buckets (t : HT) (op : KOp) :
    (kstep hf t op).Ok (fun t' => ∃ S : List Nat, S.length ≤ 3 ∧ Keeps t t' S) := by
  cases op with
  | insert k e =>
    show (insert hf t k e).Ok _
    rw [insert_unfold]
    refine R.Ok.bind (keyed_keeps hf t k) (fun r hr => ?_)
    obtain ⟨S, hS, hk, _, _⟩ := hr
    refine R.Ok.bind (pushHead_keeps r.1 r.2 _) (fun t2 h2 => R.Ok.pure ⟨S, hS, ?_⟩)
    have : Keeps t t2 (S ++ []) := hk.trans h2
    exact fun j b hj hb => (this.mono (by simp)) j b hj hb
  | find k acc =>
    show (find hf t k acc >>= fun r => pure r.1).Ok _
    rw [find_unfold]
    refine R.Ok.bind (P := fun r => ∃ S : List Nat, S.length ≤ 3 ∧ Keeps t r.1 S) ?_ (fun r hr => R.Ok.pure hr)
    refine R.Ok.bind (keyed_keeps hf t k) (fun r hr => ?_)
    obtain ⟨S, hS, hk, _, _⟩ := hr
    refine R.Ok.bind_any (fun _ => R.Ok.pure ⟨S, hS, hk⟩)
  | erase k e =>
    show (erase hf t k e).Ok _
    rw [erase_unfold]
    refine R.Ok.bind (keyed_keeps hf t k) (fun r hr => ?_)
    obtain ⟨S, hS, hk, hmem, hnil⟩ := hr
    refine R.Ok.bind_any (fun b => ?_)
    -- the bucket used is one of the (at most three) cleaned ones, or nothing was cleaned
    obtain ⟨S', hl, hsub⟩ : ∃ S' : List Nat, S'.length ≤ 3 ∧ ∀ x, x ∈ S ++ [r.2] → x ∈ S' := by
      by_cases hp : t.rhHash.isSome
      · refine ⟨S, hS, fun x hx => ?_⟩
        rcases List.mem_append.mp hx with h | h
        · exact h
        · rw [List.mem_singleton.mp h]; exact hmem hp
      · exact ⟨[r.2], by simp, fun x hx => by rw [hnil hp] at hx; exact hx⟩
    split
    · have := (hk.trans (wr_keeps_other r.1 r.2 { b with chain := ‹List Node› })).mono hsub
      exact R.Ok.pure ⟨S', hl, fun j bj hj hbj => this j bj hj hbj⟩
    · exact R.Ok.pure ⟨S', hl, hk.mono (fun x hx => hsub x (List.mem_append_left _ hx))⟩

end Cstl.Hash
