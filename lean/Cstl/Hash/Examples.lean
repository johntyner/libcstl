import Cstl.Hash.History
import Cstl.Hash.Progress
/-
Concrete tables used by the non-vacuity examples of the property files: they
are produced by running the model, and their invariant follows from the
theorems (nothing is assumed about them).
-/
namespace Cstl.Hash.Ex

/-- the family of the examples, in range for every id: 1 = k mod m, 2 = (k/2) mod m, every other id constant 0 -/
def hf0 : HashId → Nat → Nat → Nat := fun f k m =>
  if f = 1 then k % m else if f = 2 then (k / 2) % m else 0

def yes : Nat → Bool := fun _ => true

/-- 2 buckets under `k mod m`, elements (1,#10) (5,#11) (2,#12), then a grow to 4
buckets under `(k/2) mod m` is requested: a rehash is pending -/
def tPending : HT :=
  { bk := #[⟨[⟨2, 12⟩], true⟩, ⟨[⟨5, 11⟩, ⟨1, 10⟩], true⟩, ⟨[], false⟩, ⟨[], false⟩],
    count := 2, hash := some 1, cst := false, rhHash := some 2, rhCount := 4, clean := 0, size := 3 }

def t1 : HT := { bk := #[⟨[], true⟩, ⟨[], true⟩], count := 2, hash := some 1, cst := true, rhHash := none,
                 rhCount := 2, clean := 0, size := 0 }
def t2 : HT := { t1 with bk := #[⟨[], true⟩, ⟨[⟨1, 10⟩], true⟩], size := 1 }
def t3 : HT := { t1 with bk := #[⟨[], true⟩, ⟨[⟨5, 11⟩, ⟨1, 10⟩], true⟩], size := 2 }
def t4 : HT := { t1 with bk := #[⟨[⟨2, 12⟩], true⟩, ⟨[⟨5, 11⟩, ⟨1, 10⟩], true⟩], size := 3 }

theorem t1_inv : Inv hf0 t1 :=
  ((resize_spec hf0 yes 2 (some 1) (inv_init hf0)).of_ok (a := t1) rfl).1

theorem t2_inv : Inv hf0 t2 :=
  ((insert_spec hf0 1 10 t1_inv rfl (by simp [nodes, t1])).of_ok (a := t2) rfl).1

theorem t3_inv : Inv hf0 t3 :=
  ((insert_spec hf0 5 11 t2_inv rfl (by simp [nodes, t2, t1])).of_ok (a := t3) rfl).1

theorem t4_inv : Inv hf0 t4 :=
  ((insert_spec hf0 2 12 t3_inv rfl (by simp [nodes, t3, t1])).of_ok (a := t4) rfl).1

theorem tPending_inv : Inv hf0 tPending :=
  ((resize_spec hf0 yes 4 (some 2) t4_inv).of_ok (a := tPending) rfl).1

theorem tPending_pending : tPending.rhHash.isSome ∧ tPending.hash.isSome ∧ tPending.size = 3 := ⟨rfl, rfl, rfl⟩

end Cstl.Hash.Ex
