import Cstl.Hash.Lemmas
/-
The inductive invariant of the hash table and its preservation
by the primitives of src/hash.c: bucket read/write, `__cstl_hash_get_bucket`,
chain-head insertion, `cstl_clean_bucket`, `__cstl_hash_rehash`,
`cstl_hash_get_bucket`.
-/
namespace Cstl.Hash

variable (hf : HashId → Nat → Nat → Nat)

/-- buckets below this index are in use -/
def HT.ubound (t : HT) : Nat := if t.rhHash.isSome then max t.count t.rhCount else t.count

theorem HT.bound_eq_ubound (t : HT) : t.bound = t.ubound := by
  unfold HT.bound HT.ubound
  by_cases h : t.rhHash.isSome
  · by_cases h2 : t.count < t.rhCount
    · simp [h, h2]; omega
    · simp [h, h2]; omega
  · simp [h]

theorem HT.count_le_ubound (t : HT) : t.count ≤ t.ubound := by
  unfold HT.ubound; split <;> omega

theorem HT.rhCount_le_ubound {t : HT} (h : t.rhHash.isSome) : t.rhCount ≤ t.ubound := by
  unfold HT.ubound; simp [h]; omega

structure Geom (t : HT) : Prop where
  cnt_le : t.count ≤ t.bk.size
  unready : t.hash = none → t.count = 0 ∧ t.rhHash = none ∧ t.bk.size = 0
  ready : t.hash.isSome → 1 ≤ t.count
  pend : t.rhHash.isSome → t.hash.isSome ∧ 1 ≤ t.rhCount ∧ t.rhCount ≤ t.bk.size ∧ t.clean ≤ t.count

theorem Geom.ubound_le {t : HT} (g : Geom t) : t.ubound ≤ t.bk.size := by
  unfold HT.ubound
  by_cases h : t.rhHash.isSome
  · have := g.pend h; have := g.cnt_le; simp [h]; omega
  · simp [h]; exact g.cnt_le

/-- where nodes sit and which buckets are clean:
no rehash pending — every node sits in the bucket its key hashes to, in-use
buckets are clean; rehash pending — every node is *new-placed* (bucket given by
the pending geometry) or *old-placed in a dirty bucket*; buckets below the sweep
index and buckets added by the pending geometry are clean; nothing beyond the
buckets in use. -/
structure Placed (t : HT) : Prop where
  beyond : ∀ (i : Nat) (b : Bucket), t.bk[i]? = some b → t.ubound ≤ i → b.chain = []
  settled : t.rhHash = none → ∀ h, t.hash = some h → ∀ (i : Nat) (b : Bucket), t.bk[i]? = some b →
      (i < t.count → b.cst = t.cst) ∧ ∀ n ∈ b.chain, hf h n.key t.count = i
  pending : ∀ g h, t.rhHash = some g → t.hash = some h → ∀ (i : Nat) (b : Bucket), t.bk[i]? = some b →
      ((i < t.clean ∨ (t.count ≤ i ∧ i < t.rhCount)) → b.cst = t.cst) ∧
      ∀ n ∈ b.chain, (i < t.rhCount ∧ hf g n.key t.rhCount = i)
                      ∨ (b.cst ≠ t.cst ∧ i < t.count ∧ hf h n.key t.count = i)

structure Counted (t : HT) : Prop where
  nodup : ((nodes t).map (·.id)).Nodup
  size_eq : t.size = (nodes t).length

structure Inv (t : HT) : Prop extends Geom t, Placed hf t, Counted t

/-- everything but the bucket array is the same -/
structure SameGeom (t t' : HT) : Prop where
  count : t'.count = t.count
  hash : t'.hash = t.hash
  cst : t'.cst = t.cst
  rhHash : t'.rhHash = t.rhHash
  rhCount : t'.rhCount = t.rhCount
  clean : t'.clean = t.clean
  size : t'.size = t.size
  bksz : t'.bk.size = t.bk.size

theorem SameGeom.refl (t : HT) : SameGeom t t := ⟨rfl, rfl, rfl, rfl, rfl, rfl, rfl, rfl⟩

theorem SameGeom.trans {a b c : HT} (h1 : SameGeom a b) (h2 : SameGeom b c) : SameGeom a c :=
  { count := h2.count.trans h1.count, hash := h2.hash.trans h1.hash, cst := h2.cst.trans h1.cst,
    rhHash := h2.rhHash.trans h1.rhHash, rhCount := h2.rhCount.trans h1.rhCount,
    clean := h2.clean.trans h1.clean, size := h2.size.trans h1.size, bksz := h2.bksz.trans h1.bksz }

theorem SameGeom.geom {t t' : HT} (h : SameGeom t t') (g : Geom t) : Geom t' := by
  constructor
  · rw [h.count, h.bksz]; exact g.cnt_le
  · rw [h.hash, h.count, h.rhHash, h.bksz]; exact g.unready
  · rw [h.hash, h.count]; exact g.ready
  · rw [h.rhHash, h.hash, h.rhCount, h.bksz, h.clean, h.count]; exact g.pend

theorem SameGeom.ubound {t t' : HT} (h : SameGeom t t') : t'.ubound = t.ubound := by
  simp [HT.ubound, h.count, h.rhHash, h.rhCount]

theorem SameGeom.eff {t t' : HT} (h : SameGeom t t') : t'.effCount = t.effCount ∧ t'.effHash = t.effHash :=
  eff_congr h.rhHash h.rhCount h.count h.hash

theorem Counted.of_perm {t t' : HT} (c : Counted t) (hp : List.Perm (nodes t') (nodes t))
    (hs : t'.size = t.size) : Counted t' := by
  constructor
  · exact (hp.map _).nodup_iff.mpr c.nodup
  · rw [hs, c.size_eq, hp.length_eq]

theorem rd_some {t : HT} {i : Nat} {b : Bucket} (h : t.bk[i]? = some b) : rd t i = pure b := by
  simp [rd, h]

theorem rd_spec {t : HT} {i : Nat} (h : i < t.bk.size) :
    (rd t i).Spec (fun tr b => tr = {} ∧ t.bk[i]? = some b) := by
  have : t.bk[i]? = some t.bk[i] := Array.getElem?_eq_getElem h
  rw [rd_some this]
  exact R.Spec.pure ⟨rfl, this⟩

theorem wr_get {t : HT} {i j : Nat} {b : Bucket} :
    (wr t i b).bk[j]? = if i = j then (if i < t.bk.size then some b else none) else t.bk[j]? := by
  simp [wr, Array.getElem?_setIfInBounds]

theorem lt_of_get {t : HT} {i : Nat} {b : Bucket} (h : t.bk[i]? = some b) : i < t.bk.size :=
  (Array.getElem?_eq_some_iff.mp h).1

theorem wr_get_cases {t : HT} {i j : Nat} {b' bj : Bucket} (h : (wr t i b').bk[j]? = some bj) :
    (j = i ∧ bj = b') ∨ (j ≠ i ∧ t.bk[j]? = some bj) := by
  rw [wr_get] at h
  split at h
  · next hij =>
    split at h
    · exact Or.inl ⟨hij.symm, (Option.some.inj h).symm⟩
    · cases h
  · next hij => exact Or.inr ⟨fun e => hij e.symm, h⟩

theorem wr_get_same {t : HT} {i : Nat} {b b' : Bucket} (h : t.bk[i]? = some b) : (wr t i b').bk[i]? = some b' := by
  rw [wr_get]; simp [lt_of_get h]

theorem wr_get_other {t : HT} {i j : Nat} {b' : Bucket} (h : j ≠ i) : (wr t i b').bk[j]? = t.bk[j]? := by
  rw [wr_get]; simp [Ne.symm h]

theorem wr_sameGeom (t : HT) (i : Nat) (b : Bucket) : SameGeom t (wr t i b) :=
  ⟨rfl, rfl, rfl, rfl, rfl, rfl, rfl, by simp [wr]⟩

/-- node `n` is correctly placed in bucket `j` under the geometry the table is heading for -/
def NewOK (t : HT) (j : Nat) (n : Node) : Prop :=
  ∀ g, t.effHash = some g → j < t.effCount ∧ hf g n.key t.effCount = j

variable {hf} in
theorem NewOK.settled {t : HT} {j : Nat} {n : Node} (h : NewOK hf t j n) (hs : t.rhHash = none) {h' : HashId}
    (hh : t.hash = some h') : j < t.count ∧ hf h' n.key t.count = j := by
  have := h h' (by rw [(eff_settled hs).2]; exact hh)
  rwa [(eff_settled hs).1] at this

variable {hf} in
theorem NewOK.pending {t : HT} {j : Nat} {n : Node} (h : NewOK hf t j n) {g : HashId} (hg : t.rhHash = some g) :
    j < t.rhCount ∧ hf g n.key t.rhCount = j := by
  have hp : t.rhHash.isSome := by rw [hg]; rfl
  have := h g (by rw [(eff_pending hp).2]; exact hg)
  rwa [(eff_pending hp).1] at this

variable {hf} in
theorem NewOK.of_settled {t : HT} {j : Nat} {n : Node} (hs : t.rhHash = none) {h' : HashId} (hh : t.hash = some h')
    (h : j < t.count ∧ hf h' n.key t.count = j) : NewOK hf t j n := by
  intro g hg
  rw [(eff_settled hs).2, hh] at hg; cases hg
  rwa [(eff_settled hs).1]

variable {hf} in
theorem NewOK.of_pending {t : HT} {j : Nat} {n : Node} {g : HashId} (hg : t.rhHash = some g)
    (h : j < t.rhCount ∧ hf g n.key t.rhCount = j) : NewOK hf t j n := by
  have hp : t.rhHash.isSome := by rw [hg]; rfl
  intro g' hg'
  rw [(eff_pending hp).2, hg] at hg'; cases hg'
  rwa [(eff_pending hp).1]

variable {hf} in
theorem NewOK.transfer {t t' : HT} {j : Nat} {n : Node} (he : t'.effCount = t.effCount ∧ t'.effHash = t.effHash)
    (h : NewOK hf t j n) : NewOK hf t' j n := by
  unfold NewOK; rw [he.1, he.2]; exact h

variable {hf} in
theorem NewOK.unique {t : HT} {i j : Nat} {n m : Node} (hi : NewOK hf t i n) (hj : NewOK hf t j m)
    (hk : n.key = m.key) (hr : t.hash.isSome) : i = j := by
  obtain ⟨g, hg⟩ := Option.isSome_iff_exists.mp (effHash_isSome hr)
  rw [← (hi g hg).2, ← (hj g hg).2, hk]

theorem HT.effCount_le_ubound (t : HT) : t.effCount ≤ t.ubound := by
  unfold HT.effCount HT.ubound; split <;> omega

variable {hf} in
theorem NewOK.lt_ubound {t : HT} {j : Nat} {n : Node} (hr : t.hash.isSome) (h : NewOK hf t j n) :
    j < t.ubound := by
  obtain ⟨g, hg⟩ := Option.isSome_iff_exists.mp (effHash_isSome hr)
  exact Nat.lt_of_lt_of_le (h g hg).1 t.effCount_le_ubound

/-- the invariant read for one node: it is correctly placed unless, with a rehash pending, the bucket the
geometry being left assigns to it is still dirty -/
theorem Inv.newOK_of_clean {t : HT} (inv : Inv hf t) {i : Nat} {b : Bucket} {n : Node} (hb : t.bk[i]? = some b)
    (hn : n ∈ b.chain)
    (hcl : ∀ g h, t.rhHash = some g → t.hash = some h → ∀ b0, t.bk[hf h n.key t.count]? = some b0 → b0.cst = t.cst) :
    NewOK hf t i n := by
  cases hrh : t.rhHash with
  | none =>
    intro h hh
    rw [(eff_settled hrh).2] at hh; rw [(eff_settled hrh).1]
    refine ⟨Nat.lt_of_not_le fun hle => ?_, (inv.settled hrh h hh i b hb).2 n hn⟩
    rw [inv.beyond i b hb (by simpa [HT.ubound, hrh] using hle)] at hn
    cases hn
  | some g =>
    obtain ⟨h, hh⟩ := Option.isSome_iff_exists.mp (inv.pend (by rw [hrh]; rfl)).1
    rcases (inv.pending g h hrh hh i b hb).2 n hn with h1 | ⟨h1, _, h3⟩
    · exact NewOK.of_pending hrh h1
    · exact absurd (hcl g h hrh hh b (by rw [h3]; exact hb)) h1

/-- Buckets keep their clean bit and only lose nodes or gain correctly placed
ones, or become clean holding only correctly placed nodes: placement is kept. -/
theorem Placed.transfer {t t' : HT} (sg : SameGeom t t') (gm : Geom t) (p : Placed hf t)
    (H : ∀ (j : Nat) (b' : Bucket), t'.bk[j]? = some b' → ∃ b, t.bk[j]? = some b ∧
        ((b'.cst = b.cst ∧ ∀ n ∈ b'.chain, n ∈ b.chain ∨ NewOK hf t j n) ∨
         (b'.cst = t.cst ∧ ∀ n ∈ b'.chain, NewOK hf t j n))) : Placed hf t' := by
  have hub := sg.ubound
  constructor
  · intro j b' hb' hj
    obtain ⟨b, hb, hc⟩ := H j b' hb'
    rw [hub] at hj
    have hbe := p.beyond j b hb hj
    cases hch : b'.chain with
    | nil => rfl
    | cons n ns =>
      have hn : n ∈ b'.chain := by simp [hch]
      have hnew : NewOK hf t j n := by
        rcases hc with ⟨_, hc⟩ | ⟨_, hc⟩
        · rcases hc n hn with h | h
          · simp [hbe] at h
          · exact h
        · exact hc n hn
      have hr : t.hash.isSome := by
        cases hh : t.hash with
        | some x => simp
        | none =>
          have := (gm.unready hh).2.2
          have := lt_of_get hb
          omega
      have := hnew.lt_ubound hr
      omega
  · intro hrh h hh j b' hb'
    rw [sg.rhHash] at hrh; rw [sg.hash] at hh
    obtain ⟨b, hb, hc⟩ := H j b' hb'
    have hs := p.settled hrh h hh j b hb
    rw [sg.count, sg.cst]
    rcases hc with ⟨hc1, hc2⟩ | ⟨hc1, hc2⟩
    · refine ⟨fun hj => by rw [hc1]; exact hs.1 hj, fun n hn => ?_⟩
      rcases hc2 n hn with hm | hm
      · exact hs.2 n hm
      · exact (hm.settled hrh hh).2
    · exact ⟨fun _ => hc1, fun n hn => ((hc2 n hn).settled hrh hh).2⟩
  · intro g h hrh hh j b' hb'
    rw [sg.rhHash] at hrh; rw [sg.hash] at hh
    obtain ⟨b, hb, hc⟩ := H j b' hb'
    have hs := p.pending g h hrh hh j b hb
    rw [sg.count, sg.cst, sg.rhCount, sg.clean]
    rcases hc with ⟨hc1, hc2⟩ | ⟨hc1, hc2⟩
    · refine ⟨fun hj => by rw [hc1]; exact hs.1 hj, fun n hn => ?_⟩
      rcases hc2 n hn with hm | hm
      · rw [hc1]; exact hs.2 n hm
      · exact Or.inl (hm.pending hrh)
    · exact ⟨fun _ => hc1, fun n hn => Or.inl ((hc2 n hn).pending hrh)⟩

theorem getBucket_spec (fn : HashId) (k : Nat) {m : Nat} (hm : 1 ≤ m) :
    (getBucket hf (some fn) k m).Spec
      (fun tr i => tr = { calls := [⟨fn, k, m⟩] } ∧ i = hf fn k m ∧ i < m) := by
  unfold getBucket
  simp only [bind_def, R.bind, logCall]
  by_cases h : m ≤ hf fn k m
  · simp [R.Spec, h, stop, hm]
  · simp only [h, if_false]
    simp [R.Spec, pure_def, R.pure, Tr.append, hm]
    omega

theorem pushHead_spec {t : HT} {j : Nat} {n : Node} (hj : j < t.bk.size) :
    (pushHead t j n).Spec (fun tr t' => tr = {} ∧ ∃ b, t.bk[j]? = some b ∧ t' = wr t j { b with chain := n :: b.chain }) := by
  have hb : t.bk[j]? = some t.bk[j] := Array.getElem?_eq_getElem hj
  unfold pushHead
  rw [rd_some hb]
  simp only [bind_def, R.bind, pure_def, R.pure]
  simp [R.Spec, Tr.append]
  exact ⟨_, hb, rfl⟩

theorem pushHead_bind {β : Type} (t : HT) (j : Nat) (n : Node) (g : HT → R β) :
    (pushHead t j n >>= g) = (rd t j >>= fun b => g (wr t j { b with chain := n :: b.chain })) := by
  unfold pushHead
  rw [R_bind_assoc]
  congr 1
  funext b
  rw [R_pure_bind]

theorem reinsert_cons (t : HT) (n : Node) (ns : List Node) :
    reinsert hf t (n :: ns) =
      (getBucket hf t.rhHash n.key t.rhCount >>= fun j => pushHead t j n >>= fun t' => reinsert hf t' ns) := rfl

theorem reinsert_spec (g : HashId) : ∀ (ns : List Node) (t : HT), t.rhHash = some g → t.rhCount ≤ t.bk.size →
    1 ≤ t.rhCount →
    (reinsert hf t ns).Spec (fun tr t' =>
      SameGeom t t' ∧ (∀ n ∈ ns, hf g n.key t.rhCount < t.rhCount) ∧
      (∀ (j : Nat) (b' : Bucket), t'.bk[j]? = some b' → ∃ b, t.bk[j]? = some b ∧ b'.cst = b.cst ∧
          ∀ n ∈ b'.chain, n ∈ b.chain ∨ (n ∈ ns ∧ hf g n.key t.rhCount = j)) ∧
      List.Perm (nodes t') (ns ++ nodes t) ∧
      tr = { calls := ns.map (fun n => ⟨g, n.key, t.rhCount⟩) })
  | [], t, _, _, _ => by
    simp only [reinsert]
    refine R.Spec.pure ⟨SameGeom.refl t, by simp, ?_, by simp, by simp⟩
    intro j b' hb'
    exact ⟨b', hb', rfl, fun n hn => Or.inl hn⟩
  | n :: ns, t, hg, hle, hone => by
    rw [reinsert_cons, hg]
    refine R.Spec.bind (getBucket_spec hf g n.key hone) ?_
    rintro tr j ⟨rfl, rfl, hlt⟩
    have hj : hf g n.key t.rhCount < t.bk.size := by omega
    refine R.Spec.bind (pushHead_spec hj) ?_
    rintro tr1 t1 ⟨rfl, b, hb, rfl⟩
    have sg1 := wr_sameGeom t (hf g n.key t.rhCount) { b with chain := n :: b.chain }
    have hg1 : (wr t (hf g n.key t.rhCount) { b with chain := n :: b.chain }).rhHash = some g := by
      simpa [wr] using hg
    have hle1 : (wr t (hf g n.key t.rhCount) { b with chain := n :: b.chain }).rhCount ≤
        (wr t (hf g n.key t.rhCount) { b with chain := n :: b.chain }).bk.size := by
      simpa [wr] using hle
    refine (reinsert_spec g ns _ hg1 hle1 hone).mono ?_
    rintro tr2 t2 ⟨sg2, hr2, hp2, hperm2, rfl⟩
    have hrc : (wr t (hf g n.key t.rhCount) { b with chain := n :: b.chain }).rhCount = t.rhCount := by
      simp [wr]
    rw [hrc] at hr2 hp2
    refine ⟨sg1.trans sg2, ?_, ?_, ?_, ?_⟩
    · intro m hm
      rcases List.mem_cons.mp hm with rfl | hm
      · exact hlt
      · exact hr2 m hm
    · intro j' b' hb'
      obtain ⟨b1, hb1, hc1, hm1⟩ := hp2 j' b' hb'
      rcases wr_get_cases hb1 with ⟨rfl, rfl⟩ | ⟨hjj, hb1⟩
      · refine ⟨b, hb, hc1, fun m hm => ?_⟩
        rcases hm1 m hm with h | ⟨h, e⟩
        · exact (List.mem_cons.mp h).symm.imp id (fun e => ⟨by simp [e], by rw [e]⟩)
        · exact Or.inr ⟨List.mem_cons_of_mem _ h, e⟩
      · exact ⟨b1, hb1, hc1, fun m hm => (hm1 m hm).imp_right (fun ⟨h, e⟩ => ⟨List.mem_cons_of_mem _ h, e⟩)⟩
    · refine hperm2.trans ((List.Perm.append_left ns (nodes_pushHead_perm n hb)).trans ?_)
      exact List.perm_middle
    · simp [Tr.append, wr]

theorem cleanBucket_unfold (t : HT) (i : Nat) :
    cleanBucket hf t i = (rd t i >>= fun b =>
      if b.cst = t.cst then pure t
      else (reinsert hf (wr t i { b with chain := [] }) b.chain >>= fun t2 =>
        tickReloc >>= fun _ => rd t2 i >>= fun b2 => pure (wr t2 i { b2 with cst := t.cst }))) := rfl

theorem tickReloc_spec : tickReloc.Spec (fun tr _ => tr = { reloc := 1 }) := by
  simp [R.Spec, tickReloc]

structure CleanStep (t t' : HT) (i : Nat) (tr : Tr) : Prop where
  inv : Inv hf t'
  same : SameGeom t t'
  perm : List.Perm (nodes t') (nodes t)
  clean_i : ∀ b', t'.bk[i]? = some b' → b'.cst = t.cst
  cst_other : ∀ (j : Nat) (b b' : Bucket), t.bk[j]? = some b → t'.bk[j]? = some b' →
      b'.cst = b.cst ∨ (j = i ∧ b'.cst = t.cst)
  reloc_le : tr.reloc ≤ 1
  evs : tr.evs = []
  calls : ∀ c ∈ tr.calls, c.m = t.rhCount

theorem cleanBucket_spec {t : HT} (inv : Inv hf t) {g : HashId} (hg : t.rhHash = some g) {i : Nat}
    (hi : i < t.bk.size) : (cleanBucket hf t i).Spec (fun tr t' => CleanStep hf t t' i tr) := by
  rw [cleanBucket_unfold]
  refine R.Spec.bind (rd_spec hi) ?_
  rintro tr0 b ⟨rfl, hb⟩
  by_cases hc : b.cst = t.cst
  · simp only [hc, if_true]
    refine R.Spec.pure ?_
    refine
      { inv := inv, same := SameGeom.refl t, perm := List.Perm.refl _, clean_i := ?_, cst_other := ?_,
        reloc_le := by simp, evs := by simp, calls := by simp }
    · intro b' hb'; rw [hb] at hb'; cases hb'; exact hc
    · intro j b1 b2 h1 h2; rw [h1] at h2; cases h2; exact Or.inl rfl
  · simp only [hc, if_false]
    have sg1 := wr_sameGeom t i { b with chain := [] }
    have hle : t.rhCount ≤ t.bk.size := (inv.pend (by simp [hg])).2.2.1
    have hg1 : (wr t i { b with chain := [] }).rhHash = some g := hg
    have hle1 : (wr t i { b with chain := [] }).rhCount ≤ (wr t i { b with chain := [] }).bk.size := by
      simpa [wr] using hle
    refine R.Spec.bind (reinsert_spec hf g b.chain _ hg1 hle1 (inv.pend (by simp [hg])).2.1) ?_
    rintro tr1 t2 ⟨sg2, hr2, hp2, hperm2, rfl⟩
    refine R.Spec.bind tickReloc_spec ?_
    rintro tr2 _ rfl
    have hi2 : i < t2.bk.size := by
      have := sg2.bksz; have := sg1.bksz; omega
    refine R.Spec.bind (rd_spec hi2) ?_
    rintro tr3 b2 ⟨rfl, hb2⟩
    refine R.Spec.pure ?_
    have hrc : (wr t i { b with chain := [] }).rhCount = t.rhCount := rfl
    rw [hrc] at hr2 hp2
    have sg3 := wr_sameGeom t2 i { b2 with cst := t.cst }
    have sg : SameGeom t (wr t2 i { b2 with cst := t.cst }) := (sg1.trans sg2).trans sg3
    have hnew : ∀ (j : Nat) (n : Node), n ∈ b.chain → hf g n.key t.rhCount = j → NewOK hf t j n :=
      fun j n hn hj => NewOK.of_pending hg ⟨by rw [← hj]; exact hr2 n hn, hj⟩
    -- bucket `i` is clean and holds only relocated nodes; the others keep their bit and gain relocated nodes
    have hpt : ∀ (j : Nat) (b' : Bucket), (wr t2 i { b2 with cst := t.cst }).bk[j]? = some b' →
        ∃ bj, t.bk[j]? = some bj ∧
          ((j = i ∧ b'.cst = t.cst ∧ ∀ n ∈ b'.chain, NewOK hf t j n) ∨
           (j ≠ i ∧ b'.cst = bj.cst ∧ ∀ n ∈ b'.chain, n ∈ bj.chain ∨ NewOK hf t j n)) := by
      intro j b' hb'
      rcases wr_get_cases hb' with ⟨rfl, rfl⟩ | ⟨hji, hb'⟩
      · obtain ⟨b1, hb1, _, hm1⟩ := hp2 j b2 hb2
        rw [wr_get_same hb] at hb1
        cases hb1
        exact ⟨b, hb, Or.inl ⟨rfl, rfl, fun n hn => ((hm1 n hn).resolve_left (by simp)).elim (hnew j n)⟩⟩
      · obtain ⟨b1, hb1, hc1, hm1⟩ := hp2 j b' hb'
        rw [wr_get_other hji] at hb1
        exact ⟨b1, hb1, Or.inr ⟨hji, hc1, fun n hn => (hm1 n hn).imp_right (fun h => hnew j n h.1 h.2)⟩⟩
    have hplaced : Placed hf (wr t2 i { b2 with cst := t.cst }) :=
      Placed.transfer hf sg inv.toGeom inv.toPlaced fun j b' hb' =>
        (hpt j b' hb').imp fun bj h => ⟨h.1, h.2.symm.imp (fun h => ⟨h.2.1, h.2.2⟩) (fun h => ⟨h.2.1, h.2.2⟩)⟩
    have hperm : List.Perm (nodes (wr t2 i { b2 with cst := t.cst })) (nodes t) := by
      have h1 := nodes_wr_perm (b' := { b2 with cst := t.cst }) hb2
      have h2 : List.Perm (nodes (wr t2 i { b2 with cst := t.cst })) (nodes t2) :=
        (List.perm_append_right_iff b2.chain).mp h1
      have h3 := nodes_wr_perm (b' := { b with chain := [] }) hb
      simp only [List.append_nil] at h3
      -- nodes t1 ++ b.chain ~ nodes t
      exact h2.trans (hperm2.trans (List.perm_append_comm.trans h3))
    refine
      { inv := ⟨sg.geom inv.toGeom, hplaced, inv.toCounted.of_perm hperm sg.size⟩, same := sg, perm := hperm,
        clean_i := ?_, cst_other := ?_, reloc_le := by simp [Tr.append], evs := by simp [Tr.append], calls := ?_ }
    · intro b' hb'
      obtain ⟨bj, hbj, h⟩ := hpt i b' hb'
      rcases h with ⟨_, hcst, _⟩ | ⟨hne, _, _⟩
      · exact hcst
      · exact absurd rfl hne
    · intro j b1 b' h1 h2
      obtain ⟨bj, hbj, h⟩ := hpt j b' h2
      rw [h1] at hbj; cases hbj
      rcases h with ⟨hji, hcst, _⟩ | ⟨_, hcst, _⟩
      · exact Or.inr ⟨hji, hcst⟩
      · exact Or.inl hcst
    · intro c hc
      simp [Tr.append, wr] at hc
      obtain ⟨n, _, rfl⟩ := hc
      rfl

theorem Inv.setClean {t : HT} (inv : Inv hf t) {c : Nat} (hc : c ≤ t.count)
    (hcl : ∀ (i : Nat) (b : Bucket), t.bk[i]? = some b → t.clean ≤ i → i < c → b.cst = t.cst) :
    Inv hf { t with clean := c } := by
  refine ⟨⟨inv.cnt_le, inv.unready, inv.ready, fun h => ?_⟩, ⟨?_, ?_, ?_⟩, ⟨?_, ?_⟩⟩
  · have := inv.pend h; exact ⟨this.1, this.2.1, this.2.2.1, hc⟩
  · exact inv.beyond
  · exact inv.settled
  · intro g h hg hh i b hb
    have := inv.pending g h hg hh i b hb
    refine ⟨fun hi => ?_, this.2⟩
    rcases hi with hi | hi
    · by_cases h' : i < t.clean
      · exact this.1 (Or.inl h')
      · exact hcl i b hb (by omega) hi
    · exact this.1 (Or.inr hi)
  · exact inv.nodup
  · exact inv.size_eq

theorem Inv.adopt {t : HT} (inv : Inv hf t) {g : HashId} (hg : t.rhHash = some g) (hc : t.count ≤ t.clean) :
    Inv hf { t with count := t.rhCount, hash := t.rhHash, rhHash := none } := by
  have hpend := inv.pend (by simp [hg])
  obtain ⟨h, hh⟩ := Option.isSome_iff_exists.mp hpend.1
  have key : ∀ (i : Nat) (b : Bucket), t.bk[i]? = some b →
      (i < t.rhCount → b.cst = t.cst) ∧ ∀ n ∈ b.chain, i < t.rhCount ∧ hf g n.key t.rhCount = i := by
    intro i b hb
    have hp := inv.pending g h hg hh i b hb
    have hcl : i < t.count ∨ i < t.rhCount → b.cst = t.cst := by
      intro hi
      by_cases h1 : i < t.count
      · exact hp.1 (Or.inl (by omega))
      · exact hp.1 (Or.inr ⟨by omega, by omega⟩)
    refine ⟨fun hi => hcl (Or.inr hi), fun n hn => ?_⟩
    rcases hp.2 n hn with h1 | ⟨h1, h2, _⟩
    · exact h1
    · exact absurd (hcl (Or.inl h2)) h1
  refine ⟨⟨?_, ?_, ?_, ?_⟩, ⟨?_, ?_, ?_⟩, ⟨?_, ?_⟩⟩
  · exact hpend.2.2.1
  · intro h'; simp [hg] at h'
  · intro _; exact hpend.2.1
  · intro h'; simp at h'
  · intro i b hb hi
    simp only [HT.ubound, Option.isSome_none] at hi
    apply List.eq_nil_iff_forall_not_mem.mpr
    intro n hn
    have := ((key i b hb).2 n hn).1
    simp at hi
    omega
  · intro _ h' hh' i b hb
    simp only [hg] at hh'; cases hh'
    exact ⟨(key i b hb).1, fun n hn => ((key i b hb).2 n hn).2⟩
  · intro g' h' hg'; simp at hg'
  · exact inv.nodup
  · exact inv.size_eq

/-- the sweep loops only move the sweep index forward and clean buckets -/
structure SweepStep (t t' : HT) : Prop where
  inv : Inv hf t'
  bksz : t'.bk.size = t.bk.size
  count : t'.count = t.count
  hash : t'.hash = t.hash
  cst : t'.cst = t.cst
  rhHash : t'.rhHash = t.rhHash
  rhCount : t'.rhCount = t.rhCount
  size : t'.size = t.size
  clean_ge : t.clean ≤ t'.clean
  perm : List.Perm (nodes t') (nodes t)
  mono : ∀ (j : Nat) (b b' : Bucket), t.bk[j]? = some b → t'.bk[j]? = some b' → b.cst = t.cst → b'.cst = t.cst

theorem SweepStep.refl {t : HT} (inv : Inv hf t) : SweepStep hf t t :=
  ⟨inv, rfl, rfl, rfl, rfl, rfl, rfl, rfl, Nat.le_refl _, List.Perm.refl _,
    fun j b b' h1 h2 h3 => by rw [h1] at h2; cases h2; exact h3⟩

theorem SweepStep.trans {a b c : HT} (h1 : SweepStep hf a b) (h2 : SweepStep hf b c) : SweepStep hf a c := by
  refine ⟨h2.inv, by rw [h2.bksz, h1.bksz], by rw [h2.count, h1.count], by rw [h2.hash, h1.hash],
    by rw [h2.cst, h1.cst], by rw [h2.rhHash, h1.rhHash], by rw [h2.rhCount, h1.rhCount],
    by rw [h2.size, h1.size], Nat.le_trans h1.clean_ge h2.clean_ge, h2.perm.trans h1.perm, ?_⟩
  intro j ba bc ha hc hcl
  have hj : j < b.bk.size := by rw [h1.bksz]; exact lt_of_get ha
  have hb : b.bk[j]? = some b.bk[j] := Array.getElem?_eq_getElem hj
  have := h1.mono j ba _ ha hb hcl
  have := h2.mono j _ bc hb hc (by rw [h1.cst]; exact this)
  rw [← h1.cst]; exact this

theorem skipClean_succ (t : HT) (d : Nat) :
    skipClean t (d + 1) = if t.clean < t.count then
      (rd t t.clean >>= fun b => if b.cst = t.cst then skipClean { t with clean := t.clean + 1 } d else pure t)
      else pure t := rfl

theorem skipClean_spec : ∀ (d : Nat) (t : HT), Inv hf t →
    (skipClean t d).Spec (fun tr t' => tr = {} ∧ SweepStep hf t t' ∧ t'.bk = t.bk)
  | 0, t, inv => R.Spec.pure ⟨rfl, SweepStep.refl hf inv, rfl⟩
  | d + 1, t, inv => by
    rw [skipClean_succ]
    by_cases hc : t.clean < t.count
    · simp only [hc, if_true]
      have hi : t.clean < t.bk.size := Nat.lt_of_lt_of_le hc inv.cnt_le
      refine R.Spec.bind (rd_spec hi) ?_
      rintro tr b ⟨rfl, hb⟩
      by_cases hcl : b.cst = t.cst
      · simp only [hcl, if_true]
        have inv1 : Inv hf { t with clean := t.clean + 1 } := by
          refine inv.setClean hf (by omega) ?_
          intro i b' hb' h1 h2
          have : i = t.clean := by omega
          subst this
          rw [hb] at hb'; cases hb'; exact hcl
        refine (skipClean_spec d _ inv1).mono ?_
        rintro tr t' ⟨rfl, st, hbk⟩
        refine ⟨by simp, ?_, hbk⟩
        have st0 : SweepStep hf t { t with clean := t.clean + 1 } :=
          { SweepStep.refl hf inv with inv := inv1, clean_ge := by simp }
        exact st0.trans hf st
      · simp only [hcl, if_false]
        exact R.Spec.pure ⟨rfl, SweepStep.refl hf inv, rfl⟩
    · simp only [hc, if_false]
      exact R.Spec.pure ⟨rfl, SweepStep.refl hf inv, rfl⟩

theorem CleanStep.toSweep {t t' : HT} {i : Nat} {tr : Tr} (c : CleanStep hf t t' i tr) : SweepStep hf t t' := by
  have sg := c.same
  refine
    { inv := c.inv, bksz := sg.bksz, count := sg.count, hash := sg.hash, cst := sg.cst, rhHash := sg.rhHash,
      rhCount := sg.rhCount, size := sg.size, clean_ge := Nat.le_of_eq sg.clean.symm, perm := c.perm, mono := ?_ }
  intro j b b' hb hb' hcl
  rcases c.cst_other j b b' hb hb' with h | ⟨_, h⟩
  · rw [h]; exact hcl
  · exact h

theorem CleanStep.advance {t t' : HT} {tr : Tr} (c : CleanStep hf t t' t.clean tr)
    (hlt : t.clean < t.count) : SweepStep hf t { t' with clean := t'.clean + 1 } := by
  have st := c.toSweep
  have hcl := c.same.clean
  have hcn := c.same.count
  have inv1 : Inv hf { t' with clean := t'.clean + 1 } := by
    refine c.inv.setClean hf (by omega) ?_
    intro i b' hb' hi1 hi2
    have : i = t.clean := by omega
    subst this
    rw [c.same.cst]; exact c.clean_i b' hb'
  exact { st with inv := inv1, clean_ge := by simp; omega }

theorem sweep_succ (t : HT) (n : Option Nat) (d : Nat) :
    sweep hf t n (d + 1) = if t.clean < t.count ∧ n ≠ some 0 then
      (cleanBucket hf t t.clean >>= fun t' => sweep hf { t' with clean := t'.clean + 1 } (n.map (· - 1)) d)
      else pure t := rfl

/-- result of the second loop of `__cstl_hash_rehash` -/
structure SweepRes (t t' : HT) (n : Option Nat) (d : Nat) (tr : Tr) : Prop where
  step : SweepStep hf t t'
  reloc : tr.reloc ≤ t'.clean - t.clean
  evs : tr.evs = []
  bounded : ∀ k, n = some k → t'.clean ≤ t.clean + k
  progress : t.clean < t.count → n ≠ some 0 → 0 < d → t.clean + 1 ≤ t'.clean
  complete : n = none → t.count - t.clean ≤ d → t'.count ≤ t'.clean
  le_count : t.clean ≤ t.count → t'.clean ≤ t'.count
  calls : ∀ c ∈ tr.calls, c.m = t.rhCount

theorem sweep_spec : ∀ (d : Nat) (t : HT) (n : Option Nat), Inv hf t → t.rhHash.isSome →
    (sweep hf t n d).Spec (fun tr t' => SweepRes hf t t' n d tr)
  | 0, t, n, inv, _ => by
    refine R.Spec.pure ⟨SweepStep.refl hf inv, by simp, by simp, fun k _ => by omega, fun _ _ h => by omega,
      fun _ h => by omega, fun h => h, by simp⟩
  | d + 1, t, n, inv, hp => by
    rw [sweep_succ]
    by_cases hc : t.clean < t.count ∧ n ≠ some 0
    · rw [if_pos hc]
      have hi : t.clean < t.bk.size := Nat.lt_of_lt_of_le hc.1 inv.cnt_le
      obtain ⟨g, hg⟩ := Option.isSome_iff_exists.mp hp
      refine R.Spec.bind (cleanBucket_spec hf inv hg hi) ?_
      intro tr1 t1 cs
      have st1 := cs.advance hf hc.1
      have hp1 : ({ t1 with clean := t1.clean + 1 } : HT).rhHash.isSome := by
        have := st1.rhHash; simp at this; simp [this, hp]
      refine (sweep_spec d _ (n.map (· - 1)) st1.inv hp1).mono ?_
      intro tr2 t2 r
      have hcl1 : t1.clean = t.clean := cs.same.clean
      have hcn1 : t1.count = t.count := cs.same.count
      have hr := r.reloc; have hs := r.step.clean_ge
      simp only at hr hs
      refine ⟨st1.trans hf r.step, ?_, ?_, ?_, ?_, ?_, ?_, ?_⟩
      · have := cs.reloc_le
        simp only [Tr.append_reloc]
        omega
      · simp [cs.evs, r.evs]
      · intro k hk
        subst hk
        have := r.bounded (k - 1) (by simp)
        simp only at this
        have hk0 : k ≠ 0 := by intro h; subst h; exact hc.2 rfl
        omega
      · intro _ _ _; omega
      · intro hn hd
        subst hn
        have := r.complete (by simp) (by simp only; omega)
        exact this
      · intro _
        have := r.le_count (by simp only; omega)
        exact this
      · intro c hc'
        simp only [Tr.append_calls, List.mem_append] at hc'
        rcases hc' with h | h
        · exact cs.calls c h
        · have := r.calls c h
          rw [this]; exact cs.same.rhCount
    · rw [if_neg hc]
      refine R.Spec.pure ⟨SweepStep.refl hf inv, by simp, by simp, fun k _ => by omega, ?_, ?_, fun h => h, by simp⟩
      · intro h1 h2 _; exact absurd ⟨h1, h2⟩ hc
      · intro hn _
        subst hn
        simp at hc
        exact hc

theorem rehashN_unfold (t : HT) (n : Option Nat) :
    rehashN hf t n = (skipClean t (t.count - t.clean) >>= fun t1 =>
      sweep hf t1 n (t1.count - t1.clean) >>= fun t2 =>
        if t2.count ≤ t2.clean then pure { t2 with count := t2.rhCount, hash := t2.rhHash, rhHash := none }
        else pure t2) := rfl

/-- result of `__cstl_hash_rehash(h, n)` on a table with a pending rehash -/
structure RehashRes (t t' : HT) (n : Option Nat) (tr : Tr) : Prop where
  inv : Inv hf t'
  bksz : t'.bk.size = t.bk.size
  cst : t'.cst = t.cst
  size : t'.size = t.size
  perm : List.Perm (nodes t') (nodes t)
  evs : tr.evs = []
  reloc : ∀ k, n = some k → tr.reloc ≤ k
  calls : ∀ c ∈ tr.calls, c.m = t.rhCount
  outcome :
    (t'.rhHash = t.rhHash ∧ t'.count = t.count ∧ t'.hash = t.hash ∧ t'.rhCount = t.rhCount ∧
      t'.clean < t'.count ∧ t.clean ≤ t'.clean ∧ (n ≠ some 0 → t.clean + 1 ≤ t'.clean) ∧ n ≠ none ∧
      (∀ (j : Nat) (b b' : Bucket), t.bk[j]? = some b → t'.bk[j]? = some b' → b.cst = t.cst → b'.cst = t.cst))
    ∨ (t'.rhHash = none ∧ t'.count = t.rhCount ∧ t'.hash = t.rhHash)

/-- the sweep stopped before the end: the geometry is as it was, the sweep index moved on -/
structure StillPending (t t' : HT) (n : Option Nat) : Prop where
  rhHash : t'.rhHash = t.rhHash
  count : t'.count = t.count
  hash : t'.hash = t.hash
  rhCount : t'.rhCount = t.rhCount
  clean_lt : t'.clean < t'.count
  progress : n ≠ some 0 → t.clean + 1 ≤ t'.clean
  budget : n ≠ none
  mono : ∀ (j : Nat) (b b' : Bucket), t.bk[j]? = some b → t'.bk[j]? = some b' → b.cst = t.cst → b'.cst = t.cst

/-- the sweep reached the end: the pending geometry was adopted -/
structure Adopted (t t' : HT) : Prop where
  rhHash : t'.rhHash = none
  count : t'.count = t.rhCount
  hash : t'.hash = t.rhHash

theorem RehashRes.cases {t t' : HT} {n : Option Nat} {tr : Tr} (r : RehashRes hf t t' n tr) :
    StillPending t t' n ∨ Adopted t t' :=
  r.outcome.imp (fun ⟨h1, h2, h3, h4, h5, _, h7, h8, h9⟩ => ⟨h1, h2, h3, h4, h5, h7, h8, h9⟩)
    (fun ⟨h1, h2, h3⟩ => ⟨h1, h2, h3⟩)

theorem RehashRes.eff {t t' : HT} {n : Option Nat} {tr : Tr} (r : RehashRes hf t t' n tr) (hp : t.rhHash.isSome) :
    t'.effCount = t.effCount ∧ t'.effHash = t.effHash := by
  rcases r.cases with o | o
  · exact eff_congr o.rhHash o.rhCount o.count o.hash
  · exact eff_settle o.rhHash (by rw [o.count, (eff_pending hp).1]) (by rw [o.hash, (eff_pending hp).2])

theorem rehashN_spec {t : HT} (n : Option Nat) (inv : Inv hf t) (hp : t.rhHash.isSome) :
    (rehashN hf t n).Spec (fun tr t' => RehashRes hf t t' n tr) := by
  rw [rehashN_unfold]
  refine R.Spec.bind (skipClean_spec hf _ t inv) ?_
  rintro tr1 t1 ⟨rfl, st1, hbk1⟩
  have hp1 : t1.rhHash.isSome := by rw [st1.rhHash]; exact hp
  refine R.Spec.bind (sweep_spec hf _ t1 n st1.inv hp1) ?_
  intro tr2 t2 r
  have st := st1.trans hf r.step
  -- `{} ++ tr2 ++ {}` is the trace `R.Spec.bind` leaves for skip loop, sweep loop and the final `pure`
  have hcalls : ∀ c ∈ (Tr.append (Tr.append {} tr2) {}).calls, c.m = t.rhCount := by
    intro c hc'
    simp only [Tr.append_calls, List.nil_append, List.append_nil] at hc'
    rw [r.calls c hc', st1.rhCount]
  have hreloc : ∀ k, n = some k → tr2.reloc ≤ k := fun k hk => by
    have := r.bounded k hk
    have := r.reloc
    omega
  by_cases hc : t2.count ≤ t2.clean
  · rw [if_pos hc]
    obtain ⟨g, hg⟩ := Option.isSome_iff_exists.mp (show t2.rhHash.isSome by rw [st.rhHash]; exact hp)
    refine R.Spec.pure
      { inv := st.inv.adopt hf hg hc, bksz := st.bksz, cst := st.cst, size := st.size, perm := st.perm,
        evs := by simp [r.evs], reloc := by simpa using hreloc, calls := hcalls, outcome := Or.inr ⟨rfl, ?_, ?_⟩ }
    · simp [st.rhCount]
    · simp [st.rhHash]
  · rw [if_neg hc]
    refine R.Spec.pure
      { inv := st.inv, bksz := st.bksz, cst := st.cst, size := st.size, perm := st.perm,
        evs := by simp [r.evs], reloc := by simpa using hreloc, calls := hcalls,
        outcome := Or.inl ⟨st.rhHash, st.count, st.hash, st.rhCount, by omega, st.clean_ge, ?_, ?_, st.mono⟩ }
    · intro hn
      have h1 : t1.clean < t1.count := by
        have := r.step.clean_ge; have := r.step.count; omega
      have := r.progress h1 hn (by omega)
      have := st1.clean_ge
      omega
    · intro hn
      have := r.complete hn (Nat.le_refl _)
      exact hc this

structure Rehashed (t t' : HT) : Prop where
  inv : Inv hf t'
  settled : t'.rhHash = none
  bksz : t'.bk.size = t.bk.size
  size : t'.size = t.size
  perm : List.Perm (nodes t') (nodes t)
  count : t'.count = t.effCount
  hash : t'.hash = t.effHash

theorem Rehashed.eff {t t' : HT} (r : Rehashed hf t t') :
    t'.effCount = t.effCount ∧ t'.effHash = t.effHash := eff_settle r.settled r.count r.hash

theorem rehash_spec {t : HT} (inv : Inv hf t) : (rehash hf t).Spec (fun _ t' => Rehashed hf t t') := by
  unfold rehash
  by_cases hp : t.rhHash.isSome
  · rw [if_pos hp]
    refine (rehashN_spec hf none inv hp).mono ?_
    intro tr t' r
    rcases r.cases with h | h
    · exact absurd rfl h.budget
    · exact { inv := r.inv, settled := h.rhHash, bksz := r.bksz, size := r.size, perm := r.perm,
              count := by rw [(eff_pending hp).1, h.count], hash := by rw [(eff_pending hp).2, h.hash] }
  · rw [if_neg hp]
    have hn : t.rhHash = none := by simpa using hp
    exact R.Spec.pure
      { inv := inv, settled := hn, bksz := rfl, size := rfl, perm := List.Perm.refl _,
        count := (eff_settled hn).1.symm, hash := (eff_settled hn).2.symm }

theorem keyed_unfold (t : HT) (k : Nat) :
    keyed hf t k = (getBucket hf t.hash k t.count >>= fun i =>
      if t.rhHash.isSome then
        (getBucket hf t.rhHash k t.rhCount >>= fun j => cleanBucket hf t i >>= fun t1 =>
          cleanBucket hf t1 j >>= fun t2 => rehashN hf t2 (some 1) >>= fun t3 => pure (t3, j))
      else pure (t, i)) := rfl

/-- what a keyed operation leaves of the geometry (C19) -/
structure KeyedGeom (t t' : HT) (k : Nat) (tr : Tr) : Prop where
  bksz : t'.bk.size = t.bk.size
  cst : t'.cst = t.cst
  evs : tr.evs = []
  reloc : tr.reloc ≤ 3
  effCount : t'.effCount = t.effCount
  effHash : t'.effHash = t.effHash
  ready : t'.hash.isSome
  pos : ∀ c ∈ tr.calls, 1 ≤ c.m
  settled_case : t.rhHash = none → t'.rhHash = none ∧ t'.count = t.count ∧ t'.hash = t.hash ∧
    ∃ h, t.hash = some h ∧ tr.calls = [⟨h, k, t.count⟩]
  pending_case : t.rhHash.isSome →
    (t'.rhHash = none ∧ t'.count = t.rhCount ∧ t'.hash = t.rhHash) ∨
    (t'.rhHash = t.rhHash ∧ t'.count = t.count ∧ t'.hash = t.hash ∧ t'.rhCount = t.rhCount ∧
      t.clean + 1 ≤ t'.clean ∧ t'.clean < t'.count)

/-- result of a keyed bucket lookup; `geom` is the part C19 speaks of -/
structure KeyedRes (t t' : HT) (k j : Nat) (tr : Tr) : Prop where
  inv : Inv hf t'
  size : t'.size = t.size
  perm : List.Perm (nodes t') (nodes t)
  jlt : j < t'.bk.size
  target : ∀ e, NewOK hf t' j { key := k, id := e }
  allAt : ∀ (i : Nat) (b : Bucket) (n : Node), t'.bk[i]? = some b → n ∈ b.chain → n.key = k → i = j
  geom : KeyedGeom t t' k tr

theorem keyed_spec {t : HT} (k : Nat) (inv : Inv hf t) (hr : t.hash.isSome) :
    (keyed hf t k).Spec (fun tr r => KeyedRes hf t r.1 k r.2 tr) := by
  obtain ⟨h, hh⟩ := Option.isSome_iff_exists.mp hr
  rw [keyed_unfold, hh]
  refine R.Spec.bind (getBucket_spec hf h k (inv.ready (by simp [hh]))) ?_
  rintro tr0 i ⟨rfl, rfl, hilt⟩
  have hisz : hf h k t.count < t.bk.size := Nat.lt_of_lt_of_le hilt inv.cnt_le
  by_cases hp : t.rhHash.isSome
  · rw [if_pos hp]
    obtain ⟨g, hg⟩ := Option.isSome_iff_exists.mp hp
    rw [hg]
    refine R.Spec.bind (getBucket_spec hf g k (inv.pend hp).2.1) ?_
    rintro tr1 j ⟨rfl, rfl, hjlt⟩
    have hpend := inv.pend hp
    have hjsz : hf g k t.rhCount < t.bk.size := Nat.lt_of_lt_of_le hjlt hpend.2.2.1
    refine R.Spec.bind (cleanBucket_spec hf inv hg hisz) ?_
    intro tr2 t1 c1
    have hg1 : t1.rhHash = some g := by rw [c1.same.rhHash]; exact hg
    refine R.Spec.bind (cleanBucket_spec hf c1.inv hg1 (by rw [c1.same.bksz]; exact hjsz)) ?_
    intro tr3 t2 c2
    have sg := c1.same.trans c2.same
    have hp2 : t2.rhHash.isSome := by rw [sg.rhHash]; exact hp
    refine R.Spec.bind (rehashN_spec hf (some 1) c2.inv hp2) ?_
    intro tr4 t3 r
    refine R.Spec.pure ?_
    have hsz3 : t3.bk.size = t.bk.size := by rw [r.bksz, sg.bksz]
    have heff : t3.effCount = t.effCount ∧ t3.effHash = t.effHash :=
      ⟨(r.eff hf hp2).1.trans sg.eff.1, (r.eff hf hp2).2.trans sg.eff.2⟩
    have hr3 : t3.hash.isSome := by
      rcases r.cases with o | o
      · rw [o.hash, sg.hash]; exact hr
      · rw [o.hash, sg.rhHash]; exact hp
    have htarget : ∀ e, NewOK hf t3 (hf g k t.rhCount) { key := k, id := e } :=
      fun e => (NewOK.of_pending hg ⟨hjlt, rfl⟩).transfer heff
    refine
      { inv := r.inv, size := by rw [r.size, sg.size], perm := (r.perm.trans c2.perm).trans c1.perm,
        jlt := by rw [hsz3]; exact hjsz, target := htarget, allAt := ?_,
        geom :=
          { bksz := hsz3, cst := by rw [r.cst, sg.cst], evs := by simp [c1.evs, c2.evs, r.evs], reloc := ?_,
            effCount := heff.1, effHash := heff.2, ready := hr3, pos := ?_,
            settled_case := fun hn => by simp [hn] at hp, pending_case := fun _ => ?_ } }
    · -- a node with the key is correctly placed, hence in the same bucket as `htarget` says: its old bucket was
      -- cleaned first, and neither the second cleaning nor the sweep dirties a bucket
      intro i b n hb hn hk
      refine NewOK.unique (r.inv.newOK_of_clean hf hb hn ?_) (htarget n.id) hk hr3
      intro g' h' hg' hh' b0 hb0
      rcases r.cases with o | o
      · rw [o.hash, sg.hash, hh] at hh'; cases hh'
        rw [o.count, sg.count, hk] at hb0
        have hb1 := Array.getElem?_eq_getElem (c1.same.bksz ▸ hisz : hf h k t.count < t1.bk.size)
        have hb2 := Array.getElem?_eq_getElem (sg.bksz ▸ hisz : hf h k t.count < t2.bk.size)
        rw [r.cst]
        exact o.mono _ _ _ hb2 hb0
          (c2.same.cst ▸ (c2.toSweep hf).mono _ _ _ hb1 hb2 (by rw [c1.clean_i _ hb1, c1.same.cst]))
      · rw [o.rhHash] at hg'; cases hg'
    · have := c1.reloc_le; have := c2.reloc_le; have := r.reloc 1 rfl
      simp; omega
    · -- the first call is made with `count`, every other one with `rhCount`
      intro c hc
      simp only [Tr.append_calls, List.append_nil, List.mem_append, List.mem_singleton] at hc
      rcases hc with rfl | rfl | hc | hc | hc
      · exact inv.ready (by simp [hh])
      · exact hpend.2.1
      · rw [c1.calls c hc]; exact hpend.2.1
      · rw [c2.calls c hc, c1.same.rhCount]; exact hpend.2.1
      · rw [r.calls c hc, sg.rhCount]; exact hpend.2.1
    · rcases r.cases with o | o
      · exact Or.inr ⟨o.rhHash.trans sg.rhHash, o.count.trans sg.count, o.hash.trans sg.hash,
          o.rhCount.trans sg.rhCount, sg.clean ▸ o.progress (by simp), o.clean_lt⟩
      · exact Or.inl ⟨o.rhHash, o.count.trans sg.rhCount, o.hash.trans sg.rhHash⟩
  · rw [if_neg hp]
    have hn : t.rhHash = none := by simpa using hp
    have htarget : ∀ e, NewOK hf t (hf h k t.count) { key := k, id := e } :=
      fun e => NewOK.of_settled hn hh ⟨hilt, rfl⟩
    exact R.Spec.pure
      { inv := inv, size := rfl, perm := List.Perm.refl _, jlt := hisz, target := htarget,
        allAt := fun i b n hb hnn hk =>
          NewOK.unique (inv.newOK_of_clean hf hb hnn (fun g _ hg => by rw [hn] at hg; cases hg)) (htarget n.id) hk hr,
        geom :=
          { bksz := rfl, cst := rfl, evs := by simp, reloc := by simp, effCount := rfl, effHash := rfl,
            ready := by simp [hh], pos := by simpa using inv.ready (by simp [hh]),
            settled_case := fun _ => ⟨hn, rfl, rfl, h, hh, by simp⟩, pending_case := fun hp' => absurd hp' hp } }

end Cstl.Hash
