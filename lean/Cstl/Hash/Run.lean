import Cstl.Hash.Model
/-
The history level of the hash area: two tables and the elements' key fields driven by lists of operations
(`Sys`, `Op`, `step`, `run`), and keyed operations on one table (`KOp`, `kstep`, `krun`).  Definitions only.
-/
namespace Cstl.Hash

variable (hf : HashId → Nat → Nat → Nat)

/-- two hash tables and the memory of the elements' key fields -/
structure Sys where
  a : HT
  b : HT
  key : Nat → Nat

def Sys.init : Sys := { a := HT.init, b := HT.init, key := fun _ => 0 }

def Sys.sel (s : Sys) (tb : Bool) : HT := if tb then s.b else s.a
def Sys.put (s : Sys) (tb : Bool) (t : HT) : Sys := if tb then { s with b := t } else { s with a := t }

/-- the operations named by properties C03 and C04 -/
inductive Op where
  | insert (tb : Bool) (k e : Nat)
  | find (tb : Bool) (k : Nat) (acc : Option (Nat → Node → Bool))
  | erase (tb : Bool) (e : Nat)
  | resize (tb : Bool) (n : Nat) (f : Option HashId) (oracle : Nat → Bool)
  | rehash (tb : Bool)
  | shrink (tb : Bool) (oracle : Nat → Bool)
  | swap
  | foreach (tb : Bool) (visit : Nat → Node → Int × Bool)
  | foreachConst (tb : Bool) (visit : Nat → Node → Int)
  | clear (tb : Bool) (withCb : Bool)

inductive Out where
  | unit
  | found (r : Option Node) (offers : List Node)
  | visited (res : Int) (seen : List Node)

def step (s : Sys) : Op → R (Sys × Out)
  | .insert tb k e => do
    let t ← insert hf (s.sel tb) k e
    pure ({ s.put tb t with key := fun x => if x = e then k else s.key x }, .unit)
  | .find tb k acc => do
    let r ← find hf (s.sel tb) k acc
    pure (s.put tb r.1, .found r.2.1 r.2.2)
  | .erase tb e => do
    let t ← erase hf (s.sel tb) (s.key e) e
    pure (s.put tb t, .unit)
  | .resize tb n f oracle => do
    let t ← resize hf oracle (s.sel tb) n f
    pure (s.put tb t, .unit)
  | .rehash tb => do
    let t ← rehash hf (s.sel tb)
    pure (s.put tb t, .unit)
  | .shrink tb oracle => do
    let t ← shrink hf oracle (s.sel tb)
    pure (s.put tb t, .unit)
  | .swap => pure ({ s with a := s.b, b := s.a }, .unit)
  | .foreach tb visit => do
    let r ← foreach hf (s.sel tb) visit
    pure (s.put tb r.1, .visited r.2.1 r.2.2)
  | .foreachConst tb visit => do
    let r ← foreachConst hf (s.sel tb) visit
    pure (s, .visited r.1 r.2)
  | .clear tb withCb => do
    let r ← clear hf (s.sel tb) withCb
    pure (s.put tb r.1, .visited 0 r.2)

def run (s : Sys) : List Op → R (Sys × List Out)
  | [] => pure (s, [])
  | op :: ops => do
    let r ← step hf s op
    let r' ← run r.1 ops
    pure (r'.1, r.2 :: r'.2)

/-- a keyed operation on one table; `erase` carries what the element's key field holds -/
inductive KOp where
  | insert (k e : Nat)
  | find (k : Nat) (acc : Option (Nat → Node → Bool))
  | erase (k e : Nat)

def KOp.key : KOp → Nat
  | .insert k _ => k
  | .find k _ => k
  | .erase k _ => k

def kstep (t : HT) : KOp → R HT
  | .insert k e => insert hf t k e
  | .find k acc => do
    let r ← find hf t k acc
    pure r.1
  | .erase k e => erase hf t k e

def krun (t : HT) : List KOp → R HT
  | [] => pure t
  | op :: ops => do
    let t' ← kstep hf t op
    krun t' ops

end Cstl.Hash
