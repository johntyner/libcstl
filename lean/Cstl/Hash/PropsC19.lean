import Cstl.Hash.Examples
import Cstl.Hash.Keeps
/-
C19 — Rehash is incremental, finishes in bounded operations, lands where
requested.  Every operation reports (in its trace) the hash calls it made and
the number of buckets whose chain it detached and re-inserted.
-/
namespace Cstl.Hash

variable (hf : HashId → Nat → Nat → Nat)

/-- `cstl_hash_load` is size / (pending count if a rehash is pending, else the
current count), and size is the number of live elements -/
theorem load_spec {t : HT} (inv : Inv hf t) : t.load = ((nodes t).length, t.effCount) := by
  unfold HT.load; rw [inv.size_eq]

/-- **lands where requested**: a resize request for `n ≥ 1` buckets that can be
satisfied (array large enough or `realloc` succeeds) — also one issued while an
earlier resize is still pending, also back to the current count — makes `n`
the count and `f` (else the function the table was heading for, else
`cstl_hash_mul`) the function the table is heading for: `cstl_hash_load`
reports size/`n` immediately. -/
theorem resize_lands (oracle : Nat → Bool) {t : HT} (n : Nat) (f : Option HashId) (inv : Inv hf t)
    (hs : Satisfiable oracle t n) :
    (resize hf oracle t n f).Spec (fun _ t' =>
      t'.effCount = n ∧ t'.effHash = some (reqHash t f) ∧ t'.load = ((nodes t).length, n) ∧ t'.hash.isSome) := by
  refine (resize_spec hf oracle n f inv).mono ?_
  rintro _ t' ⟨i', hp, hsz, hsat, _⟩
  obtain ⟨h1, h2, h3⟩ := hsat hs
  refine ⟨h1, h2, ?_, h3⟩
  unfold HT.load; rw [h1, hsz, inv.size_eq]

/-- defect #4 witness shape: 2 → 4 pending, request 2 (the current count) again -/
example : (resize Ex.hf0 Ex.yes Ex.tPending 2 none).Spec (fun _ t' =>
    t'.effCount = 2 ∧ t'.effHash = some (reqHash Ex.tPending none) ∧ t'.load = ((nodes Ex.tPending).length, 2) ∧
    t'.hash.isSome) :=
  resize_lands Ex.hf0 Ex.yes 2 none Ex.tPending_inv ⟨by omega, Or.inl (by simp [Ex.tPending])⟩

/-- keyed operations, forced rehash and shrink-to-fit keep the geometry the
table is heading for -/
theorem heading_kept_keyed {t : HT} (op : KOp) (inv : Inv hf t) (hr : t.hash.isSome) (hv : KValid t op) :
    (kstep hf t op).Spec (fun _ t' => t'.effCount = t.effCount ∧ t'.effHash = t.effHash) :=
  (kstep_spec hf op inv hr hv).mono (fun _ _ h => ⟨h.2.effCount, h.2.effHash⟩)

theorem heading_kept_rehash {t : HT} (inv : Inv hf t) :
    (rehash hf t).Spec (fun _ t' => t'.effCount = t.effCount ∧ t'.effHash = t.effHash ∧ t'.rhHash = none) := by
  refine (rehash_spec hf inv).mono ?_
  intro _ t' r
  exact ⟨r.eff.1, r.eff.2, r.settled⟩

theorem heading_kept_shrink (oracle : Nat → Bool) {t : HT} (inv : Inv hf t) :
    (shrink hf oracle t).Spec (fun _ t' => t'.effCount = t.effCount ∧ t'.effHash = t.effHash) :=
  (shrink_spec hf oracle inv).mono (fun _ _ h => ⟨h.2.2.2.1, h.2.2.2.2.1⟩)

/-- **once the rehash has finished every lookup consults the hash function
exactly once**, with the bucket count and the function the table was heading
for (= the ones most recently requested, by `resize_lands` and `heading_kept_*`) -/
theorem settled_single_call {t : HT} (op : KOp) (inv : Inv hf t) (hr : t.hash.isSome) (hv : KValid t op)
    (hs : t.rhHash = none) :
    (kstep hf t op).Spec (fun tr t' => ∃ g, t.effHash = some g ∧ tr.calls = [⟨g, op.key, t.effCount⟩] ∧
      t'.rhHash = none ∧ tr.reloc ≤ 3) := by
  refine (kstep_spec hf op inv hr hv).mono ?_
  rintro tr t' ⟨_, g⟩
  obtain ⟨h1, _, _, h, hh, hc⟩ := g.settled_case hs
  refine ⟨h, ?_, ?_, h1, g.reloc⟩
  · rw [(eff_settled hs).2]; exact hh
  · rw [(eff_settled hs).1]; exact hc

example : (kstep Ex.hf0 Ex.t4 (.find 5 none)).Spec (fun tr t' => ∃ g, Ex.t4.effHash = some g ∧
    tr.calls = [⟨g, 5, Ex.t4.effCount⟩] ∧ t'.rhHash = none ∧ tr.reloc ≤ 3) :=
  settled_single_call Ex.hf0 (.find 5 none) Ex.t4_inv rfl trivial rfl

/-- **incremental**: while a rehash is pending a keyed operation relocates the
contents of at most three buckets, makes no allocation request, and either
finishes the rehash (the table is then settled on the pending geometry) or
advances the sweep index by at least one -/
theorem keyed_cost_and_progress {t : HT} (op : KOp) (inv : Inv hf t) (hr : t.hash.isSome) (hv : KValid t op)
    (hp : t.rhHash.isSome) :
    (kstep hf t op).Spec (fun tr t' => tr.reloc ≤ 3 ∧ tr.evs = [] ∧
      ((t'.rhHash = none ∧ t'.count = t.rhCount ∧ t'.hash = t.rhHash) ∨
       (t'.rhHash = t.rhHash ∧ t'.count = t.count ∧ t'.rhCount = t.rhCount ∧ t.clean + 1 ≤ t'.clean))) := by
  refine (kstep_spec hf op inv hr hv).mono ?_
  rintro tr t' ⟨_, g⟩
  refine ⟨g.reloc, g.evs, ?_⟩
  rcases g.pending_case hp with h | ⟨a, b, _, d, e, _⟩
  · exact Or.inl h
  · exact Or.inr ⟨a, b, d, e⟩

example : (kstep Ex.hf0 Ex.tPending (.insert 7 13)).Spec (fun tr t' => tr.reloc ≤ 3 ∧ tr.evs = [] ∧
    ((t'.rhHash = none ∧ t'.count = Ex.tPending.rhCount ∧ t'.hash = Ex.tPending.rhHash) ∨
     (t'.rhHash = Ex.tPending.rhHash ∧ t'.count = Ex.tPending.count ∧ t'.rhCount = Ex.tPending.rhCount ∧
       Ex.tPending.clean + 1 ≤ t'.clean))) :=
  keyed_cost_and_progress Ex.hf0 (.insert 7 13) Ex.tPending_inv rfl (by simp [KValid, nodes, Ex.tPending]) rfl

/-- **The rehash finishes**: with a rehash pending, any `count - clean` keyed
operations (at least one; in particular any `count` of them: no more than there
were buckets) leave the table settled on the requested geometry. -/
theorem rehash_finishes_sharp (ops : List KOp) {t : HT} (inv : Inv hf t) (hr : t.hash.isSome)
    (hv : KValidFrom hf t ops) (hp : t.rhHash.isSome) (h1 : 1 ≤ ops.length) (hlen : t.count - t.clean ≤ ops.length) :
    (krun hf t ops).Spec (fun _ t' => Inv hf t' ∧ t'.rhHash = none ∧ t'.count = t.rhCount ∧ t'.hash = t.rhHash) := by
  induction ops generalizing t with
  | nil => simp at h1
  | cons op ops ih =>
    show (kstep hf t op >>= fun t' => krun hf t' ops).Spec _
    refine R.Spec.bind (R.Spec.with_val (kstep_spec hf op inv hr hv.1)) ?_
    rintro tr t1 ⟨⟨inv1, g⟩, hval⟩
    rcases g.pending_case hp with ⟨a, b, c⟩ | ⟨a, b, c, d, e, f⟩
    · refine (krun_settled hf ops t1 inv1 g.ready (hv.2 t1 hval) a).mono ?_
      rintro tr2 t2 ⟨i2, a2, b2, c2⟩
      exact ⟨i2, a2, by rw [b2, b], by rw [c2, c]⟩
    · have hp1 : t1.rhHash.isSome := by rw [a]; exact hp
      simp only [List.length_cons] at hlen
      refine (ih inv1 g.ready (hv.2 t1 hval) hp1 (by omega) (by omega)).mono ?_
      rintro tr2 t2 ⟨i2, a2, b2, c2⟩
      exact ⟨i2, a2, by rw [b2, d], by rw [c2, a]⟩

/-- **the rehash finishes** after no more keyed operations than there were
buckets: any sequence of at least `count` keyed operations (inserts, finds,
erases, in any mix) issued while a rehash is pending leaves the table settled
on the pending geometry -/
theorem rehash_finishes (ops : List KOp) {t : HT} (inv : Inv hf t) (hr : t.hash.isSome)
    (hv : KValidFrom hf t ops) (hp : t.rhHash.isSome) (hlen : t.count ≤ ops.length) :
    (krun hf t ops).Spec (fun _ t' => Inv hf t' ∧ t'.rhHash = none ∧ t'.count = t.rhCount ∧ t'.hash = t.rhHash) := by
  have h1 : 1 ≤ t.count := inv.ready hr
  exact rehash_finishes_sharp hf ops inv hr hv hp (by omega) (by omega)

example : (krun Ex.hf0 Ex.tPending [.find 1 none, .find 9 none]).Spec (fun _ t' => Inv Ex.hf0 t' ∧ t'.rhHash = none ∧
    t'.count = 4 ∧ t'.hash = some 2) :=
  rehash_finishes Ex.hf0 _ Ex.tPending_inv rfl ⟨trivial, fun _ _ => ⟨trivial, fun _ _ => trivial⟩⟩ rfl (by simp [Ex.tPending])

/-- **no operation does work proportional to the table**: a keyed operation
touches at most three buckets — every bucket outside a set of at most three
indices keeps its chain as a suffix of its new chain (nodes relocated into it
are put in front, nothing is removed or reordered).  Holds on every table
state and for every `hf`. -/
theorem keyed_touches_three (t : HT) (op : KOp) (t' : HT) (h : (kstep hf t op).val = .ok t') :
    ∃ touched : List Nat, touched.length ≤ 3 ∧
      ∀ (j : Nat) (b : Bucket), j ∉ touched → t.bk[j]? = some b → ∃ b', t'.bk[j]? = some b' ∧ b.chain <:+ b'.chain :=
  keyed_untouched_buckets hf t op t' h

example : ∃ t', (kstep Ex.hf0 Ex.tPending (.find 5 none)).val = .ok t' ∧
    ∃ touched : List Nat, touched.length ≤ 3 ∧ ∀ (j : Nat) (b : Bucket), j ∉ touched → Ex.tPending.bk[j]? = some b →
      ∃ b', t'.bk[j]? = some b' ∧ b.chain <:+ b'.chain :=
  ⟨_, rfl, keyed_touches_three Ex.hf0 Ex.tPending (.find 5 none) _ rfl⟩

end Cstl.Hash
