import Cstl.Hash.Ops
import Cstl.Hash.Run
/-
Sequences of keyed operations on one table (for C19): their documented domain (`KValid`, `KValidFrom`), what one
of them does to the geometry (`kstep_spec`), and that a settled table stays settled (`krun_settled`).  The
progress statements themselves are in PropsC19.lean.
-/
namespace Cstl.Hash

variable (hf : HashId → Nat → Nat → Nat)

/-- documented domain of a keyed operation -/
def KValid (t : HT) : KOp → Prop
  | .insert _ e => ∀ n ∈ nodes t, n.id ≠ e
  | .find _ _ => True
  | .erase k e => ∀ n ∈ nodes t, n.id = e → n.key = k

def KValidFrom (t : HT) : List KOp → Prop
  | [] => True
  | op :: ops => KValid t op ∧ ∀ t', (kstep hf t op).val = .ok t' → KValidFrom t' ops

theorem kstep_spec {t : HT} (op : KOp) (inv : Inv hf t) (hr : t.hash.isSome) (hv : KValid t op) :
    (kstep hf t op).Spec (fun tr t' => Inv hf t' ∧ KeyedGeom t t' op.key tr) := by
  cases op with
  | insert k e =>
    exact (insert_spec hf k e inv hr hv).mono (fun tr t' h => ⟨h.1, h.2.2.2⟩)
  | find k acc =>
    refine R.Spec.bind (find_spec hf k acc inv hr) ?_
    rintro tr r ⟨h1, _, _, h4, _⟩
    refine R.Spec.pure ⟨h1, ?_⟩
    have : KeyedGeom t r.1 k (tr.append {}) := by rw [Tr.append_empty]; exact h4
    exact this
  | erase k e =>
    exact (erase_spec hf k e inv hr hv).mono (fun tr t' h => ⟨h.1, h.2.1⟩)

theorem krun_settled : ∀ (ops : List KOp) (t : HT), Inv hf t → t.hash.isSome → KValidFrom hf t ops →
    t.rhHash = none →
    (krun hf t ops).Spec (fun _ t' => Inv hf t' ∧ t'.rhHash = none ∧ t'.count = t.count ∧ t'.hash = t.hash)
  | [], t, inv, _, _, hs => R.Spec.pure ⟨inv, hs, rfl, rfl⟩
  | op :: ops, t, inv, hr, hv, hs => by
    show (kstep hf t op >>= fun t' => krun hf t' ops).Spec _
    refine R.Spec.bind (R.Spec.with_val (kstep_spec hf op inv hr hv.1)) ?_
    rintro tr t1 ⟨⟨inv1, g⟩, hval⟩
    obtain ⟨h1, h2, h3, _⟩ := g.settled_case hs
    refine (krun_settled ops t1 inv1 g.ready (hv.2 t1 hval) h1).mono ?_
    rintro tr2 t2 ⟨i2, a, b, c⟩
    exact ⟨i2, a, by rw [b, h2], by rw [c, h3]⟩

end Cstl.Hash
