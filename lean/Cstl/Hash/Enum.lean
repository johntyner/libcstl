import Cstl.Hash.Geometry
/-
Enumeration (`__cstl_hash_foreach` under foreach / foreach_const / clear)
refines a small list-level specification: `visitList`.
-/
namespace Cstl.Hash

variable (hf : HashId → Nat → Nat → Nat)

/-- (elements handed to the callback in order, result, elements that erased themselves) -/
def visitList (visit : Nat → Node → Int × Bool) : Nat → List Node → List Node × Int × List Node
  | _, [] => ([], 0, [])
  | idx, n :: ns =>
    if (visit idx n).1 ≠ 0 then ([n], (visit idx n).1, if (visit idx n).2 then [n] else [])
    else
      let r := visitList visit (idx + 1) ns
      (n :: r.1, r.2.1, if (visit idx n).2 then n :: r.2.2 else r.2.2)

theorem visitList_cons_stop {visit : Nat → Node → Int × Bool} {idx : Nat} {n : Node} {ns : List Node}
    (h : (visit idx n).1 ≠ 0) :
    visitList visit idx (n :: ns) = ([n], (visit idx n).1, if (visit idx n).2 then [n] else []) := by
  simp [visitList, h]

theorem visitList_cons_go {visit : Nat → Node → Int × Bool} {idx : Nat} {n : Node} {ns : List Node}
    (h : (visit idx n).1 = 0) :
    visitList visit idx (n :: ns) =
      (n :: (visitList visit (idx + 1) ns).1, (visitList visit (idx + 1) ns).2.1,
        if (visit idx n).2 then n :: (visitList visit (idx + 1) ns).2.2 else (visitList visit (idx + 1) ns).2.2) := by
  simp [visitList, h]

theorem visitList_prefix (visit : Nat → Node → Int × Bool) : ∀ (l : List Node) (idx : Nat),
    (visitList visit idx l).1 <+: l ∧ ((visitList visit idx l).2.1 = 0 → (visitList visit idx l).1 = l)
  | [], _ => by simp [visitList]
  | n :: ns, idx => by
    by_cases h : (visit idx n).1 = 0
    · rw [visitList_cons_go h]
      have ih := visitList_prefix visit ns (idx + 1)
      exact ⟨(List.prefix_cons_inj n).mpr ih.1, fun h0 => by rw [ih.2 h0]⟩
    · rw [visitList_cons_stop h]
      exact ⟨by simp, fun h0 => absurd h0 h⟩

theorem visitList_erased_sub (visit : Nat → Node → Int × Bool) : ∀ (l : List Node) (idx : Nat),
    (visitList visit idx l).2.2.Sublist (visitList visit idx l).1
  | [], _ => by simp [visitList]
  | n :: ns, idx => by
    by_cases h : (visit idx n).1 = 0
    · rw [visitList_cons_go h]
      have ih := visitList_erased_sub visit ns (idx + 1)
      by_cases he : (visit idx n).2 = true
      · simp only [he, if_true]; exact ih.cons_cons n
      · simp only [he]; exact ih.cons n
    · rw [visitList_cons_stop h]
      by_cases he : (visit idx n).2 = true
      · simp [he]
      · simp [he]

theorem visitList_results (visit : Nat → Node → Int × Bool) : ∀ (l : List Node) (idx : Nat),
    (∀ (i : Nat) (n : Node), (visitList visit idx l).1[i]? = some n →
        i + 1 < (visitList visit idx l).1.length ∨ (visitList visit idx l).2.1 = 0 → (visit (idx + i) n).1 = 0) ∧
    ((visitList visit idx l).2.1 ≠ 0 → ∃ n, (visitList visit idx l).1.getLast? = some n ∧
        (visit (idx + (visitList visit idx l).1.length - 1) n).1 = (visitList visit idx l).2.1)
  | [], _ => by simp [visitList]
  | n :: ns, idx => by
    by_cases h : (visit idx n).1 = 0
    · rw [visitList_cons_go h]
      obtain ⟨ih1, ih2⟩ := visitList_results visit ns (idx + 1)
      refine ⟨?_, ?_⟩
      · intro i m hm hi
        cases i with
        | zero => simp at hm; subst hm; exact h
        | succ i =>
          simp at hm hi
          have := ih1 i m hm hi
          rw [show idx + (i + 1) = idx + 1 + i by omega]; exact this
      · intro hr
        obtain ⟨m, hm1, hm2⟩ := ih2 hr
        have hne : (visitList visit (idx + 1) ns).1 ≠ [] := by intro h'; rw [h'] at hm1; simp at hm1
        refine ⟨m, by rw [List.getLast?_cons_of_ne_nil hne]; exact hm1, ?_⟩
        simp only [List.length_cons]
        rw [show idx + ((visitList visit (idx + 1) ns).1.length + 1) - 1 = idx + 1 + (visitList visit (idx + 1) ns).1.length - 1 by omega]
        exact hm2
    · rw [visitList_cons_stop h]
      exact ⟨fun i m hm hi => by simp [h] at hi, fun _ => ⟨n, by simp, by simp⟩⟩

theorem visitList_append (visit : Nat → Node → Int × Bool) : ∀ (l1 l2 : List Node) (idx : Nat),
    visitList visit idx (l1 ++ l2) =
      if (visitList visit idx l1).2.1 ≠ 0 then visitList visit idx l1
      else ((visitList visit idx l1).1 ++ (visitList visit (idx + l1.length) l2).1,
            (visitList visit (idx + l1.length) l2).2.1,
            (visitList visit idx l1).2.2 ++ (visitList visit (idx + l1.length) l2).2.2)
  | [], l2, idx => by simp [visitList]
  | n :: ns, l2, idx => by
    by_cases h : (visit idx n).1 = 0
    · have ih := visitList_append visit ns l2 (idx + 1)
      rw [List.cons_append, visitList_cons_go h, visitList_cons_go h, ih]
      have hidx : idx + 1 + ns.length = idx + (n :: ns).length := by simp; omega
      rw [hidx]
      by_cases hr : (visitList visit (idx + 1) ns).2.1 ≠ 0
      · simp only [hr, if_true, ne_eq, not_false_eq_true]
      · simp only [hr, if_false]
        by_cases he : (visit idx n).2 = true
        · simp [he]
        · simp [he]
    · rw [List.cons_append, visitList_cons_stop h, visitList_cons_stop h]
      simp [h]

/-- `w'` is the walk state `w` after the elements of `L` were offered to the callback, up to the first that
asked to stop: the transcript is `visitList`'s, the table lost exactly the elements that erased themselves -/
structure Visited (visit : Nat → Node → Int × Bool) (w : Walk) (L : List Node) (w' : Walk) : Prop where
  seen : w'.seen = (visitList visit w.idx L).1.reverse ++ w.seen
  idx : w'.idx = w.idx + (visitList visit w.idx L).1.length
  res : w'.res = (visitList visit w.idx L).2.1
  perm : List.Perm (nodes w.t) ((visitList visit w.idx L).2.2 ++ nodes w'.t)

theorem Visited.nil {visit : Nat → Node → Int × Bool} {w : Walk} (h : w.res = 0) : Visited visit w [] w :=
  ⟨by simp [visitList], by simp [visitList], by simp [visitList, h], by simp [visitList]⟩

theorem Visited.single {visit : Nat → Node → Int × Bool} {w : Walk} {n : Node} {t1 : HT}
    (hp : List.Perm (nodes w.t) ((if (visit w.idx n).2 then [n] else []) ++ nodes t1)) :
    Visited visit w [n] { t := t1, idx := w.idx + 1, seen := n :: w.seen, res := (visit w.idx n).1 } := by
  by_cases h : (visit w.idx n).1 = 0
  · refine ⟨?_, ?_, ?_, ?_⟩ <;> rw [visitList_cons_go h] <;> simp only [visitList]
    · simp
    · simp
    · exact h
    · exact hp
  · refine ⟨?_, ?_, ?_, ?_⟩ <;> rw [visitList_cons_stop h]
    · simp
    · simp
    · exact hp

theorem Visited.append {visit : Nat → Node → Int × Bool} {w w1 w2 : Walk} {L1 L2 : List Node}
    (h1 : Visited visit w L1 w1) (h2 : w1.res = 0 → Visited visit w1 L2 w2) (hstop : w1.res ≠ 0 → w2 = w1) :
    Visited visit w (L1 ++ L2) w2 := by
  by_cases hr : w1.res = 0
  · have h2 := h2 hr
    have hz : (visitList visit w.idx L1).2.1 = 0 := by rw [← h1.res]; exact hr
    have hall := (visitList_prefix visit L1 w.idx).2 hz
    have hidx : w1.idx = w.idx + L1.length := by rw [h1.idx, hall]
    refine ⟨?_, ?_, ?_, ?_⟩ <;> rw [visitList_append, if_neg (by simpa using hz), ← hidx]
    · rw [h2.seen, h1.seen]; simp
    · rw [h2.idx, hidx]; simp only [List.length_append, hall]; omega
    · exact h2.res
    · exact h1.perm.trans (by simpa using List.Perm.append_left (visitList visit w.idx L1).2.2 h2.perm)
  · have := hstop hr; subst this
    have hnz : (visitList visit w.idx L1).2.1 ≠ 0 := by rw [← h1.res]; exact hr
    refine ⟨?_, ?_, ?_, ?_⟩ <;> rw [visitList_append, if_pos hnz]
    · exact h1.seen
    · exact h1.idx
    · exact h1.res
    · exact h1.perm

/-- the fields the enumeration bound depends on do not change during a walk -/
def WGeom (t t' : HT) : Prop :=
  t'.rhHash = t.rhHash ∧ t'.hash = t.hash ∧ t'.count = t.count ∧ t'.rhCount = t.rhCount ∧
  t'.bk.size = t.bk.size ∧ t'.cst = t.cst

theorem WGeom.rhHash {t t' : HT} (h : WGeom t t') : t'.rhHash = t.rhHash := h.1
theorem WGeom.hash {t t' : HT} (h : WGeom t t') : t'.hash = t.hash := h.2.1
theorem WGeom.count {t t' : HT} (h : WGeom t t') : t'.count = t.count := h.2.2.1
theorem WGeom.rhCount {t t' : HT} (h : WGeom t t') : t'.rhCount = t.rhCount := h.2.2.2.1
theorem WGeom.bksz {t t' : HT} (h : WGeom t t') : t'.bk.size = t.bk.size := h.2.2.2.2.1
theorem WGeom.cst {t t' : HT} (h : WGeom t t') : t'.cst = t.cst := h.2.2.2.2.2

theorem WGeom.refl (t : HT) : WGeom t t := ⟨rfl, rfl, rfl, rfl, rfl, rfl⟩

theorem WGeom.trans {a b c : HT} (h1 : WGeom a b) (h2 : WGeom b c) : WGeom a c :=
  ⟨h2.rhHash.trans h1.rhHash, h2.hash.trans h1.hash, h2.count.trans h1.count, h2.rhCount.trans h1.rhCount,
    h2.bksz.trans h1.bksz, h2.cst.trans h1.cst⟩

theorem WGeom.bound {t t' : HT} (h : WGeom t t') : t'.bound = t.bound := by
  unfold HT.bound; rw [h.rhHash, h.count, h.rhCount]

theorem WGeom.eff {t t' : HT} (h : WGeom t t') : t'.effCount = t.effCount ∧ t'.effHash = t.effHash :=
  eff_congr h.rhHash h.rhCount h.count h.hash

theorem bucket_of_mem_nodes_settled {t : HT} (inv : Inv hf t) {h : HashId} (hs : t.rhHash = none)
    (hh : t.hash = some h) {n : Node} (hn : n ∈ nodes t) :
    hf h n.key t.count < t.count ∧ ∃ b, t.bk[hf h n.key t.count]? = some b ∧ n ∈ b.chain := by
  obtain ⟨i, b, hb, hnb⟩ := mem_nodes.mp hn
  obtain ⟨hlt, he⟩ := (inv.newOK_of_clean hf hb hnb (fun g _ hg => by rw [hs] at hg; cases hg)).settled hs hh
  rw [he]
  exact ⟨hlt, b, hb, hnb⟩

/-- the visited element erases itself (no rehash pending): exactly its bucket
changes, exactly that element leaves the table -/
theorem visitErase_step {t : HT} (inv : Inv hf t) {h : HashId} (hs : t.rhHash = none) (hh : t.hash = some h)
    {n : Node} (hn : n ∈ nodes t) :
    (visitErase hf t true n).Spec (fun tr t' => tr.evs = [] ∧ Inv hf t' ∧ WGeom t t' ∧
      (∀ j, j ≠ hf h n.key t.count → t'.bk[j]? = t.bk[j]?) ∧ List.Perm (nodes t) (n :: nodes t')) := by
  obtain ⟨hlt, b, hb, hnb⟩ := bucket_of_mem_nodes_settled hf inv hs hh hn
  have hkey : ∀ m ∈ nodes t, m.id = n.id → m.key = n.key := by
    intro m hm hid
    rw [eq_of_nodup_map_id inv.nodup hm hn hid]
  unfold visitErase
  rw [if_pos rfl]
  refine (erase_spec hf n.key n.id inv (by rw [hh]; rfl) hkey).with_val.mono ?_
  rintro tr t' ⟨⟨inv', g, _, hyes, _⟩, hval⟩
  -- the table returned is the one `erase_settled_eq` spells out
  rw [erase_settled_eq hf (e := n.id) hs hh hlt hb] at hval
  cases hval
  obtain ⟨g1, g2, g3, _⟩ := g.settled_case hs
  refine ⟨g.evs, inv', ⟨by rw [g1, hs], g3, g2, ?_, g.bksz, g.cst⟩, ?_, (hyes n hn rfl).1⟩
  · cases unlink n.id b.chain <;> rfl
  · intro j hj
    cases unlink n.id b.chain with
    | none => rfl
    | some c =>
      show (wr t (hf h n.key t.count) { b with chain := c }).bk[j]? = t.bk[j]?
      rw [wr_get_other hj]

/-- which callbacks may erase: none, or no rehash is pending and every element
still to be visited in this bucket hashes to this bucket -/
def Mode (visit : Nat → Node → Int × Bool) (t : HT) (i : Nat) (ns : List Node) : Prop :=
  (∀ idx n, (visit idx n).2 = false) ∨
  (t.rhHash = none ∧ ∀ h, t.hash = some h → ∀ m ∈ ns, hf h m.key t.count = i)

theorem Inv.hash_of_mem {t : HT} (inv : Inv hf t) {n : Node} (hn : n ∈ nodes t) : ∃ h, t.hash = some h := by
  cases hh : t.hash with
  | some h => exact ⟨h, rfl⟩
  | none => rw [nodes_nil_of_empty (inv.fresh hf hh).empty] at hn; cases hn

theorem bucketWalk_cons (visit : Nat → Node → Int × Bool) (w : Walk) (n : Node) (ns : List Node) :
    bucketWalk hf visit w (n :: ns) =
      (visitErase hf w.t (visit w.idx n).2 n >>= fun t' =>
        if (visit w.idx n).1 ≠ 0 then
          pure { t := t', idx := w.idx + 1, seen := n :: w.seen, res := (visit w.idx n).1 }
        else bucketWalk hf visit { t := t', idx := w.idx + 1, seen := n :: w.seen, res := (visit w.idx n).1 } ns) := rfl

theorem bucketWalk_spec (visit : Nat → Node → Int × Bool) (i : Nat) : ∀ (ns : List Node) (w : Walk),
    Inv hf w.t → (∀ m ∈ ns, m ∈ nodes w.t) → (ns.map (·.id)).Nodup → Mode hf visit w.t i ns → w.res = 0 →
    (bucketWalk hf visit w ns).Spec (fun tr w' =>
      Inv hf w'.t ∧ WGeom w.t w'.t ∧ (∀ j, j ≠ i → w'.t.bk[j]? = w.t.bk[j]?) ∧ Visited visit w ns w' ∧ tr.evs = [])
  | [], w, inv, _, _, _, hres => R.Spec.pure ⟨inv, WGeom.refl _, fun _ _ => rfl, Visited.nil hres, rfl⟩
  | n :: ns, w, inv, hmem, hnd, hmode, _ => by
    rw [bucketWalk_cons]
    have hn : n ∈ nodes w.t := hmem n (by simp)
    simp only [List.map_cons, List.nodup_cons, List.mem_map, not_exists, not_and] at hnd
    have hstepS : (visitErase hf w.t (visit w.idx n).2 n).Spec (fun tr1 t1 =>
        tr1.evs = [] ∧ Inv hf t1 ∧ WGeom w.t t1 ∧ (∀ j, j ≠ i → t1.bk[j]? = w.t.bk[j]?) ∧
        List.Perm (nodes w.t) ((if (visit w.idx n).2 then [n] else []) ++ nodes t1)) := by
      by_cases he : (visit w.idx n).2 = true
      · rcases hmode with hm | ⟨hs, hk⟩
        · rw [hm] at he; cases he
        · obtain ⟨h, hh⟩ := inv.hash_of_mem hf hn
          rw [he]
          refine (visitErase_step hf inv hs hh hn).mono ?_
          rintro tr1 t1 ⟨e1, i1, g1, o1, p1⟩
          exact ⟨e1, i1, g1, fun j hj => o1 j (by rw [hk h hh n (by simp)]; exact hj), by simpa using p1⟩
      · have he' : (visit w.idx n).2 = false := by simpa using he
        rw [he']
        exact R.Spec.pure ⟨rfl, inv, WGeom.refl _, fun _ _ => rfl, by simp⟩
    refine R.Spec.bind hstepS ?_
    rintro tr1 t1 ⟨ev1, i1, g1, o1, p1⟩
    have v1 := Visited.single (visit := visit) p1
    by_cases hr : (visit w.idx n).1 ≠ 0
    · rw [if_pos hr]
      exact R.Spec.pure ⟨i1, g1, o1, v1.append (L2 := ns) (fun h => absurd h hr) (fun _ => rfl), by simpa using ev1⟩
    · have hr0 : (visit w.idx n).1 = 0 := by simpa using hr
      rw [if_neg hr]
      -- the elements still to come are not the one just visited, so they are still in the table
      have hmem1 : ∀ m ∈ ns, m ∈ nodes t1 := fun m hm =>
        (List.mem_append.mp (p1.subset (hmem m (by simp [hm])))).resolve_left fun h' => by
          have : m = n := by by_cases he : (visit w.idx n).2 = true <;> simp [he] at h'; exact h'
          exact hnd.1 m hm (this ▸ rfl)
      have hmode1 : Mode hf visit t1 i ns := by
        rcases hmode with hm | ⟨hs, hk⟩
        · exact Or.inl hm
        · refine Or.inr ⟨by rw [g1.rhHash]; exact hs, fun h hh m hm => ?_⟩
          rw [g1.count]; exact hk h (by rw [← g1.hash]; exact hh) m (by simp [hm])
      refine (bucketWalk_spec visit i ns
        { t := t1, idx := w.idx + 1, seen := n :: w.seen, res := (visit w.idx n).1 } i1 hmem1 hnd.2 hmode1 hr0).mono ?_
      rintro tr2 w' ⟨i2, g2, o2, v2, ev2⟩
      exact ⟨i2, g1.trans g2, fun j hj => by rw [o2 j hj, o1 j hj], v1.append (fun _ => v2) (fun h => absurd hr0 h),
        by simp [ev1, ev2]⟩

def chainAt (t : HT) (i : Nat) : List Node :=
  match t.bk[i]? with
  | some b => b.chain
  | none => []

theorem chainAt_of_get {t : HT} {i : Nat} {b : Bucket} (h : t.bk[i]? = some b) : chainAt t i = b.chain := by
  unfold chainAt; rw [h]

/-- the nodes of buckets `i, i+1, …, i+d-1`, in walk order -/
def nodesFrom (t : HT) (i : Nat) : Nat → List Node
  | 0 => []
  | d + 1 => chainAt t i ++ nodesFrom t (i + 1) d

theorem nodesFrom_eq (t : HT) : ∀ (d i : Nat), i + d ≤ t.bk.size →
    nodesFrom t i d = ((t.bk.toList.drop i).take d).flatMap (·.chain)
  | 0, i, _ => by simp [nodesFrom]
  | d + 1, i, h => by
    have hi : i < t.bk.toList.length := by simp; omega
    rw [nodesFrom, nodesFrom_eq t d (i + 1) (by omega)]
    rw [List.drop_eq_getElem_cons hi, List.take_succ_cons, List.flatMap_cons]
    congr 1
    exact chainAt_of_get (by simp [show i < t.bk.size by omega])

theorem nodesFrom_all {t : HT} (inv : Inv hf t) : nodesFrom t 0 t.bound = nodes t := by
  have hle : t.bound ≤ t.bk.size := by rw [t.bound_eq_ubound]; exact inv.toGeom.ubound_le
  rw [nodesFrom_eq t t.bound 0 (by omega), List.drop_zero]
  unfold nodes
  apply flatMap_take_of_empty_beyond
  intro i b hbk hi
  exact inv.beyond i b (by simpa using hbk) (by rw [← t.bound_eq_ubound]; exact hi)

theorem tableWalk_succ (visit : Nat → Node → Int × Bool) (w : Walk) (i d : Nat) :
    tableWalk hf visit w i (d + 1) =
      if i < w.t.bound ∧ w.res = 0 then
        (rd w.t i >>= fun b => bucketWalk hf visit w b.chain >>= fun w' => tableWalk hf visit w' (i + 1) d)
      else pure w := rfl

theorem tableWalk_stopped (visit : Nat → Node → Int × Bool) {w : Walk} (hr : w.res ≠ 0) (i d : Nat) :
    tableWalk hf visit w i d = pure w := by
  cases d with
  | zero => rfl
  | succ d =>
    rw [tableWalk_succ]
    have : ¬ (i < w.t.bound ∧ w.res = 0) := fun h => hr h.2
    rw [if_neg this]

/-- which callbacks may erase during a walk over the table -/
def TMode (visit : Nat → Node → Int × Bool) (t : HT) : Prop :=
  (∀ idx n, (visit idx n).2 = false) ∨ t.rhHash = none

theorem tableWalk_spec (visit : Nat → Node → Int × Bool) (t : HT) : ∀ (d : Nat) (w : Walk) (i : Nat),
    i + d = t.bound → Inv hf w.t → WGeom t w.t → (∀ j, i ≤ j → w.t.bk[j]? = t.bk[j]?) → TMode visit t →
    w.res = 0 →
    (tableWalk hf visit w i d).Spec (fun tr w' =>
      Inv hf w'.t ∧ WGeom t w'.t ∧ Visited visit w (nodesFrom t i d) w' ∧ tr.evs = [])
  | 0, w, i, _, inv, g, _, _, hres => R.Spec.pure ⟨inv, g, Visited.nil hres, rfl⟩
  | d + 1, w, i, hid, inv, g, hsame, hmode, hres => by
    rw [tableWalk_succ]
    have hbound : w.t.bound = t.bound := g.bound
    have hcond : i < w.t.bound ∧ w.res = 0 := ⟨by omega, hres⟩
    rw [if_pos hcond]
    have hble : w.t.bound ≤ w.t.bk.size := by rw [w.t.bound_eq_ubound]; exact inv.toGeom.ubound_le
    refine R.Spec.bind (rd_spec (t := w.t) (i := i) (by omega)) ?_
    rintro tr0 b ⟨rfl, hb⟩
    have hbt : t.bk[i]? = some b := by rw [← hsame i (Nat.le_refl _)]; exact hb
    have hmodeB : Mode hf visit w.t i b.chain := by
      rcases hmode with hm | hs
      · exact Or.inl hm
      · have hs' : w.t.rhHash = none := by rw [g.rhHash]; exact hs
        exact Or.inr ⟨hs', fun h hh m hm => (inv.settled hs' h hh i b hb).2 m hm⟩
    have hnd : (b.chain.map (·.id)).Nodup :=
      List.Nodup.sublist ((chain_sublist_nodes hb).map _) inv.nodup
    refine R.Spec.bind (bucketWalk_spec hf visit i b.chain w inv
      (fun m hm => mem_nodes.mpr ⟨i, b, hb, hm⟩) hnd hmodeB hres) ?_
    rintro tr1 w1 ⟨i1, g1, o1, v1, ev1⟩
    rw [nodesFrom, chainAt_of_get hbt]
    by_cases hstop : w1.res ≠ 0
    · rw [tableWalk_stopped hf visit hstop]
      exact R.Spec.pure ⟨i1, g.trans g1, v1.append (fun h => absurd h hstop) (fun _ => rfl), by simp [ev1]⟩
    · have hzero : w1.res = 0 := by simpa using hstop
      have hsame1 : ∀ j, i + 1 ≤ j → w1.t.bk[j]? = t.bk[j]? := fun j hj => by
        rw [o1 j (by omega), hsame j (by omega)]
      refine (tableWalk_spec visit t d w1 (i + 1) (by omega) i1 (g.trans g1) hsame1 hmode hzero).mono ?_
      rintro tr2 w2 ⟨i2, g2, v2, ev2⟩
      exact ⟨i2, g2, v1.append (fun _ => v2) (fun h => absurd hzero h), by simp [ev1, ev2]⟩

theorem hforeach_spec (visit : Nat → Node → Int × Bool) {t : HT} (inv : Inv hf t) (hmode : TMode visit t) :
    (hforeach hf t visit).Spec (fun tr w =>
      Inv hf w.t ∧ WGeom t w.t ∧ w.seen.reverse = (visitList visit 0 (nodes t)).1 ∧
      w.res = (visitList visit 0 (nodes t)).2.1 ∧
      List.Perm (nodes t) ((visitList visit 0 (nodes t)).2.2 ++ nodes w.t) ∧ tr.evs = []) := by
  unfold hforeach
  refine (tableWalk_spec hf visit t t.bound { t := t, idx := 0, seen := [], res := 0 } 0 (by omega) inv
    (WGeom.refl t) (fun _ _ => rfl) hmode rfl).mono ?_
  rintro tr w ⟨i1, g1, v1, ev1⟩
  rw [nodesFrom_all hf inv] at v1
  exact ⟨i1, g1, by rw [v1.seen]; simp, v1.res, v1.perm, ev1⟩

theorem foreach_unfold (t : HT) (visit : Nat → Node → Int × Bool) :
    foreach hf t visit = (rehash hf t >>= fun t1 => hforeach hf t1 visit >>= fun w =>
      pure (w.t, w.res, w.seen.reverse)) := rfl

/-- `cstl_hash_foreach` refines `visitList` on some enumeration `L` of the
table's elements: the callbacks it makes, the value it returns, and the table
it leaves (the elements whose callback erased them are gone, everything else
is still there). -/
theorem foreach_spec (visit : Nat → Node → Int × Bool) {t : HT} (inv : Inv hf t) :
    (foreach hf t visit).Spec (fun tr r => ∃ L, List.Perm L (nodes t) ∧
      r.2.2 = (visitList visit 0 L).1 ∧ r.2.1 = (visitList visit 0 L).2.1 ∧
      Inv hf r.1 ∧ List.Perm L ((visitList visit 0 L).2.2 ++ nodes r.1) ∧ r.1.rhHash = none ∧
      r.1.effCount = t.effCount ∧ r.1.effHash = t.effHash ∧ ∀ c ∈ tr.calls, 1 ≤ c.m) := by
  rw [foreach_unfold]
  refine R.Spec.bind (rehash_spec hf inv).and_pos ?_
  rintro tr1 t1 ⟨r1, hpos1⟩
  refine R.Spec.bind (hforeach_spec hf visit r1.inv (Or.inr r1.settled)).and_pos ?_
  rintro tr2 w ⟨⟨i2, g2, s2, r2, p2, _⟩, pos2⟩
  refine R.Spec.pure ⟨nodes t1, r1.perm, s2, r2, i2, p2, by rw [g2.rhHash]; exact r1.settled, ?_, ?_, ?_⟩
  · exact g2.eff.1.trans r1.eff.1
  · exact g2.eff.2.trans r1.eff.2
  · intro c hc
    simp only [Tr.append_calls, List.append_nil, List.mem_append] at hc
    rcases hc with h | h
    · exact hpos1 c h
    · exact pos2 c h

theorem foreachConst_unfold (t : HT) (visit : Nat → Node → Int) :
    foreachConst hf t visit = (hforeach hf t (fun i n => (visit i n, false)) >>= fun w =>
      pure (w.res, w.seen.reverse)) := rfl

/-- `cstl_hash_foreach_const` refines `visitList` on the table's elements in
bucket order — whatever stage a pending rehash is in -/
theorem foreachConst_spec (visit : Nat → Node → Int) {t : HT} (inv : Inv hf t) :
    (foreachConst hf t visit).Spec (fun tr r =>
      r.2 = (visitList (fun i n => (visit i n, false)) 0 (nodes t)).1 ∧
      r.1 = (visitList (fun i n => (visit i n, false)) 0 (nodes t)).2.1 ∧ tr.evs = []) := by
  rw [foreachConst_unfold]
  refine R.Spec.bind (hforeach_spec hf _ inv (Or.inl (fun _ _ => rfl))) ?_
  rintro tr w ⟨_, _, s, r, _, ev⟩
  exact R.Spec.pure ⟨s, r, by simp [ev]⟩

theorem visitList_const_zero : ∀ (l : List Node) (idx : Nat),
    visitList (fun _ _ => ((0 : Int), false)) idx l = (l, 0, [])
  | [], _ => rfl
  | n :: ns, idx => by
    rw [visitList_cons_go rfl, visitList_const_zero ns (idx + 1)]
    simp

/-- the table `cstl_hash_clear` leaves: as after `cstl_hash_init` (the table
bit, the stale pending count and sweep index are the only leftovers) -/
theorem cleared_inv (t : HT) :
    Inv hf { t with bk := #[], count := 0, hash := none, rhHash := none, size := 0 } := by
  refine ⟨⟨Nat.le_refl _, fun _ => ⟨rfl, rfl, rfl⟩, fun h => (by cases h), fun h => (by cases h)⟩,
    ⟨fun i b hb => (by simp at hb), fun _ h hh => (by cases hh), fun g h hg => (by cases hg)⟩,
    ⟨by simp [nodes], by simp [nodes]⟩⟩

theorem clear_unfold (t : HT) (withCb : Bool) :
    clear hf t withCb = (clearWalk hf t withCb >>= fun w => freeArr t >>= fun _ =>
      pure ({ w.t with bk := #[], count := 0, hash := none, rhHash := none, size := 0 }, w.seen.reverse)) := rfl

/-- `cstl_hash_clear`: with a callback every element of the table is handed to
it exactly once (in bucket order, whatever stage a pending rehash is in); the
table is left empty, without buckets and without hash function. -/
theorem clear_spec (withCb : Bool) {t : HT} (inv : Inv hf t) :
    (clear hf t withCb).Spec (fun tr r =>
      r.2 = (if withCb then nodes t else []) ∧ Inv hf r.1 ∧ r.1.hash = none ∧ r.1.rhHash = none ∧
      r.1.bk = #[] ∧ r.1.size = 0 ∧ r.1.count = 0 ∧ nodes r.1 = [] ∧
      tr.evs = (if t.bk.size ≠ 0 then [AllocEv.free] else []) ∧ ∀ c ∈ tr.calls, 1 ≤ c.m) := by
  rw [clear_unfold]
  have hw : (clearWalk hf t withCb).Spec (fun tr w => w.seen.reverse = (if withCb then nodes t else []) ∧
      tr.evs = []) := by
    unfold clearWalk
    cases withCb with
    | false => exact R.Spec.pure ⟨rfl, rfl⟩
    | true =>
      simp only [if_true]
      refine (hforeach_spec hf (fun _ _ => ((0 : Int), false)) inv (Or.inl (fun _ _ => rfl))).mono ?_
      rintro tr w ⟨_, _, s, _, p, ev⟩
      rw [visitList_const_zero] at s
      exact ⟨s, ev⟩
  refine R.Spec.bind hw.and_pos ?_
  rintro tr1 w ⟨⟨s, ev1⟩, pos1⟩
  have hfree : (freeArr t).Spec (fun tr _ => tr.evs = (if t.bk.size ≠ 0 then [AllocEv.free] else []) ∧ tr.calls = []) := by
    unfold freeArr
    by_cases h : t.bk.size ≠ 0
    · rw [if_pos h, if_pos h]; simp [R.Spec, logEv]
    · rw [if_neg h, if_neg h]; exact R.Spec.pure ⟨rfl, rfl⟩
  refine R.Spec.bind hfree ?_
  rintro tr2 _ ⟨ev2, c2⟩
  refine R.Spec.pure ⟨s, cleared_inv hf w.t, rfl, rfl, rfl, rfl, rfl, by simp [nodes], by simp [ev1, ev2], by simpa [c2] using pos1⟩

end Cstl.Hash
