import Cstl.Hash.Examples
/-
C04 — Hash enumeration and clear reach every element exactly once, even
mid-rehash.

The three entry points refine the list-level specification `visitList`
(visit the elements of a list in order; a callback may ask to stop and may
erase the element it is visiting).  "Exactly once" is then a fact about
`visitList` on a duplicate-free enumeration of the table's elements.
-/
namespace Cstl.Hash

variable (hf : HashId → Nat → Nat → Nat)

/-- `visitList` on an enumeration `L` of the live elements: what is handed to
the callback is a prefix of `L` — every element at most once, only live
elements — and all of `L`, i.e. every live element exactly once, unless a
callback asked to stop. -/
theorem visited_exactly_once {t : HT} (inv : Inv hf t) {L : List Node} (hL : List.Perm L (nodes t))
    (visit : Nat → Node → Int × Bool) :
    (((visitList visit 0 L).1).map (·.id)).Nodup ∧
    (∀ n ∈ (visitList visit 0 L).1, n ∈ nodes t) ∧
    ((visitList visit 0 L).2.1 = 0 → List.Perm (visitList visit 0 L).1 (nodes t)) := by
  have hp := visitList_prefix visit L 0
  have hnd : (L.map (·.id)).Nodup := (hL.map _).nodup_iff.mpr inv.nodup
  exact ⟨List.Nodup.sublist (hp.1.sublist.map _) hnd, fun n hn => hL.subset (hp.1.subset hn),
    fun h0 => by rw [hp.2 h0]; exact hL⟩

/-- stop semantics of `visitList`: every callback but the last returned 0; a
non-zero result is the value of the last callback made; result 0 means every
callback returned 0 -/
theorem visited_results (visit : Nat → Node → Int × Bool) (L : List Node) :
    (∀ (i : Nat) (n : Node), (visitList visit 0 L).1[i]? = some n → i + 1 < (visitList visit 0 L).1.length →
        (visit i n).1 = 0) ∧
    ((visitList visit 0 L).2.1 ≠ 0 → ∃ n, (visitList visit 0 L).1.getLast? = some n ∧
        (visit ((visitList visit 0 L).1.length - 1) n).1 = (visitList visit 0 L).2.1) ∧
    ((visitList visit 0 L).2.1 = 0 → ∀ (i : Nat) (n : Node), (visitList visit 0 L).1[i]? = some n → (visit i n).1 = 0) := by
  have := visitList_results visit L 0
  simp only [Nat.zero_add] at this
  exact ⟨fun i n h hi => this.1 i n h (Or.inl hi), this.2, fun h0 i n h => this.1 i n h (Or.inr h0)⟩

/-- **foreach** (forces a pending rehash first; any subset of the callbacks
erases the element being visited; any callback may stop the walk): callbacks,
result and remaining table are those of `visitList` on an enumeration `L` of
the table's elements — the elements whose callback erased them are gone, all
others are still in the table, the invariant holds. -/
theorem foreach_once (visit : Nat → Node → Int × Bool) {t : HT} (inv : Inv hf t) :
    (foreach hf t visit).Spec (fun _ r => ∃ L, List.Perm L (nodes t) ∧
      r.2.2 = (visitList visit 0 L).1 ∧ r.2.1 = (visitList visit 0 L).2.1 ∧
      Inv hf r.1 ∧ List.Perm L ((visitList visit 0 L).2.2 ++ nodes r.1) ∧
      (visitList visit 0 L).2.2.Sublist (visitList visit 0 L).1) :=
  (foreach_spec hf visit inv).mono (fun _ _ ⟨L, h1, h2, h3, h4, h5, _⟩ =>
    ⟨L, h1, h2, h3, h4, h5, visitList_erased_sub visit L 0⟩)

/-- mid-rehash instance: on the pending example table every callback erases its element -/
example : (foreach Ex.hf0 Ex.tPending (fun _ _ => (0, true))).Spec (fun _ r => ∃ L, List.Perm L (nodes Ex.tPending) ∧
    r.2.2 = (visitList (fun _ _ => (0, true)) 0 L).1 ∧ r.2.1 = (visitList (fun _ _ => (0, true)) 0 L).2.1 ∧
    Inv Ex.hf0 r.1 ∧ List.Perm L ((visitList (fun _ _ => (0, true)) 0 L).2.2 ++ nodes r.1) ∧
    (visitList (fun _ _ => (0, true)) 0 L).2.2.Sublist (visitList (fun _ _ => (0, true)) 0 L).1) :=
  foreach_once Ex.hf0 _ Ex.tPending_inv

/-- **foreach_const**, at any stage of a pending grow or shrink: callbacks and
result are those of `visitList` on the elements of the table in bucket order -/
theorem foreachConst_once (visit : Nat → Node → Int) {t : HT} (inv : Inv hf t) :
    (foreachConst hf t visit).Spec (fun _ r =>
      r.2 = (visitList (fun i n => (visit i n, false)) 0 (nodes t)).1 ∧
      r.1 = (visitList (fun i n => (visit i n, false)) 0 (nodes t)).2.1) :=
  (foreachConst_spec hf visit inv).mono (fun _ _ h => ⟨h.1, h.2.1⟩)

/-- with a callback that never stops, `foreach_const` visits exactly the elements of the table -/
theorem foreachConst_all {t : HT} (inv : Inv hf t) :
    (foreachConst hf t (fun _ _ => 0)).Spec (fun _ r => r.2 = nodes t ∧ r.1 = 0) := by
  refine (foreachConst_once hf (fun _ _ => 0) inv).mono ?_
  rintro _ r ⟨h1, h2⟩
  have := visitList_const_zero (nodes t) 0
  rw [this] at h1 h2
  exact ⟨h1, h2⟩

/-- the example table has a grow pending (2 → 4 buckets) and holds 3 elements -/
example : (foreachConst Ex.hf0 Ex.tPending (fun _ _ => 0)).Spec (fun _ r => r.2 = nodes Ex.tPending ∧ r.1 = 0) :=
  foreachConst_all Ex.hf0 Ex.tPending_inv

/-- **clear**, at any stage of a pending grow or shrink: the callback gets every
element of the table exactly once; the table is left empty, with no buckets
and no hash function, and satisfies the invariant -/
theorem clear_once (withCb : Bool) {t : HT} (inv : Inv hf t) :
    (clear hf t withCb).Spec (fun _ r =>
      r.2 = (if withCb then nodes t else []) ∧ Inv hf r.1 ∧ nodes r.1 = [] ∧ r.1.size = 0 ∧
      r.1.hash = none ∧ r.1.rhHash = none ∧ r.1.bk = #[]) :=
  (clear_spec hf withCb inv).mono (fun _ _ ⟨h1, h2, h3, h4, h5, h6, _, h8, _⟩ => ⟨h1, h2, h8, h6, h3, h4, h5⟩)

example : (clear Ex.hf0 Ex.tPending true).Spec (fun _ r =>
    r.2 = (if true then nodes Ex.tPending else []) ∧ Inv Ex.hf0 r.1 ∧ nodes r.1 = [] ∧ r.1.size = 0 ∧
    r.1.hash = none ∧ r.1.rhHash = none ∧ r.1.bk = #[]) :=
  clear_once Ex.hf0 true Ex.tPending_inv

/-- **clear, then a fresh resize**: the cleared table behaves as one left by
`cstl_hash_init`: a resize to `n ≥ 1` buckets whose allocation succeeds lands on
`n` buckets with the function given (`cstl_hash_mul` if none), the table is
empty, ready for keyed operations, and satisfies the invariant, so every
theorem about later operations applies. -/
theorem clear_reusable (withCb : Bool) (oracle : Nat → Bool) (n : Nat) (f : Option HashId) {t : HT}
    (inv : Inv hf t) :
    (clear hf t withCb).Spec (fun _ r =>
      (resize hf oracle r.1 n f).Spec (fun _ t' => Inv hf t' ∧ nodes t' = [] ∧ t'.size = 0 ∧
        (1 ≤ n → allocOK oracle n → t'.effCount = n ∧ t'.effHash = some (pickHash f none) ∧ t'.hash.isSome))) := by
  refine (clear_spec hf withCb inv).mono ?_
  rintro _ r ⟨_, hi, hh, hrh, hbk, hsz, _, hn, _⟩
  refine (resize_spec hf oracle n f hi).mono ?_
  rintro _ t' ⟨i', hp, hs, hsat, _⟩
  refine ⟨i', ?_, by rw [hs, hsz], fun h1 h2 => ?_⟩
  · rw [hn] at hp; exact List.perm_nil.mp hp
  · have := hsat ⟨h1, Or.inr h2⟩
    refine ⟨this.1, ?_, this.2.2⟩
    rw [this.2.1, reqHash, (eff_settled hrh).2, hh]

end Cstl.Hash
