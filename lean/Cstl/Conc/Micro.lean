import Cstl.Conc.Model
/-
What a step of a thread can be, as a relation.  `StepT.of_eq` is the only place where `stepT` is
unfolded to find out what a step does: every theorem about what a step does is a case analysis on
`StepT` / `Micro`.  (That a step exists — `stepT_nonstutter` — goes through the function: only the
direction `of_eq` is proved.)  `stepL_decomp` does the same for `stepL`.
-/
namespace Cstl.Conc

/-- the step at this pc goes through the managed memory (every other one only through the bookkeeping block) -/
def Pc.mem : Pc → Bool
  | .r2a _ => true | .u _ => true | _ => false

inductive Local : Thread → Thread → Prop
  | begin {sh wk : List Bool} {op : Op} {rest : List Op} {obs : Nat} :
      Local ⟨sh, wk, op :: rest, .idle, obs⟩ (Conc.begin op ⟨sh, wk, rest, .idle, obs⟩)
  | resume {sh wk : List Bool} {prog : List Op} {k : Cont} {obs : Nat} :
      Local ⟨sh, wk, prog, .fin k, obs⟩ (Conc.resume k ⟨sh, wk, prog, .fin k, obs⟩)

/-- `Micro g t pc a v g' t'`: at `pc` the thread `t` performs the access `a` on `g`, which returns `v` and
leaves `g'`, `t'`.  Where the model branches on the returned value there is one constructor per branch. -/
inductive Micro (g : Shared) (t : Thread) : Pc → Act → Nat → Shared → Thread → Prop
  | r1_last {j : Nat} {k : Cont} : g.hard = 1 → Micro g t (.r1 j k) .decHard g.hard
      { g with hard := dec g.hard, sawH1 := g.sawH1 + 1 } { t with sh := t.sh.set j false, obs := g.hard, pc := .r2a k }
  | r1_more {j : Nat} {k : Cont} : g.hard ≠ 1 → Micro g t (.r1 j k) .decHard g.hard
      { g with hard := dec g.hard } { t with sh := t.sh.set j false, obs := g.hard, pc := .w1 k }
  | r2a {k : Cont} : Micro g t (.r2a k) .clearCb 0
      { g with mem := false, clears := g.clears + 1 } { t with pc := .r2b k }
  | r2b {k : Cont} : Micro g t (.r2b k) .freeMem 0
      { g with freesMem := g.freesMem + 1 } { t with pc := .w1 k }
  | w1_last {k : Cont} : g.soft = 1 → Micro g t (.w1 k) .decSoft g.soft
      { g with soft := dec g.soft, sawS1 := g.sawS1 + 1 } { t with obs := g.soft, pc := .w2 k }
  | w1_more {k : Cont} : g.soft ≠ 1 → Micro g t (.w1 k) .decSoft g.soft
      { g with soft := dec g.soft } { t with obs := g.soft, pc := .fin k }
  | w2 {k : Cont} : Micro g t (.w2 k) .freeData 0
      { g with data := false, freesData := g.freesData + 1 } { t with pc := .fin k }
  | a1 {i j : Nat} : Micro g t (.a1 i j) .incHard g.hard
      { g with hard := g.hard + 1 } { t with obs := g.hard, pc := .a2 i j }
  | a2 {i j : Nat} : Micro g t (.a2 i j) .incSoft g.soft
      { g with soft := g.soft + 1 } { t with sh := t.sh.set j true, obs := g.soft, pc := .idle }
  | f1 {i w : Nat} : Micro g t (.f1 i w) .incSoft g.soft
      { g with soft := g.soft + 1 } { t with wk := t.wk.set w true, obs := g.soft, pc := .idle }
  | l1 {w j : Nat} : g.flag = false → Micro g t (.l1 w j) .tas 0
      { g with flag := true } { t with obs := 0, pc := .l2 w j }
  | l2_live {w j : Nat} : g.hard > 0 → Micro g t (.l2 w j) .incHard g.hard
      { g with hard := g.hard + 1 } { t with obs := g.hard, pc := .l3 w j }
  | l2_dead {w j : Nat} : ¬ g.hard > 0 → Micro g t (.l2 w j) .incHard g.hard
      { g with hard := g.hard + 1 } { t with obs := g.hard, pc := .l3n w j }
  | l3 {w j : Nat} : Micro g t (.l3 w j) .incSoft g.soft
      { g with soft := g.soft + 1 } { t with sh := t.sh.set j true, obs := g.soft, pc := .l4 w j }
  | l3n {w j : Nat} : Micro g t (.l3n w j) .undoHard g.hard
      { g with hard := dec g.hard } { t with obs := g.hard, pc := .l4 w j }
  | l4 {w j : Nat} : Micro g t (.l4 w j) .flagClear 0
      { g with flag := false } { t with pc := .idle }
  | u {j : Nat} : Micro g t (.u j) .use (if g.mem then 1 else 0)
      g { t with pc := .idle }

/-- In `micro` the access is made on the shared state after `touch` has recorded whether the blocks it goes
through are live: who knows them live (`Inv.live`) rewrites `touch g m = g` once, by `touch_live`, and
reads the access off the constructor. -/
inductive StepT (g : Shared) (t : Thread) : Label → Shared → Thread → Prop
  | tau {t' : Thread} : Local t t' → StepT g t (lab .tau) g t'
  | spin {w j : Nat} : t.pc = .l1 w j → (touch g false).flag = true →
      StepT g t { act := .tas, val := 1, stutter := decide (touch g false = g) } (touch g false) t
  | micro {a : Act} {v : Nat} {g' : Shared} {t' : Thread} :
      Micro (touch g t.pc.mem) t t.pc a v g' t' → StepT g t (lab a v) g' t'

theorem touch_mem (g : Shared) (m : Bool) : (touch g m).mem = g.mem := by
  unfold touch; split <;> rfl

theorem StepT.of_eq {g g' : Shared} {t t' : Thread} {l : Label} (hs : stepT g t = some (l, g', t')) :
    StepT g t l g' t' := by
  obtain ⟨sh, wk, prog, pc, obs⟩ := t
  unfold stepT at hs
  cases pc <;> simp only at hs
  case idle =>
    cases prog <;> simp only at hs <;> cases hs
    exact .tau .begin
  case fin k => cases hs; exact .tau .resume
  case r1 j k =>
    cases hs
    refine .micro ?_
    by_cases h1 : (touch g false).hard = 1
    · rw [if_pos h1, if_pos h1]; exact .r1_last h1
    · rw [if_neg h1, if_neg h1]; exact .r1_more h1
  case w1 k =>
    cases hs
    refine .micro ?_
    by_cases h1 : (touch g false).soft = 1
    · rw [if_pos h1, if_pos h1]; exact .w1_last h1
    · rw [if_neg h1, if_neg h1]; exact .w1_more h1
  case l1 w j =>
    by_cases hf : (touch g false).flag = true
    · rw [if_pos hf] at hs; cases hs; exact .spin rfl hf
    · rw [if_neg hf] at hs; cases hs
      exact .micro (.l1 ((Bool.not_eq_true _).mp hf))
  case l2 w j =>
    cases hs
    refine .micro ?_
    by_cases h1 : (touch g false).hard > 0
    · rw [if_pos h1]; exact .l2_live h1
    · rw [if_neg h1]; exact .l2_dead h1
  case u j =>
    cases hs
    refine .micro ?_
    rw [← touch_mem g true]
    exact .u
  all_goals
    cases hs
    exact .micro (by constructor)

theorem stepL_decomp {s s' : State} {tid : Nat} {l : Label} (hs : stepL s tid = some (l, s')) :
    ∃ t t', s.ts[tid]? = some t ∧ stepT s.g t = some (l, s'.g, t') ∧ s'.ts = s.ts.set tid t' := by
  unfold stepL at hs
  cases hts : s.ts[tid]? with
  | none => simp [hts] at hs
  | some t =>
    simp only [hts] at hs
    cases hst : stepT s.g t with
    | none => simp [hst] at hs
    | some r =>
      obtain ⟨l', g', t'⟩ := r
      simp only [hst, Option.some.injEq, Prod.mk.injEq] at hs
      obtain ⟨rfl, rfl⟩ := hs
      exact ⟨t, t', rfl, hst, rfl⟩

end Cstl.Conc
