import Cstl.Conc.Inv
/-
Executions of the micro-step system: every schedule, any number of threads,
any programs.  Event counting on the trace, frame lemmas.
-/
namespace Cstl.Conc

abbrev Cfg := List (List Bool × List Bool × List Op)

/-- `Exec cfg tr s`: from the initial state of `cfg`, the schedule whose steps
(thread, label) are `tr` leads to `s` -/
inductive Exec (cfg : Cfg) : List (Nat × Label) → State → Prop
  | init : Exec cfg [] (init cfg)
  | step {tr : List (Nat × Label)} {s s' : State} {tid : Nat} {l : Label} :
      Exec cfg tr s → stepL s tid = some (l, s') → Exec cfg (tr ++ [(tid, l)]) s'

def Reachable (cfg : Cfg) (s : State) : Prop := ∃ tr, Exec cfg tr s

theorem Exec.inv {cfg : Cfg} {tr : List (Nat × Label)} {s : State} (h : Exec cfg tr s) : Inv s := by
  induction h with
  | init => exact inv_init cfg
  | step _ hs ih => exact ih.step hs

theorem Reachable.inv {cfg : Cfg} {s : State} (h : Reachable cfg s) : Inv s :=
  let ⟨_, he⟩ := h; he.inv

-- inside `Reachable.init`, `Reachable.step`, `Reachable.run` and `Exec.*` the short names `init`, `step`,
-- `run` mean those declarations: the model's are written `Conc.init`, `Conc.step`, `Conc.run` there
theorem Reachable.init (cfg : Cfg) : Reachable cfg (init cfg) := ⟨[], .init⟩

theorem Reachable.step {cfg : Cfg} {s s' : State} {tid : Nat} {l : Label} (h : Reachable cfg s)
    (hs : stepL s tid = some (l, s')) : Reachable cfg s' :=
  let ⟨tr, he⟩ := h; ⟨tr ++ [(tid, l)], he.step hs⟩

theorem step_iff {s s' : State} {tid : Nat} : step s tid = some s' ↔ ∃ l, stepL s tid = some (l, s') := by
  unfold step
  cases h : stepL s tid with
  | none => simp
  | some r => obtain ⟨l, s''⟩ := r; simp

/-- running a schedule given as a list of thread ids (a thread that is finished or
does not exist is skipped) -/
def run (s : State) : List Nat → State
  | [] => s
  | tid :: rest => match step s tid with
    | some s' => run s' rest
    | none => run s rest

theorem Reachable.run {cfg : Cfg} {s : State} (h : Reachable cfg s) (sched : List Nat) :
    Reachable cfg (run s sched) := by
  induction sched generalizing s with
  | nil => exact h
  | cons tid rest ih =>
    unfold Conc.run
    cases hs : Conc.step s tid with
    | none => exact ih h
    | some s' =>
      obtain ⟨l, hl⟩ := step_iff.mp hs
      exact ih (h.step hl)

theorem stepL_frame {s s' : State} {tid i : Nat} {l : Label} (hs : stepL s tid = some (l, s'))
    (hi : i ≠ tid) : s'.ts[i]? = s.ts[i]? := by
  obtain ⟨t, t', _, _, hts⟩ := stepL_decomp hs
  rw [hts, List.getElem?_set_ne (Ne.symm hi)]

theorem stepL_length {s s' : State} {tid : Nat} {l : Label} (hs : stepL s tid = some (l, s')) :
    s'.ts.length = s.ts.length := by
  obtain ⟨t, t', _, _, hts⟩ := stepL_decomp hs
  rw [hts, List.length_set]

def countAct (a : Act) (tr : List (Nat × Label)) : Nat := (tr.filter (fun e => e.2.act == a)).length

/-- number of `hard--` of a reset (resp. `soft--`) that returned 1 -/
def countSaw1 (a : Act) (tr : List (Nat × Label)) : Nat :=
  (tr.filter (fun e => e.2.act == a && e.2.val == 1)).length

theorem countAct_append (a : Act) (tr : List (Nat × Label)) (e : Nat × Label) :
    countAct a (tr ++ [e]) = countAct a tr + (if e.2.act = a then 1 else 0) := by
  unfold countAct
  rw [List.filter_append, List.length_append]
  by_cases h : e.2.act = a <;> simp [h]

theorem countSaw1_append (a : Act) (tr : List (Nat × Label)) (e : Nat × Label) :
    countSaw1 a (tr ++ [e]) = countSaw1 a tr + (if e.2.act = a ∧ e.2.val = 1 then 1 else 0) := by
  unfold countSaw1
  rw [List.filter_append, List.length_append]
  by_cases h : e.2.act = a <;> by_cases h2 : e.2.val = 1 <;> simp [h, h2]

theorem touch_eq (g : Shared) (m : Bool) :
    touch g m = { g with bad := if g.data && (!m || g.mem) then g.bad else g.bad + 1 } := by
  unfold touch; split <;> rfl

theorem Micro.events {g g' : Shared} {t t' : Thread} {pc : Pc} {a : Act} {v : Nat}
    (h : Micro g t pc a v g' t') :
    g'.clears = g.clears + (if a = .clearCb then 1 else 0) ∧
    g'.freesMem = g.freesMem + (if a = .freeMem then 1 else 0) ∧
    g'.freesData = g.freesData + (if a = .freeData then 1 else 0) ∧
    g'.sawH1 = g.sawH1 + (if a = .decHard ∧ v = 1 then 1 else 0) ∧
    g'.sawS1 = g.sawS1 + (if a = .decSoft ∧ v = 1 then 1 else 0) := by
  cases h <;> simp [*]

/-- the counters of the shared state count the corresponding labelled steps (no invariant needed) -/
theorem stepT_events {g g' : Shared} {t t' : Thread} {l : Label} (hs : stepT g t = some (l, g', t')) :
    g'.clears = g.clears + (if l.act = .clearCb then 1 else 0) ∧
    g'.freesMem = g.freesMem + (if l.act = .freeMem then 1 else 0) ∧
    g'.freesData = g.freesData + (if l.act = .freeData then 1 else 0) ∧
    g'.sawH1 = g.sawH1 + (if l.act = .decHard ∧ l.val = 1 then 1 else 0) ∧
    g'.sawS1 = g.sawS1 + (if l.act = .decSoft ∧ l.val = 1 then 1 else 0) := by
  cases StepT.of_eq hs with
  | tau _ => simp [lab]
  | spin _ _ => simp [touch_eq]
  | micro h =>
    have := h.events
    simp only [touch_eq] at this
    exact this

theorem Exec.events {cfg : Cfg} {tr : List (Nat × Label)} {s : State} (h : Exec cfg tr s) :
    s.g.clears = (Conc.init cfg).g.clears + countAct .clearCb tr ∧
    s.g.freesMem = (Conc.init cfg).g.freesMem + countAct .freeMem tr ∧
    s.g.freesData = (Conc.init cfg).g.freesData + countAct .freeData tr ∧
    s.g.sawH1 = (Conc.init cfg).g.sawH1 + countSaw1 .decHard tr ∧
    s.g.sawS1 = (Conc.init cfg).g.sawS1 + countSaw1 .decSoft tr := by
  induction h with
  | init => simp [countAct, countSaw1]
  | step _ hs ih =>
    obtain ⟨t, t', _, hst, _⟩ := stepL_decomp hs
    have := stepT_events hst
    simp only [countAct_append, countSaw1_append]
    omega

theorem slot_set_of_ne {l : List Bool} {i j : Nat} (b : Bool) (h : i ≠ j) :
    slot (l.set i b) j = slot l j := by
  simp [slot, List.getElem?_set_ne h]

theorem slot_set_true_of_slot {l : List Bool} {i j : Nat} (h : slot l j = true) :
    slot (l.set i true) j = true := by
  by_cases hij : i = j
  · subst hij
    simp [slot, lt_of_slot h]
  · rw [slot_set_of_ne _ hij]; exact h

/- A thread-local step never changes `sh` (dispatch only nulls a weak object).  `stepT_slot_cleared`, and
with it the second disjunct of `owner_until_own_reset` ("the only step that makes an owner stop owning is
the `hard--` of its reset"), rest on this: a thread-local exchange of two of the thread's own shared
objects, if the model gained one, would falsify both. -/
theorem begin_sh (op : Op) (t : Thread) : (begin op t).sh = t.sh := by
  cases op <;> simp only [begin] <;> (repeat' split) <;> rfl

theorem resume_sh (k : Cont) (t : Thread) : (resume k t).sh = t.sh := by
  cases k <;> simp only [resume] <;> (repeat' split) <;> rfl

/-- the only step of a thread that makes its object `j` stop referencing the block is the `hard--`
of a reset of `j` -/
theorem stepT_slot_cleared {g g' : Shared} {t t' : Thread} {l : Label}
    (hs : stepT g t = some (l, g', t')) {j : Nat} (hj : slot t.sh j = true)
    (hj' : ¬ slot t'.sh j = true) : ∃ k, t.pc = .r1 j k := by
  -- the `hard--` of a reset of another object leaves `j` alone
  have r1 : ∀ {i : Nat} (k : Cont), ¬ slot (t.sh.set i false) j = true → ∃ k', Pc.r1 i k = .r1 j k' :=
    fun {i} k h => ⟨k, by
      by_cases e : i = j
      · rw [e]
      · rw [slot_set_of_ne _ e] at h; exact absurd hj h⟩
  cases StepT.of_eq hs with
  | spin _ _ => exact absurd hj hj'
  | tau h =>
    cases h with
    | begin => rw [begin_sh] at hj'; exact absurd hj hj'
    | resume => rw [resume_sh] at hj'; exact absurd hj hj'
  | micro h =>
    generalize t.pc = pc at h ⊢
    cases h
    case r1_last | r1_more => exact r1 _ hj'
    case a2 | l3 => exact absurd (slot_set_true_of_slot hj) hj'
    all_goals exact absurd hj hj'

end Cstl.Conc
