import Cstl.Conc.Reach
/-
Progress for C06: a measure that every non-stutter step decreases, absence of
deadlock, schedulers.
-/
namespace Cstl.Conc

/- `rem pc` is the number of steps on the longest path from `pc` to the end of the operation (a spin
not counted).  `costK k` is 1 (the `fin` step) + the largest `rem` of a pc that `resume k` can enter:
`share` 1 + 2 (`a1`), `wfrom` 1 + 1 (`f1`), `lock` 1 + 4 (`l1`).  `costOp op` is 1 (the dispatch) + the
largest `rem` of a pc that `begin op` can enter: `share` 1 + (5 + 3), `reset` 1 + (5 + 1),
`wfrom` 1 + (2 + 2), `lock` 1 + (5 + 5), `wreset` 1 + (2 + 1), `use` 1 + 1. -/
def costK : Cont → Nat
  | .done => 1 | .share _ _ => 3 | .wfrom _ _ => 2 | .lock _ _ => 5

def rem : Pc → Nat
  | .idle => 0
  | .r1 _ k => 5 + costK k
  | .r2a k => 4 + costK k
  | .r2b k => 3 + costK k
  | .w1 k => 2 + costK k
  | .w2 k => 1 + costK k
  | .fin k => costK k
  | .a1 _ _ => 2 | .a2 _ _ => 1 | .f1 _ _ => 1
  | .l1 _ _ => 4 | .l2 _ _ => 3 | .l3 _ _ => 2 | .l3n _ _ => 2 | .l4 _ _ => 1
  | .u _ => 1

def costOp : Op → Nat
  | .share _ _ => 9 | .reset _ => 7 | .wfrom _ _ => 5 | .lock _ _ => 11 | .wreset _ => 4 | .use _ => 2

def mu (t : Thread) : Nat := (t.prog.map costOp).sum + rem t.pc

def measure (s : State) : Nat := tot mu s.ts

theorem begin_mu (op : Op) (t0 : Thread) (hpc : t0.pc = .idle) :
    rem (begin op t0).pc < costOp op ∧ (begin op t0).prog = t0.prog := by
  cases op <;> simp only [begin] <;> repeat' split
  all_goals simp [rem, costOp, costK, hpc]

theorem resume_mu (k : Cont) (t : Thread) :
    rem (resume k t).pc < costK k ∧ (resume k t).prog = t.prog := by
  cases k <;> simp only [resume] <;> repeat' split
  all_goals simp [rem, costK]

theorem Local.mu_lt {t t' : Thread} (h : Local t t') : mu t' < mu t := by
  cases h with
  | @begin sh wk op rest obs =>
    have := begin_mu op ⟨sh, wk, rest, .idle, obs⟩ rfl
    have r0 : rem Pc.idle = 0 := rfl
    simp only [mu, this.2, r0, List.map_cons, List.sum_cons]
    omega
  | @resume sh wk prog k obs =>
    have := resume_mu k ⟨sh, wk, prog, .fin k, obs⟩
    have r0 : rem (Pc.fin k) = costK k := rfl
    simp only [mu, this.2, r0]
    omega

theorem Micro.rem_lt {g g' : Shared} {t t' : Thread} {pc : Pc} {a : Act} {v : Nat}
    (h : Micro g t pc a v g' t') : t'.prog = t.prog ∧ rem t'.pc < rem pc := by
  cases h <;> simp [rem]

/- `hd`: the stutter bit of a failed test-and-set is `decide (touch g false = g)`, so a spin leaves the
state unchanged only if the access to the bookkeeping block is not recorded as bad. -/
theorem stepT_mu {g g' : Shared} {t t' : Thread} {l : Label} (hs : stepT g t = some (l, g', t'))
    (hd : t.pc.visible = true → g.data = true) :
    (l.stutter = false → mu t' < mu t) ∧ (l.stutter = true → g' = g ∧ t' = t) := by
  cases StepT.of_eq hs with
  | tau h => exact ⟨fun _ => h.mu_lt, nofun⟩
  | micro h =>
    have := h.rem_lt
    exact ⟨fun _ => by unfold mu; rw [this.1]; omega, nofun⟩
  | spin hpc _ =>
    have e : touch g false = g := touch_live (hd (by rw [hpc]; rfl)) nofun
    exact ⟨fun h => by simp [e] at h, fun _ => ⟨e, rfl⟩⟩

theorem stepL_measure {s s' : State} {tid : Nat} {l : Label} (i : Inv s) (hs : stepL s tid = some (l, s')) :
    (l.stutter = false → measure s' < measure s) ∧ (l.stutter = true → s' = s) := by
  obtain ⟨t, t', hts, hst, hset⟩ := stepL_decomp hs
  have hm := stepT_mu hst (fun hv => (i.live hts hv).1)
  have e := tot_set mu t' hts
  unfold measure
  rw [hset]
  refine ⟨fun h => ?_, fun h => ?_⟩
  · have := hm.1 h; omega
  · obtain ⟨hg, ht⟩ := hm.2 h
    have h1 : s'.ts = s.ts := by rw [hset, ht]; exact set_getElem?_self hts
    cases s; cases s'; simp_all

def NonStutterEnabled (s : State) (tid : Nat) : Prop :=
  ∃ l s', stepL s tid = some (l, s') ∧ l.stutter = false

theorem stepT_nonstutter (g : Shared) {t : Thread} (hf : t.finished = false)
    (hl : ¬ ((∃ w j, t.pc = .l1 w j) ∧ g.flag = true)) :
    ∃ l g' t', stepT g t = some (l, g', t') ∧ l.stutter = false := by
  unfold stepT
  cases hpc : t.pc
  case idle =>
    cases hp : t.prog with
    | nil => simp [Thread.finished, hpc, hp] at hf
    | cons op rest => exact ⟨_, _, _, rfl, rfl⟩
  case l1 w j =>
    have hfl : g.flag = false := by
      cases hg : g.flag with
      | false => rfl
      | true => exact absurd ⟨⟨w, j, hpc⟩, hg⟩ hl
    simp only [touch_eq, hfl]
    exact ⟨_, _, _, rfl, rfl⟩
  all_goals exact ⟨_, _, _, rfl, rfl⟩

theorem nonStutterEnabled_of {s : State} {tid : Nat} {t : Thread} (hts : s.ts[tid]? = some t)
    (hf : t.finished = false) (hl : ¬ ((∃ w j, t.pc = .l1 w j) ∧ s.g.flag = true)) :
    NonStutterEnabled s tid := by
  obtain ⟨l, g', t', hst, hstut⟩ := stepT_nonstutter s.g hf hl
  exact ⟨l, ⟨g', s.ts.set tid t'⟩, by simp [stepL, hts, hst], hstut⟩

theorem holder_enabled {s : State} {tid : Nat} {t : Thread} (hts : s.ts[tid]? = some t)
    (hh : 0 < hold t) : NonStutterEnabled s tid := by
  apply nonStutterEnabled_of hts
  · unfold Thread.finished
    cases hpc : t.pc <;> simp [hold, hpc, xhold] at hh ⊢
  · rintro ⟨⟨w, j, hpc⟩, -⟩
    simp [hold, hpc, xhold] at hh

theorem Inv.exists_holder {s : State} (i : Inv s) (hf : s.g.flag = true) :
    ∃ (tid : Nat) (t : Thread), s.ts[tid]? = some t ∧ 0 < hold t := by
  have hF := i.flag
  rw [hf, if_pos rfl] at hF
  exact exists_of_tot_pos (by rw [hF]; exact Nat.one_pos)

theorem Inv.no_deadlock {s : State} (i : Inv s) (hu : ∃ t ∈ s.ts, t.finished = false) :
    ∃ tid, NonStutterEnabled s tid := by
  obtain ⟨t, ht, hf⟩ := hu
  obtain ⟨k, hk⟩ := List.mem_iff_getElem?.mp ht
  by_cases hl : (∃ w j, t.pc = .l1 w j) ∧ s.g.flag = true
  · obtain ⟨k', u, hu, hpos⟩ := i.exists_holder hl.2
    exact ⟨k', holder_enabled hu hpos⟩
  · exact ⟨k, nonStutterEnabled_of hk hf hl⟩

/-- the state after `n` scheduling decisions of `sched` (a decision for a finished thread is skipped) -/
def runN (s : State) (sched : Nat → Nat) : Nat → State
  | 0 => s
  | n + 1 => match step (runN s sched n) (sched n) with
    | some s' => s'
    | none => runN s sched n

/-- the scheduler does not starve enabled non-stutter steps: whenever some step that is not a spin is
enabled, it eventually schedules a thread whose step is not a spin -/
def Fair (s : State) (sched : Nat → Nat) : Prop :=
  ∀ n, (∃ tid, NonStutterEnabled (runN s sched n) tid) →
    ∃ m, n ≤ m ∧ NonStutterEnabled (runN s sched m) (sched m)

theorem runN_succ (s : State) (sched : Nat → Nat) (n : Nat) :
    (step (runN s sched n) (sched n) = none ∧ runN s sched (n + 1) = runN s sched n) ∨
    ∃ l, stepL (runN s sched n) (sched n) = some (l, runN s sched (n + 1)) := by
  simp only [runN]
  cases hs : step (runN s sched n) (sched n) with
  | none => exact .inl ⟨rfl, rfl⟩
  | some s' => exact .inr (step_iff.mp hs)

theorem Reachable.runN {cfg : Cfg} {s : State} (h : Reachable cfg s) (sched : Nat → Nat) (n : Nat) :
    Reachable cfg (runN s sched n) := by
  induction n with
  | zero => exact h
  | succ n ih =>
    rcases runN_succ s sched n with ⟨-, e⟩ | ⟨l, hl⟩
    · rw [e]; exact ih
    · exact ih.step hl

theorem measure_runN_succ {cfg : Cfg} {s : State} (h : Reachable cfg s) (sched : Nat → Nat) (n : Nat) :
    measure (runN s sched (n + 1)) ≤ measure (runN s sched n) ∧
    (NonStutterEnabled (runN s sched n) (sched n) → measure (runN s sched (n + 1)) < measure (runN s sched n)) := by
  rcases runN_succ s sched n with ⟨hs, e⟩ | ⟨l, hl⟩
  · refine ⟨by rw [e]; exact Nat.le_refl _, fun ⟨l, s', hl, _⟩ => ?_⟩
    have := step_iff.mpr ⟨l, hl⟩
    rw [hs] at this; cases this
  · have hm := stepL_measure (h.runN sched n).inv hl
    refine ⟨?_, fun ⟨l2, s2, hl2, hst⟩ => ?_⟩
    · cases hst : l.stutter with
      | false => exact Nat.le_of_lt (hm.1 hst)
      | true => rw [hm.2 hst]; exact Nat.le_refl _
    · rw [hl] at hl2
      cases hl2
      exact hm.1 hst

theorem measure_runN_mono {cfg : Cfg} {s : State} (h : Reachable cfg s) (sched : Nat → Nat) (n k : Nat) :
    measure (runN s sched (n + k)) ≤ measure (runN s sched n) := by
  induction k with
  | zero => exact Nat.le_refl _
  | succ k ih => exact Nat.le_trans (measure_runN_succ h sched (n + k)).1 ih

theorem runN_length (s : State) (sched : Nat → Nat) (n : Nat) : (runN s sched n).ts.length = s.ts.length := by
  induction n with
  | zero => rfl
  | succ n ih =>
    rcases runN_succ s sched n with ⟨-, e⟩ | ⟨l, hl⟩
    · rw [e]; exact ih
    · rw [stepL_length hl]; exact ih

theorem runN_succ_of_not_enabled {cfg : Cfg} {s : State} (h : Reachable cfg s) (sched : Nat → Nat) (n : Nat)
    (hne : ¬ NonStutterEnabled (runN s sched n) (sched n)) : runN s sched (n + 1) = runN s sched n := by
  rcases runN_succ s sched n with ⟨-, e⟩ | ⟨l, hl⟩
  · exact e
  · cases hst : l.stutter with
    | true => exact (stepL_measure (h.runN sched n).inv hl).2 hst
    | false => exact absurd ⟨l, _, hl, hst⟩ hne

end Cstl.Conc
