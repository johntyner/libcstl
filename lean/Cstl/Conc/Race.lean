import Cstl.Conc.Reach
/-
Accesses of the micro-steps (for the data-race freedom theorem of C06), the
steps classified by what they access, and the two exclusion lemmas the theorem
rests on.
-/
namespace Cstl.Conc

/-- the memory locations the library's steps touch: the three atomics, the unique pointer embedded
in the bookkeeping block (`data->up`), and the managed memory -/
inductive Loc where
  | hard | soft | lock | up | mem
  deriving DecidableEq, Repr

inductive Kind where
  | atomic   -- seq_cst read-modify-write / flag clear
  | read     -- plain read
  | write    -- plain write (free counts as a write)
  deriving DecidableEq, Repr

/-- what the micro-step at a pc accesses.  `free(data)` writes every part of the block.  `use`
reads the unique pointer and the memory (what the *caller* does with the memory among several live
owners is the caller's business — the property is about the library's bookkeeping — so it is a
read here; against the clear/free of the memory a read already conflicts). -/
def accesses : Pc → List (Loc × Kind)
  | .idle => []
  | .fin _ => []
  | .r1 _ _ => [(.hard, .atomic)]
  | .r2a _ => [(.up, .read), (.mem, .write)]
  | .r2b _ => [(.mem, .write), (.up, .write)]
  | .w1 _ => [(.soft, .atomic)]
  | .w2 _ => [(.hard, .write), (.soft, .write), (.lock, .write), (.up, .write)]
  | .a1 _ _ => [(.hard, .atomic)]
  | .a2 _ _ => [(.soft, .atomic)]
  | .f1 _ _ => [(.soft, .atomic)]
  | .l1 _ _ => [(.lock, .atomic)]
  | .l2 _ _ => [(.hard, .atomic)]
  | .l3 _ _ => [(.soft, .atomic)]
  | .l3n _ _ => [(.hard, .atomic)]
  | .l4 _ _ => [(.lock, .atomic)]
  | .u _ => [(.up, .read), (.mem, .read)]

/-- a data race in the sense of C11: two accesses to the same location, at least one of which modifies it,
not both atomic (every atomic of memory.c modifies, so "not both reads" is the modification clause) -/
def conflict (a b : Loc × Kind) : Prop :=
  a.1 = b.1 ∧ ¬ (a.2 = .atomic ∧ b.2 = .atomic) ∧ ¬ (a.2 = .read ∧ b.2 = .read)

instance (a b : Loc × Kind) : Decidable (conflict a b) := by unfold conflict; infer_instance

/-- the steps by what they access: atomics only (or nothing); the memory and the unique pointer, by
a destroyer or by a user; the whole bookkeeping block, by its freer -/
theorem accesses_cases (p : Pc) :
    (∀ x ∈ accesses p, x.2 = .atomic ∧ ¬ (x.1 = .up ∨ x.1 = .mem)) ∨
    ((∃ k, p = .r2a k ∨ p = .r2b k) ∧ ∀ x ∈ accesses p, x.1 = .up ∨ x.1 = .mem) ∨
    ((∃ j, p = .u j) ∧ ∀ x ∈ accesses p, x.2 = .read ∧ (x.1 = .up ∨ x.1 = .mem)) ∨
    (∃ k, p = .w2 k) := by
  cases p
  case r2a k => exact .inr (.inl ⟨⟨k, .inl rfl⟩, by simp only [accesses]; decide⟩)
  case r2b k => exact .inr (.inl ⟨⟨k, .inr rfl⟩, by simp only [accesses]; decide⟩)
  case u j => exact .inr (.inr (.inl ⟨⟨j, rfl⟩, by simp only [accesses]; decide⟩))
  case w2 k => exact .inr (.inr (.inr ⟨k, rfl⟩))
  all_goals exact .inl (by simp only [accesses]; decide)

theorem accesses_of_not_visible {p : Pc} (h : p.visible = false) : accesses p = [] := by
  cases p <;> simp [Pc.visible] at h <;> rfl

/-- the thread that is about to free the bookkeeping block is alone: no other thread has a micro-step -/
theorem freer_alone {s : State} (i : Inv s) {a b : Nat} {t u : Thread} (hab : a ≠ b)
    (ha : s.ts[a]? = some t) (hb : s.ts[b]? = some u) {k : Cont} (hpc : t.pc = .w2 k) :
    u.pc.visible = false := by
  have hd : dw t = 1 := by simp [dw, hpc, xdw]
  have g1 := tot_ge2 dw hab ha hb
  have g2 := tot_ge sc hb
  have := i.freeing (by omega)
  -- `u` has neither a reference nor its own `w2`, which a well-formed thread with a micro-step needs
  cases hv : u.pc.visible with
  | false => rfl
  | true =>
    have hu := i.wf u (List.mem_of_getElem? hb)
    rcases hu.refs hv with h | h <;> omega

/-- a thread between its `hard--` that returned 1 and the end of the destruction excludes any other
destroyer and any user of the memory -/
theorem destroyer_alone {s : State} (i : Inv s) {a b : Nat} {t u : Thread} (hab : a ≠ b)
    (ha : s.ts[a]? = some t) (hb : s.ts[b]? = some u) {k : Cont} (hpc : t.pc = .r2a k ∨ t.pc = .r2b k) :
    (∀ k, u.pc ≠ .r2a k) ∧ (∀ k, u.pc ≠ .r2b k) ∧ (∀ j, u.pc ≠ .u j) := by
  have hdd : da t + db t = 1 := by
    rcases hpc with h | h <;> simp [da, db, h, xda, xdb]
  have g1 : (da t + db t) + (da u + db u) ≤ tot da s.ts + tot db s.ts := by
    have := tot_ge2 (fun t => da t + db t) hab ha hb
    rw [tot_add] at this
    exact this
  have g2 := tot_ge ec hb
  have := i.destroying (by omega)
  -- `u` is no second destroyer, and it owns no object, as a thread at `u` would
  have hu := i.wf u (List.mem_of_getElem? hb)
  refine ⟨fun k h => ?_, fun k h => ?_, fun j h => ?_⟩
  · have : da u + db u = 1 := by simp [da, db, h, xda, xdb]
    omega
  · have : da u + db u = 1 := by simp [da, db, h, xda, xdb]
    omega
  · unfold WF at hu
    simp only [h] at hu
    have := slot_pos hu
    simp only [ec] at g2
    omega


end Cstl.Conc
