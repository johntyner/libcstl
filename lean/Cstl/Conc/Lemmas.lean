import Cstl.Conc.Model
/-
Helper lemmas for C06: counting `true` entries of a pointer-object vector
under `set`, and sums of a per-thread quantity under replacement of one thread.
-/
namespace Cstl.Conc

theorem cnt_nil : cnt [] = 0 := rfl

theorem slot_iff {l : List Bool} {j : Nat} : slot l j = true ↔ l[j]? = some true := by
  simp [slot]

theorem cnt_set {l : List Bool} {j : Nat} (hj : j < l.length) (b : Bool) :
    cnt (l.set j b) + (if l[j] then 1 else 0) = cnt l + (if b then 1 else 0) := by
  unfold cnt
  rw [List.count_set hj]
  have := List.count_pos_iff.mpr (show l[j] ∈ l from List.getElem_mem hj)
  cases b <;> cases hl : l[j] <;> rw [hl] at this <;> simp <;> omega

theorem cnt_set_false {l : List Bool} {j : Nat} (h : slot l j = true) :
    cnt (l.set j false) + 1 = cnt l := by
  obtain ⟨hj, e⟩ := List.getElem?_eq_some_iff.mp (slot_iff.mp h)
  simpa [e] using cnt_set hj false

theorem cnt_set_true {l : List Bool} {j : Nat} (h : l[j]? = some false) :
    cnt (l.set j true) = cnt l + 1 := by
  obtain ⟨hj, e⟩ := List.getElem?_eq_some_iff.mp h
  simpa [e] using cnt_set hj true

theorem slot_pos {l : List Bool} {j : Nat} (h : slot l j = true) : 0 < cnt l := by
  have := cnt_set_false h
  omega

theorem not_slot_of_lt {l : List Bool} {j : Nat} (hj : j < l.length) (h : slot l j = false) :
    l[j]? = some false := by
  simp only [slot, beq_eq_false_iff_ne, ne_eq] at h
  rw [List.getElem?_eq_getElem hj] at h ⊢
  cases hb : l[j] <;> simp_all

theorem getElem?_set_self' {l : List Bool} {j : Nat} (hj : j < l.length) (b : Bool) :
    (l.set j b)[j]? = some b :=
  List.getElem?_set_self hj

theorem lt_of_getElem?_eq_some {α : Type} {l : List α} {j : Nat} {b : α} (h : l[j]? = some b) :
    j < l.length :=
  (List.getElem?_eq_some_iff.mp h).1

theorem set_getElem?_self {α : Type} {l : List α} {i : Nat} {a : α} (h : l[i]? = some a) :
    l.set i a = l := by
  obtain ⟨hlt, rfl⟩ := List.getElem?_eq_some_iff.mp h
  exact List.set_getElem_self hlt

theorem lt_of_slot {l : List Bool} {j : Nat} (h : slot l j = true) : j < l.length :=
  lt_of_getElem?_eq_some (slot_iff.mp h)

def tot (f : Thread → Nat) (ts : List Thread) : Nat := (ts.map f).sum

theorem tot_nil (f : Thread → Nat) : tot f [] = 0 := rfl

theorem tot_cons (f : Thread → Nat) (t : Thread) (ts : List Thread) :
    tot f (t :: ts) = f t + tot f ts := List.sum_cons

theorem tot_eraseIdx (f : Thread → Nat) {ts : List Thread} {i : Nat} {t : Thread}
    (h : ts[i]? = some t) : tot f ts = f t + tot f (ts.eraseIdx i) := by
  induction ts generalizing i with
  | nil => simp at h
  | cons a ts ih =>
    cases i with
    | zero =>
      simp at h
      subst h
      rfl
    | succ i =>
      simp at h
      have := ih h
      simp only [List.eraseIdx_cons_succ, tot_cons]
      omega

theorem tot_set_eraseIdx (f : Thread → Nat) {ts : List Thread} {i : Nat} {t : Thread} (t' : Thread)
    (h : ts[i]? = some t) : tot f (ts.set i t') = f t' + tot f (ts.eraseIdx i) := by
  rw [tot_eraseIdx f (List.getElem?_set_self (lt_of_getElem?_eq_some h)), List.eraseIdx_set_eq]

theorem tot_set (f : Thread → Nat) {ts : List Thread} {i : Nat} {t : Thread} (t' : Thread)
    (h : ts[i]? = some t) : tot f (ts.set i t') + f t = tot f ts + f t' := by
  rw [tot_set_eraseIdx f t' h, tot_eraseIdx f h]
  omega

theorem tot_ge (f : Thread → Nat) {ts : List Thread} {i : Nat} {t : Thread}
    (h : ts[i]? = some t) : f t ≤ tot f ts := by
  rw [tot_eraseIdx f h]
  omega

theorem tot_ge2 (f : Thread → Nat) {ts : List Thread} {i j : Nat} {t u : Thread}
    (hij : i ≠ j) (hi : ts[i]? = some t) (hj : ts[j]? = some u) : f t + f u ≤ tot f ts := by
  rw [tot_eraseIdx f hi]
  -- `u` is one of the other threads, at index `j` or `j - 1`
  have hu : ∃ k : Nat, (ts.eraseIdx i)[k]? = some u := by
    rcases Nat.lt_or_gt_of_ne hij with hlt | hlt
    · refine ⟨j - 1, ?_⟩
      rw [List.getElem?_eraseIdx_of_ge (by omega), Nat.sub_add_cancel (by omega)]
      exact hj
    · exact ⟨j, by rw [List.getElem?_eraseIdx_of_lt hlt]; exact hj⟩
  obtain ⟨k, hk⟩ := hu
  have := tot_ge f hk
  omega

theorem tot_add (f g : Thread → Nat) (ts : List Thread) :
    tot (fun t => f t + g t) ts = tot f ts + tot g ts := by
  induction ts with
  | nil => rfl
  | cons a ts ih => simp only [tot_cons, ih]; omega

theorem tot_le (f g : Thread → Nat) (h : ∀ t, f t ≤ g t) (ts : List Thread) : tot f ts ≤ tot g ts := by
  induction ts with
  | nil => simp [tot]
  | cons a ts ih => have := h a; simp only [tot_cons]; omega

theorem tot_congr {f g : Thread → Nat} {ts : List Thread} (h : ∀ t ∈ ts, f t = g t) :
    tot f ts = tot g ts :=
  congrArg List.sum (List.map_congr_left h)

theorem tot_zero {f : Thread → Nat} {ts : List Thread} (h : ∀ t ∈ ts, f t = 0) : tot f ts = 0 :=
  List.sum_eq_zero_iff_forall_eq_nat.mpr fun _ hx => by
    obtain ⟨t, ht, rfl⟩ := List.mem_map.mp hx
    exact h t ht

theorem tot_eq_zero {f : Thread → Nat} {ts : List Thread} (h : tot f ts = 0) :
    ∀ t ∈ ts, f t = 0 :=
  fun _ ht => List.sum_eq_zero_iff_forall_eq_nat.mp h _ (List.mem_map_of_mem ht)

theorem tot_pos_of_mem {f : Thread → Nat} {ts : List Thread} {t : Thread} (ht : t ∈ ts) (h : 0 < f t) :
    0 < tot f ts :=
  List.sum_pos_iff_exists_pos_nat.mpr ⟨_, List.mem_map_of_mem ht, h⟩

theorem exists_of_tot_pos {f : Thread → Nat} {ts : List Thread} (h : 0 < tot f ts) :
    ∃ (i : Nat) (t : Thread), ts[i]? = some t ∧ 0 < f t := by
  obtain ⟨x, hx, hpos⟩ := List.sum_pos_iff_exists_pos_nat.mp h
  obtain ⟨t, ht, rfl⟩ := List.mem_map.mp hx
  obtain ⟨i, hi⟩ := List.getElem?_of_mem ht
  exact ⟨i, t, hi, hpos⟩

end Cstl.Conc
