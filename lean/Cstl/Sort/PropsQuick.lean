import Cstl.Sort.LemmasQuick
/-
C11 for the three quicksort selectors: the partition loop, the recursion,
termination, and the recorded random-pivot corner.
-/
namespace Cstl.Sort

/-- **partition spec**: `partition_ok` with the permutation in list terms.  For `cstl_raw_array_qsort_p`
(the model's `partition`) on the range `(lo, cnt)` with the pivot at relative position `p`, the call
returns (every access inside the range, both scans stop, the loop finishes), the array is a permutation
that is unchanged outside the range, the returned index `m` is inside the
range and splits it (everything up to `m` is `≤` the pivot value, everything
after it is `≥`), and both sub-ranges `[0,m]` and `(m,cnt)` are strictly
smaller than `cnt` — except in exactly one corner: the pivot sits at the last
position and is the strict maximum; then `m = cnt - 1`, nothing was swapped and
the left sub-range is the whole range again. -/
theorem qsortP_spec (s : St) (lo cnt p : Nat) (hb : lo + cnt ≤ s.arr.size) (hp : p < cnt) :
    ∃ s' m, partition s lo cnt p = .ok (s', m) ∧
      s'.arr.toList.Perm s.arr.toList ∧
      (∀ k, (k < lo ∨ lo + cnt ≤ k) → s'.arr[k]? = s.arr[k]?) ∧
      s'.rnd = s.rnd ∧ s'.dflt = s.dflt ∧
      m < cnt ∧
      (∀ t, t ≤ m → ak s'.arr (lo + t) ≤ ak s.arr (lo + p)) ∧
      (∀ t, m < t → t < cnt → ak s.arr (lo + p) ≤ ak s'.arr (lo + t)) ∧
      cnt - m - 1 < cnt ∧
      (m + 1 < cnt ∨
        (m + 1 = cnt ∧ p = cnt - 1 ∧ (∀ t, t < cnt - 1 → ak s.arr (lo + t) < ak s.arr (lo + p)) ∧
          s'.arr = s.arr)) ∧
      ((p = cnt - 1 ∧ ∀ t, t < cnt - 1 → ak s.arr (lo + t) < ak s.arr (lo + p)) → m + 1 = cnt) := by
  obtain ⟨⟨s', m⟩, h, hmv, hm, hle, hge, hcorner, hsame⟩ := partition_ok s lo cnt p hb hp
  dsimp only at hmv hm hle hge hcorner hsame
  have hlast : m = cnt - 1 → m + 1 = cnt := fun e => e ▸ Nat.sub_add_cancel (Nat.zero_lt_of_lt hp)
  -- in the order of the statement: the run; permutation and frame; the `rand()` stream; the split
  -- property; the sizes of the two parts; the corner, both directions
  refine ⟨s', m, h, hmv.sw.perm, fun k hk => hmv.sw.outside hk, hmv.rnd, hmv.dflt, hm, hle, hge,
    right_smaller hm, ?_, fun hc => hlast (hcorner.2 hc)⟩
  by_cases e : m = cnt - 1
  · exact .inr ⟨hlast e, (hcorner.1 e).1, (hcorner.1 e).2, hsame e⟩
  · exact .inl (Nat.lt_of_le_of_ne (Nat.succ_le_of_lt hm) fun h => e (Nat.eq_sub_of_add_eq h))

example : (partition { arr := #[⟨2, 0⟩, ⟨3, 1⟩, ⟨1, 2⟩, ⟨2, 3⟩] } 0 4 0).toOption.map (fun r => (r.1.arr, r.2)) =
    some (#[⟨2, 3⟩, ⟨1, 2⟩, ⟨3, 1⟩, ⟨2, 0⟩], 1) := by decide

/-- the hypotheses of `qsortP_spec` hold on a sub-range of a concrete array -/
example : True := by
  have := qsortP_spec { arr := #[⟨9, 0⟩, ⟨2, 1⟩, ⟨3, 2⟩, ⟨1, 3⟩, ⟨2, 4⟩] } 1 4 2 (by decide) (by decide)
  trivial

/-- **quicksort returns a sorted permutation whenever it finishes** — for
every selector (first element, random, median of three), every `rand()`
stream, every fuel; and it never touches anything outside `[0,count)`: the only
way not to return is running out of fuel. -/
theorem qsort_sorted_perm (algo fuel : Nat) (s : St) :
    (∃ s', qsort algo fuel s 0 s.arr.size = .ok s' ∧
      s'.arr.toList.Perm s.arr.toList ∧
      s'.arr.toList.Pairwise (fun x y => x.key ≤ y.key)) ∨
    qsort algo fuel s 0 s.arr.size = .error .fuel := by
  exact (qsort_whole algo fuel s).imp_right (·.1)

/-- the same on a sub-range, as the recursive calls see it: only the range is
touched -/
theorem qsort_range (algo fuel : Nat) (s : St) (lo cnt : Nat) (hb : lo + cnt ≤ s.arr.size) :
    (∃ s', qsort algo fuel s lo cnt = .ok s' ∧ s'.arr.toList.Perm s.arr.toList ∧
      SortedR s'.arr lo cnt ∧ ∀ k, (k < lo ∨ lo + cnt ≤ k) → s'.arr[k]? = s.arr[k]?) ∨
    qsort algo fuel s lo cnt = .error .fuel := by
  rcases qsort_main algo fuel s lo cnt hb with ⟨s', h, q⟩ | ⟨h, _⟩
  · exact .inl ⟨s', h, q.drew.sw.perm, q.sorted, fun k hk => q.drew.sw.outside hk⟩
  · exact .inr h

/-- **quicksort with the first-element or the median-of-three pivot finishes**:
nesting depth `count` suffices (every recursive call is on a strictly smaller
range). -/
theorem qsort_terminates (algo fuel : Nat) (s : St) (halgo : algo ≠ 1) (hf : s.arr.size ≤ fuel) :
    ∃ s', qsort algo fuel s 0 s.arr.size = .ok s' ∧
      s'.arr.toList.Perm s.arr.toList ∧
      s'.arr.toList.Pairwise (fun x y => x.key ≤ y.key) := by
  exact (qsort_whole algo fuel s).resolve_right fun h => h.2 (.of_det s halgo hf)

/-- **random pivot: which streams terminate.**  A stream is a finite list of
explicit draws followed by the constant `dflt`.  If the constant is 0 (what
the check's `rand()` returns after the scripted draws) the sort finishes within
nesting depth `count + number of explicit draws`: a draw can make a call
re-enter with the same range (it must pick the last index while that holds the
strict maximum), but each such re-entry consumes a draw, and the draw 0 never
does it. -/
theorem qsort_random_terminates (fuel : Nat) (s : St) (hd : s.dflt = 0)
    (hf : s.arr.size + s.rnd.length ≤ fuel) :
    ∃ s', qsort 1 fuel s 0 s.arr.size = .ok s' ∧
      s'.arr.toList.Perm s.arr.toList ∧
      s'.arr.toList.Pairwise (fun x y => x.key ≤ y.key) := by
  exact (qsort_whole 1 fuel s).resolve_right fun h => h.2 (.of_zeros hd hf)

/-- a stream with three "last index" draws on `[1,2,3]` (each re-enters the
same range) still finishes within `count + 3` -/
example : True := by
  have := qsort_random_terminates 6 { arr := #[⟨1, 0⟩, ⟨2, 1⟩, ⟨3, 2⟩], rnd := [2, 2, 2] } rfl (by decide)
  trivial
example : (qsort 1 6 { arr := #[⟨1, 0⟩, ⟨2, 1⟩, ⟨3, 2⟩], rnd := [2, 2, 2] } 0 3).toOption.map (·.rnd) = some [] := by
  decide
/-- … and does not finish within nesting depth `count` (the deterministic bound) -/
example : (match qsort 1 3 { arr := #[⟨1, 0⟩, ⟨2, 1⟩, ⟨3, 2⟩], rnd := [2, 2, 2] } 0 3 with
    | .error .fuel => true | _ => false) = true := by decide

/-- **the recorded non-termination corner of the random pivot**: on a range of
at least two elements whose last element is the strict maximum, the stream
that answers "last index" forever (`dflt % cnt = cnt - 1`, no explicit draws)
never finishes — for *every* fuel the result is "did not finish".  (In C:
unbounded recursion with the same arguments; harmless with the real `rand()`,
which does not return the same residue forever.) -/
theorem qsort_random_diverges (lo cnt : Nat) (hc : 1 < cnt) :
    ∀ (fuel : Nat) (s : St), lo + cnt ≤ s.arr.size → s.rnd = [] → s.dflt % cnt = cnt - 1 →
      (∀ t, t < cnt - 1 → ak s.arr (lo + t) < ak s.arr (lo + (cnt - 1))) →
      qsort 1 fuel s lo cnt = .error .fuel := by
  intro fuel
  induction fuel with
  | zero => intro s _ _ _ _; rw [qsort, if_pos hc]
  | succ f ih =>
    intro s hb hr hd hmax
    -- the draw is the default, i.e. the last index, and consumes nothing …
    have hpk : pickPivot 1 s lo cnt = .ok (s, cnt - 1) := by
      unfold pickPivot
      rw [if_pos rfl, draw_nil hr]
      dsimp only
      rw [hd]
      rfl
    -- … so the partition leaves everything in place and returns the whole range as its left part
    obtain ⟨⟨s2, m⟩, hpt, hmv, _, _, _, hcorner, hsame⟩ := partition_ok s lo cnt (cnt - 1) hb (by omega)
    dsimp only at hmv hcorner hsame
    have hm : m = cnt - 1 := hcorner.2 ⟨rfl, hmax⟩
    have ha2 : s2.arr = s.arr := hsame hm
    have := ih s2 (by rw [ha2]; exact hb) (hmv.rnd.trans hr) (hmv.dflt.symm ▸ hd) (by rw [ha2]; exact hmax)
    rw [qsort, if_pos hc, bind_of_ok hpk]
    dsimp only
    rw [if_pos (.inl (by decide)), bind_of_ok hpt]
    dsimp only
    rw [hm, Nat.sub_add_cancel (Nat.le_of_lt hc), this]
    rfl

/-- the smallest instance: `[1,2,3]`, `rand()` ≡ 2 -/
example : ∀ fuel, qsort 1 fuel { arr := #[⟨1, 0⟩, ⟨2, 1⟩, ⟨3, 2⟩], dflt := 2 } 0 3 = .error .fuel :=
  fun fuel => qsort_random_diverges 0 3 (by decide) fuel _ (by decide) rfl (by decide) (by
    intro t ht
    have : t = 0 ∨ t = 1 := by omega
    rcases this with rfl | rfl <;> decide)

example : (qsort 0 5 { arr := #[⟨2, 0⟩, ⟨3, 1⟩, ⟨1, 2⟩, ⟨2, 3⟩, ⟨1, 4⟩] } 0 5).toOption.map (·.arr) =
    some #[⟨1, 2⟩, ⟨1, 4⟩, ⟨2, 3⟩, ⟨2, 0⟩, ⟨3, 1⟩] := by decide

end Cstl.Sort
