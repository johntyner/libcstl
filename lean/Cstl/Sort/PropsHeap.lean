import Cstl.Sort.LemmasHeap
/-
C11 for the heapsort selector (`cstl_raw_array_hsort`).
-/
namespace Cstl.Sort

/-- **heapsort returns a sorted permutation** of the whole array: it always
returns (never `oob`, never out of fuel), the result holds exactly the input
elements (`List.Perm` on the `(key,id)` elements: nothing lost, duplicated or
altered) in non-decreasing key order; the `rand()` stream is untouched. -/
theorem hsort_sorted_perm (s : St) :
    ∃ s', hsort s 0 s.arr.size = .ok s' ∧
      s'.arr.toList.Perm s.arr.toList ∧
      s'.arr.toList.Pairwise (fun x y => x.key ≤ y.key) ∧
      s'.rnd = s.rnd ∧ s'.dflt = s.dflt := by
  obtain ⟨s', h, hm, hs⟩ := hsort_ok s 0 s.arr.size (Nat.le_of_eq (Nat.zero_add _))
  obtain ⟨hp, hsorted⟩ := sorted_perm_of hm.sw hs
  exact ⟨s', h, hp, hsorted, hm.rnd, hm.dflt⟩

/-- heapsort of a sub-range `(lo, cnt)`: sorted inside, untouched outside,
every access inside the sub-range -/
theorem hsort_range (s : St) (lo cnt : Nat) (hb : lo + cnt ≤ s.arr.size) :
    ∃ s', hsort s lo cnt = .ok s' ∧ s'.arr.toList.Perm s.arr.toList ∧
      SortedR s'.arr lo cnt ∧ ∀ k, (k < lo ∨ lo + cnt ≤ k) → s'.arr[k]? = s.arr[k]? := by
  obtain ⟨s', h, hm, hs⟩ := hsort_ok s lo cnt hb
  exact ⟨s', h, hm.sw.perm, hs, fun k hk => hm.sw.outside hk⟩

example : (hsort { arr := #[⟨3, 0⟩, ⟨1, 1⟩, ⟨2, 2⟩, ⟨3, 3⟩, ⟨0, 4⟩] } 0 5).toOption.map (·.arr) =
    some #[⟨0, 4⟩, ⟨1, 1⟩, ⟨2, 2⟩, ⟨3, 3⟩, ⟨3, 0⟩] := by decide

end Cstl.Sort
