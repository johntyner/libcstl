/-
Executable model of the raw-array algorithms of src/array.c
(`cstl_raw_array_sort` and its selectors, `cstl_raw_array_search`,
`cstl_raw_array_find`, `cstl_raw_array_reverse`) and of `cstl_swap`
(include/cstl/common.h).  The vector wrappers of src/vector.c pass
`(base, count, size, scratch = slot cap)` through unchanged, so they are the
same model functions.

Conventions (DESIGN 3, Conventions / C11):
* an element is `(key, id)`; the comparison callback compares keys; `id` is
  the rest of the element's bytes (what makes "byte-identical" observable);
* the array is an `Array Elem` whose size is the `count` handed to the C
  function, plus ONE scratch cell `scr` (the `tmp` / `t` argument);
* a C function that receives `(arr + lo*size, cnt)` is modelled on the range
  `(lo, cnt)` of the one global array; every element access goes through
  `rd`-style checks `k < cnt ∧ lo + k < size` and yields `Stop.oob` otherwise
  (never a default value);
* every loop has explicit fuel; `Stop.fuel` = "did not finish" (theorems show
  which fuel suffices); `Stop.ovf` = a value left the range of C `int`
  (`search` / `reverse` keep their indices in `int`);
* every comparison-callback and swap-callback call is appended to a log with
  the canonical (index) form of its pointer arguments, in call order;
* `rand()` is the oracle stream `rnd` (consumed front to back), then `dflt`
  forever.
-/
namespace Cstl.Sort

structure Elem where
  key : Int
  id : Nat
deriving Repr, DecidableEq, Inhabited

inductive Stop where
  | oob    -- an access outside [0,count) of the array handed to the function
  | fuel   -- did not finish within the fuel
  | ovf    -- a C `int` intermediate does not fit 32 bits
deriving Repr, DecidableEq, Inhabited

/-- canonical form of a pointer handed to a callback -/
inductive Loc where
  | idx (i : Nat)   -- &arr[i] (global index)
  | probe           -- the sought element `ex`
deriving Repr, DecidableEq, Inhabited

inductive Ev where
  | cmp (a b : Loc)
  | swap (a b : Nat)
deriving Repr, DecidableEq, Inhabited

/-! ### callback log (full event list for small arrays, rolling hash always) -/

def hmod : Nat := 2147483647

def mix (h v : Nat) : Nat := (h * 1000003 + v) % hmod

def Loc.code : Loc → Nat
  | .probe => 0
  | .idx i => i + 2

structure Log where
  keep : Bool := true
  evs : List Ev := []      -- newest first (only when `keep`)
  ncmp : Nat := 0
  nswap : Nat := 0
  h : Nat := 0
deriving Repr, Inhabited

def Log.cmp (l : Log) (a b : Loc) : Log :=
  { l with evs := if l.keep then Ev.cmp a b :: l.evs else l.evs,
           ncmp := l.ncmp + 1,
           h := mix (mix (mix l.h 1) a.code) b.code }

def Log.swap (l : Log) (a b : Nat) : Log :=
  { l with evs := if l.keep then Ev.swap a b :: l.evs else l.evs,
           nswap := l.nswap + 1,
           h := mix (mix (mix l.h 2) (a + 2)) (b + 2) }

/-! ### state -/

structure St where
  arr : Array Elem
  scr : Elem := ⟨0, 0⟩
  rnd : List Nat := []
  dflt : Nat := 0
  log : Log := {}
deriving Repr, Inhabited

abbrev R (α : Type) := Except Stop α

/-- result of the comparison callback: `(a > b) - (a < b)` on the keys -/
def cmpKey (x y : Elem) : Int :=
  if x.key < y.key then -1 else if x.key > y.key then 1 else 0

/-- `cmp(at(i), at(j), priv)` inside a function that was handed `(arr+lo, cnt)` -/
def cmpAt (s : St) (lo cnt i j : Nat) : R (St × Int) :=
  if h : (i < cnt ∧ lo + i < s.arr.size) ∧ (j < cnt ∧ lo + j < s.arr.size) then
    .ok ({ s with log := s.log.cmp (.idx (lo + i)) (.idx (lo + j)) },
         cmpKey (s.arr[lo + i]'h.1.2) (s.arr[lo + j]'h.2.2))
  else .error .oob

/-- `cmp(ex, at(k), priv)` -/
def cmpProbe (s : St) (cnt : Nat) (x : Elem) (k : Nat) : R (St × Int) :=
  if h : k < cnt ∧ k < s.arr.size then
    .ok ({ s with log := s.log.cmp .probe (.idx k) }, cmpKey x (s.arr[k]'h.2))
  else .error .oob

/-- `swap(at(i), at(j), t, size)` with `swap = cstl_swap`:
`*t = *a; *a = *b; *b = *t` -/
def swapAt (s : St) (lo cnt i j : Nat) : R St :=
  if h : (i < cnt ∧ lo + i < s.arr.size) ∧ (j < cnt ∧ lo + j < s.arr.size) then
    match s with
    | { arr, scr := _, rnd, dflt, log } =>
      let t := arr[lo + i]'h.1.2
      let a1 := arr.set (lo + i) (arr[lo + j]'h.2.2) h.1.2
      let a2 := a1.set (lo + j) t (by simpa [a1] using h.2.2)
      .ok { arr := a2, scr := t, rnd, dflt, log := log.swap (lo + i) (lo + j) }
  else .error .oob

/-! ### quicksort -/

/-- `while (cmp(a = at(i), p) < 0) i++;` -/
def scanUp (lo cnt p : Nat) : Nat → St → Nat → R (St × Nat)
  | 0, _, _ => .error .fuel
  | f + 1, s, i => do
    let (s, c) ← cmpAt s lo cnt i p
    if c < 0 then scanUp lo cnt p f s (i + 1) else pure (s, i)

/-- `while (cmp(b = at(j), p) > 0) j--;`  (`j` is a `size_t`: decrementing 0
wraps to SIZE_MAX, and the next access is outside the array) -/
def scanDown (lo cnt p : Nat) : Nat → St → Nat → R (St × Nat)
  | 0, _, _ => .error .fuel
  | f + 1, s, j => do
    let (s, c) ← cmpAt s lo cnt j p
    if c > 0 then
      if j = 0 then .error .oob else scanDown lo cnt p f s (j - 1)
    else pure (s, j)

/-- The `do { if (a != b) {swap; track p; i++; j--;} scan; scan; } while (i < j)`
loop of `cstl_raw_array_qsort_p`, entered after the first pair of scans:
`a != b` holds exactly on the iterations after the first, where `i < j`. -/
def partLoop (lo cnt : Nat) : Nat → St → Nat → Nat → Nat → R (St × Nat)
  | 0, _, _, _, _ => .error .fuel
  | f + 1, s, p, i, j =>
    if i < j then do
      let s ← swapAt s lo cnt i j
      let p := if p = i then j else if p = j then i else p
      let (s, i) ← scanUp lo cnt p (cnt + 1) s (i + 1)
      let (s, j) ← scanDown lo cnt p (cnt + 1) s (j - 1)
      partLoop lo cnt f s p i j
    else pure (s, j)

/-- `cstl_raw_array_qsort_p(arr+lo, cnt, …, p = at(p))`; returns `j` -/
def partition (s : St) (lo cnt p : Nat) : R (St × Nat) :=
  if cnt = 0 then .error .oob   -- j = count - 1 wraps
  else do
    let (s, i) ← scanUp lo cnt p (cnt + 1) s 0
    let (s, j) ← scanDown lo cnt p (cnt + 1) s (cnt - 1)
    partLoop lo cnt cnt s p i j

/-- `rand()` -/
def draw (s : St) : St × Nat :=
  match s.rnd with
  | [] => (s, s.dflt)
  | r :: rs => ({ s with rnd := rs }, r)

/-- `if (cmp(at(a), at(b)) < 0) swap(at(a), at(b))` -/
def condSwap (s : St) (lo cnt a b : Nat) : R St := do
  let (s, c) ← cmpAt s lo cnt a b
  if c < 0 then swapAt s lo cnt a b else pure s

/-- the in-place 3-sort of `beg`, `mid`, `end` for median-of-three:
`if (end < beg) swap(end, beg); if (mid < beg) swap(mid, beg); else if (end < mid) swap(end, mid)` -/
def med3 (s : St) (lo cnt : Nat) : R St := do
  let s ← condSwap s lo cnt (cnt - 1) 0
  let (s, c) ← cmpAt s lo cnt ((cnt - 1) / 2) 0
  if c < 0 then swapAt s lo cnt ((cnt - 1) / 2) 0
  else condSwap s lo cnt (cnt - 1) ((cnt - 1) / 2)

/-- the pivot choice of `cstl_raw_array_qsort` (`count > 1`): `rand() % count`,
the middle position after the 3-sort, or position 0 -/
def pickPivot (algo : Nat) (s : St) (lo cnt : Nat) : R (St × Nat) :=
  if algo = 1 then
    let (s, r) := draw s
    pure (s, r % cnt)
  else if algo = 2 then do
    let s ← med3 s lo cnt
    pure (s, (cnt - 1) / 2)
  else pure (s, 0)

/-- `cstl_raw_array_qsort`; `algo`: 1 = random pivot, 2 = median of three,
anything else = first element.  Fuel = nesting depth of calls with
`count > 1`. -/
def qsort (algo : Nat) : Nat → St → Nat → Nat → R St
  | 0, s, _, cnt => if cnt > 1 then .error .fuel else pure s
  | f + 1, s, lo, cnt =>
    if cnt > 1 then do
      let (s, p) ← pickPivot algo s lo cnt
      if algo ≠ 2 ∨ cnt > 3 then do
        let (s, m) ← partition s lo cnt p
        let s ← qsort algo f s lo (m + 1)
        qsort algo f s (lo + m + 1) (cnt - m - 1)
      else pure s
    else pure s

/-! ### heapsort -/

/-- the body of the `hsort_b` loop that selects `c`: `n` itself or its greater
child when that child is greater than `n` (`l = 2n+1`, `r = l+1`; the second
comparison is against the current candidate `c`) -/
def pickChild (s : St) (lo cnt n : Nat) : R (St × Nat) := do
  let l := 2 * n + 1
  let r := l + 1
  let (s, c) ←
    (if l < cnt then do
      let (s, x) ← cmpAt s lo cnt l n
      pure (s, if x > 0 then l else n)
    else pure (s, n) : R (St × Nat))
  if r < cnt then do
    let (s, x) ← cmpAt s lo cnt r c
    pure (s, if x > 0 then r else c)
  else pure (s, c)

/-- `cstl_raw_array_hsort_b(arr+lo, cnt, n)`: one fuel unit per loop iteration
(the swap at the top of the C loop body is the one decided at the bottom of
the previous iteration) -/
def siftDown (lo cnt : Nat) : Nat → St → Nat → R St
  | 0, _, _ => .error .fuel
  | f + 1, s, n => do
    let (s, c) ← pickChild s lo cnt n
    if n ≠ c then do
      let s ← swapAt s lo cnt n c
      siftDown lo cnt f s c
    else pure s

/-- `for (i = k - 1; i >= 0; i--) hsort_b(arr, cnt, i)` -/
def heapify (lo cnt : Nat) : Nat → St → R St
  | 0, s => pure s
  | k + 1, s => do
    let s ← siftDown lo cnt cnt s k
    heapify lo cnt k s

/-- `for (i = k; i > 0; i--) { swap(arr, at(i)); hsort_b(arr, i, 0); }` -/
def extract (lo cnt : Nat) : Nat → St → R St
  | 0, s => pure s
  | i + 1, s => do
    let s ← swapAt s lo cnt 0 (i + 1)
    let s ← siftDown lo (i + 1) (i + 1) s 0
    extract lo cnt i s

/-- `cstl_raw_array_hsort` -/
def hsort (s : St) (lo cnt : Nat) : R St :=
  if cnt > 1 then do
    let s ← heapify lo cnt (cnt / 2) s
    extract lo cnt (cnt - 1) s
  else pure s

/-! ### dispatch -/

/-- selector after the `default:` fallback of `cstl_raw_array_sort` -/
def effAlgo (algo : Nat) : Nat := if algo ≤ 3 then algo else 2

/-- `cstl_raw_array_sort(arr, count = s.arr.size, …, algo)`; `fuel` is the
quicksort nesting budget -/
def sort (fuel : Nat) (s : St) (algo : Nat) : R St :=
  let a := effAlgo algo
  if a = 3 then hsort s 0 s.arr.size else qsort a fuel s 0 s.arr.size

/-- the fuel the driver uses: enough for every stream that ends in 0s -/
def sortFuel (s : St) : Nat := s.arr.size + s.rnd.length + 1

/-! ### search / find / reverse (indices are C `int`) -/

def i32 (v : Int) : R Int :=
  if -2147483648 ≤ v ∧ v ≤ 2147483647 then pure v else .error .ovf

/-- `(size_t)v` used as an index: a negative `int` becomes a huge index -/
def idx (v : Int) : R Nat := if v < 0 then .error .oob else pure v.toNat

/-- `int j = count - 1` (narrowing conversion of a `size_t`) -/
def lastIdx (cnt : Nat) : R Int :=
  if cnt = 0 then pure (-1) else i32 ((cnt : Int) - 1)

def searchLoop (cnt : Nat) (x : Elem) : Nat → St → Int → Int → R (St × Int)
  | 0, _, _, _ => .error .fuel
  | f + 1, s, i, j =>
    if i ≤ j then do
      let sum ← i32 (i + j)
      let n := Int.tdiv sum 2
      let k ← idx n
      let (s, eq) ← cmpProbe s cnt x k
      if eq = 0 then pure (s, n)
      else if eq < 0 then do
        let j ← i32 (n - 1)
        searchLoop cnt x f s i j
      else do
        let i ← i32 (n + 1)
        searchLoop cnt x f s i j
    else pure (s, -1)

/-- `cstl_raw_array_search(arr, count = s.arr.size, …, ex = x)` -/
def search (s : St) (x : Elem) : R (St × Int) := do
  let j ← lastIdx s.arr.size
  searchLoop s.arr.size x (s.arr.size + 1) s 0 j

def findLoop (cnt : Nat) (x : Elem) : Nat → St → Nat → R (St × Int)
  | 0, _, _ => .error .fuel
  | f + 1, s, i =>
    if i < cnt then do
      let (s, eq) ← cmpProbe s cnt x i
      if eq = 0 then pure (s, (i : Int)) else findLoop cnt x f s (i + 1)
    else pure (s, -1)

/-- `cstl_raw_array_find` -/
def find (s : St) (x : Elem) : R (St × Int) :=
  findLoop s.arr.size x (s.arr.size + 1) s 0

def revLoop (cnt : Nat) : Nat → St → Int → Int → R St
  | 0, _, _, _ => .error .fuel
  | f + 1, s, i, j =>
    if i < j then do
      let a ← idx i
      let b ← idx j
      let s ← swapAt s 0 cnt a b
      let i ← i32 (i + 1)
      let j ← i32 (j - 1)
      revLoop cnt f s i j
    else pure s

/-- `cstl_raw_array_reverse` -/
def reverse (s : St) : R St := do
  let j ← lastIdx s.arr.size
  revLoop s.arr.size (s.arr.size + 1) s 0 j

end Cstl.Sort
