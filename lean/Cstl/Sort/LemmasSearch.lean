import Cstl.Sort.Lemmas
/-
Loop invariants of linear find, reverse and binary search (for PropsSearch.lean),
and the facts about C `int` arithmetic (`i32`, `idx`, truncating `/ 2`) that they
and the translator ties of Tie.lean (`i32_inv`, `tdiv2_bounds`) share.
-/
namespace Cstl.Sort

theorem i32_ok {v : Int} (h : -2147483648 ≤ v ∧ v ≤ 2147483647) : i32 v = .ok v := by
  unfold i32; rw [if_pos h]; rfl

theorem i32_inv {v w : Int} (h : i32 v = .ok w) : w = v ∧ -2147483648 ≤ v ∧ v ≤ 2147483647 := by
  unfold i32 at h
  split at h
  · cases h; omega
  · cases h

theorem tdiv2_bounds {v : Int} (h : -2147483648 ≤ v ∧ v ≤ 2147483647) :
    -2147483648 ≤ Int.tdiv v 2 ∧ Int.tdiv v 2 ≤ 2147483647 := by
  by_cases hv : 0 ≤ v
  · rw [Int.tdiv_eq_ediv_of_nonneg hv]; omega
  · have e : v = -(-v) := by omega
    rw [e, Int.neg_tdiv, Int.tdiv_eq_ediv_of_nonneg (by omega)]; omega

theorem idx_nat (n : Nat) : idx (n : Int) = .ok n := by
  unfold idx; rw [if_neg (Int.not_lt.2 (Int.natCast_nonneg n))]; rfl

theorem lastIdx_ok {cnt : Nat} (h : cnt ≤ 2147483648) : lastIdx cnt = .ok ((cnt : Int) - 1) := by
  unfold lastIdx
  split
  · subst_vars; rfl
  · exact i32_ok (by omega)

theorem findLoop_ok (x : Elem) (cnt : Nat) {s0 : St} (hb : cnt ≤ s0.arr.size) :
    ∀ (f : Nat) (s : St) (i : Nat), s0.same s → cnt + 1 ≤ f + i → i ≤ cnt →
    Ok (findLoop cnt x f s i) fun r => s0.same r.1 ∧
      ((r.2 = -1 ∧ ∀ k, i ≤ k → k < cnt → ak s0.arr k ≠ x.key) ∨
       (∃ n : Nat, r.2 = (n : Int) ∧ n < cnt ∧ ak s0.arr n = x.key ∧
          ∀ k, i ≤ k → k < n → ak s0.arr k ≠ x.key)) := by
  intro f
  induction f with
  | zero => intro s i _ h1 h2; omega
  | succ f ih =>
    intro s i h0 h1 h2
    rw [findLoop]
    by_cases hi : i < cnt
    · rw [if_pos hi]
      refine (cmpProbe_ok x h0 hi hb).bind ?_
      rintro ⟨s1, c⟩ ⟨hs, hc⟩
      dsimp only at *
      by_cases hz : c = 0
      · rw [if_pos hz]
        exact .pure ⟨hs, .inr ⟨i, rfl, hi, (hc.eq.1 hz).symm,
          fun k a b => absurd a (Nat.not_le.2 b)⟩⟩
      · rw [if_neg hz]
        have hne : ak s0.arr i ≠ x.key := fun e => hz (hc.eq.2 e.symm)
        have ext : ∀ n, (∀ k, i + 1 ≤ k → k < n → ak s0.arr k ≠ x.key) →
            ∀ k, i ≤ k → k < n → ak s0.arr k ≠ x.key := by
          intro n hall k k1 k2
          by_cases ek : k = i
          · rw [ek]; exact hne
          · exact hall k (by omega) k2
        refine (ih s1 (i + 1) hs (by omega) hi).mono ?_
        rintro r ⟨hs2, ⟨e, hall⟩ | ⟨n, e, b, c', d⟩⟩
        · exact ⟨hs2, .inl ⟨e, ext cnt hall⟩⟩
        · exact ⟨hs2, .inr ⟨n, e, b, c', ext n d⟩⟩
    · rw [if_neg hi]
      exact .pure ⟨h0, .inl ⟨rfl, fun k a b => absurd (Nat.lt_of_le_of_lt a b) hi⟩⟩

theorem swapAt_zero_eq {s : St} {cnt i j : Nat} (hi : i < cnt) (hj : j < cnt) (hb : cnt ≤ s.arr.size) :
    swapAt s 0 cnt i j =
      .ok { s with arr := s.arr.swap i j (Nat.lt_of_lt_of_le hi hb) (Nat.lt_of_lt_of_le hj hb),
                   scr := s.arr[i]'(Nat.lt_of_lt_of_le hi hb), log := s.log.swap i j } := by
  rw [swapAt_eq hi hj (Nat.le_trans (Nat.le_of_eq (Nat.zero_add _)) hb)]
  simp only [Nat.zero_add]

/-- the loop of `cstl_raw_array_reverse` at `(i, j)` is the loop of `Array.reverse` -/
theorem revLoop_ok (cnt : Nat) (hc : cnt ≤ 2147483648) :
    ∀ (f : Nat) (s : St) (i j : Nat) (hj : j < s.arr.size), cnt = s.arr.size → i ≤ j + 1 → j + 2 ≤ f + i →
    Ok (revLoop cnt f s (i : Int) (j : Int)) fun s' =>
      s'.arr = Array.reverse.loop s.arr i ⟨j, hj⟩ ∧ s'.rnd = s.rnd ∧ s'.dflt = s.dflt := by
  intro f
  induction f with
  | zero => intro s i j _ _ h1 h2; omega
  | succ f ih =>
    intro s i j hj hsz hij hf
    rw [revLoop, Array.reverse.loop]
    dsimp only
    by_cases hlt : i < j
    · have hj' : j < cnt := hsz ▸ hj
      rw [if_pos (Int.ofNat_lt.2 hlt), dif_pos hlt, bind_of_ok (idx_nat i), bind_of_ok (idx_nat j),
        bind_of_ok (swapAt_zero_eq (Nat.lt_trans hlt hj') hj' (Nat.le_of_eq hsz)),
        bind_of_ok (i32_ok (by omega)), bind_of_ok (i32_ok (by omega)),
        show (j : Int) - 1 = ((j - 1 : Nat) : Int) by omega]
      exact ih _ (i + 1) (j - 1) (by rw [Array.size_swap]; exact Nat.lt_of_le_of_lt (Nat.sub_le j 1) hj)
        (by rw [Array.size_swap]; exact hsz) (Nat.sub_add_cancel (Nat.zero_lt_of_lt hlt) ▸ hlt) (by omega)
    · rw [if_neg fun h => hlt (Int.ofNat_lt.1 h), dif_neg hlt]
      exact .pure ⟨rfl, rfl, rfl⟩

structure SearchInv (a : Array Elem) (x : Elem) (cnt : Nat) (i j : Int) : Prop where
  below : ∀ k : Nat, (k : Int) < i → ak a k < x.key
  above : ∀ k : Nat, j < (k : Int) → k < cnt → x.key < ak a k

theorem SearchInv.none {a : Array Elem} {x : Elem} {cnt : Nat} {i j : Int} (h : SearchInv a x cnt i j)
    (hij : ¬ i ≤ j) : ∀ k, k < cnt → ak a k ≠ x.key := by
  intro k hk
  by_cases hk2 : (k : Int) < i
  · have := h.below k hk2; omega
  · have := h.above k (by omega) hk; omega

theorem SearchInv.goRight {a : Array Elem} {x : Elem} {cnt n : Nat} {i j : Int} (h : SearchInv a x cnt i j)
    (hs : ∀ p q, p ≤ q → q < cnt → ak a p ≤ ak a q) (hn : n < cnt) (hlt : ak a n < x.key) :
    SearchInv a x cnt ((n : Int) + 1) j := by
  refine ⟨fun k hk => ?_, h.2⟩
  have := hs k n (by omega) hn
  omega

theorem SearchInv.goLeft {a : Array Elem} {x : Elem} {cnt n : Nat} {i j : Int} (h : SearchInv a x cnt i j)
    (hs : ∀ p q, p ≤ q → q < cnt → ak a p ≤ ak a q) (hgt : x.key < ak a n) :
    SearchInv a x cnt i ((n : Int) - 1) := by
  refine ⟨h.1, fun k hk1 hk2 => ?_⟩
  have := hs n k (by omega) hk2
  omega

/-- the middle index `n = (i + j) / 2` (C's truncating division) of a non-empty interval of
non-negative `int`s lies in the interval -/
theorem mid_ok {i j : Int} (h0 : 0 ≤ i) (hij : i ≤ j) :
    ∃ n : Nat, Int.tdiv (i + j) 2 = (n : Int) ∧ i ≤ (n : Int) ∧ (n : Int) ≤ j := by
  refine ⟨((i + j) / 2).toNat, ?_, ?_, ?_⟩
  · rw [Int.tdiv_eq_ediv_of_nonneg (Int.add_nonneg h0 (Int.le_trans h0 hij))]; omega
  all_goals omega

theorem searchLoop_ok (x : Elem) (cnt : Nat) (hc : cnt ≤ 1073741824) {s0 : St} (hb : cnt ≤ s0.arr.size)
    (hs : ∀ p q, p ≤ q → q < cnt → ak s0.arr p ≤ ak s0.arr q) :
    ∀ (f : Nat) (s : St) (i j : Int), s0.same s → 0 ≤ i → j < cnt → i ≤ j + 1 → j - i + 2 ≤ f →
      SearchInv s0.arr x cnt i j →
    Ok (searchLoop cnt x f s i j) fun r => s0.same r.1 ∧
      ((r.2 = -1 ∧ ∀ k, k < cnt → ak s0.arr k ≠ x.key) ∨
       (∃ n : Nat, r.2 = (n : Int) ∧ n < cnt ∧ ak s0.arr n = x.key)) := by
  intro f
  induction f with
  | zero => intro s i j _ _ _ _ _ _; omega
  | succ f ih =>
    intro s i j h0 hi0 hjc hij1 hf hI
    rw [searchLoop]
    by_cases hij : i ≤ j
    · obtain ⟨n, hn, hn1, hn2⟩ := mid_ok hi0 hij
      have hncnt : n < cnt := by omega
      rw [if_pos hij, bind_of_ok (i32_ok (by omega))]
      dsimp only
      rw [hn, bind_of_ok (idx_nat n)]
      refine (cmpProbe_ok x h0 hncnt hb).bind ?_
      rintro ⟨s1, c⟩ ⟨h1, hsg⟩
      dsimp only at *
      by_cases hc0 : c = 0
      · rw [if_pos hc0]
        exact .pure ⟨h1, .inr ⟨n, rfl, hncnt, (hsg.eq.1 hc0).symm⟩⟩
      · rw [if_neg hc0]
        by_cases hcl : c < 0
        · rw [if_pos hcl, bind_of_ok (i32_ok (by omega))]
          exact ih s1 i _ h1 hi0 (by omega) (by omega) (by omega) (hI.goLeft hs (hsg.lt.1 hcl))
        · rw [if_neg hcl, bind_of_ok (i32_ok (by omega))]
          exact ih s1 _ j h1 (by omega) hjc (by omega) (by omega)
            (hI.goRight hs hncnt (hsg.gt.1 (by omega)))
    · rw [if_neg hij]
      exact .pure ⟨h0, .inl ⟨rfl, hI.none hij⟩⟩

/-- binary search never modifies the array (sorted or not) -/
theorem searchLoop_arr (cnt : Nat) (x : Elem) :
    ∀ (f : Nat) (s : St) (i j : Int) (s' : St) (r : Int),
      searchLoop cnt x f s i j = .ok (s', r) → s'.arr = s.arr := by
  intro f
  induction f with
  | zero => intro s i j s' r h; cases h
  | succ f ih =>
    intro s i j s' r h
    rw [searchLoop] at h
    split at h
    · obtain ⟨sum, _, h⟩ := bind_ok h
      obtain ⟨k, _, h⟩ := bind_ok h
      obtain ⟨⟨s1, c⟩, hc, h⟩ := bind_ok h
      have e1 := cmpProbe_arr hc
      dsimp only at h
      split at h
      · cases h; exact e1
      · split at h
        · obtain ⟨j', _, h⟩ := bind_ok h
          exact (ih _ _ _ _ _ h).trans e1
        · obtain ⟨i', _, h⟩ := bind_ok h
          exact (ih _ _ _ _ _ h).trans e1
    · cases h; rfl

end Cstl.Sort
