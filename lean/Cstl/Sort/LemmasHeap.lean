import Cstl.Sort.Lemmas
/-
Heapsort of the sort model: sift-down restores the heap below a node,
heapify builds a heap, extract turns a heap into a sorted range.
Indices `k` are relative to the range `(lo, cnt)`; keys are read with `ak`
at global index `lo + k`.
-/
namespace Cstl.Sort

def Child (k x : Nat) : Prop := 2 * k + 1 ≤ x ∧ x ≤ 2 * k + 2

def HeapAt (a : Array Elem) (lo cnt k : Nat) : Prop :=
  ∀ x, Child k x → x < cnt → ak a (lo + x) ≤ ak a (lo + k)

/-- one candidate step of the child selection,
`if (k < cnt && cmp(at(k), at(c)) > 0) c = k`; `pickChild` is two of them -/
def cand (s : St) (lo cnt k c : Nat) : R (St × Nat) :=
  if k < cnt then do
    let (s, x) ← cmpAt s lo cnt k c
    pure (s, if x > 0 then k else c)
  else pure (s, c)

theorem pickChild_eq (s : St) (lo cnt n : Nat) :
    pickChild s lo cnt n =
      cand s lo cnt (2 * n + 1) n >>= fun r => cand r.1 lo cnt (2 * n + 1 + 1) r.2 := rfl

theorem cand_inv {s s' : St} {lo cnt k c c' : Nat} (h : cand s lo cnt k c = .ok (s', c')) :
    c' = c ∨ c' = k := by
  unfold cand at h
  split at h
  · obtain ⟨⟨s1, x⟩, _, h⟩ := bind_ok h
    cases h
    by_cases hx : x > 0
    · exact .inr (if_pos hx)
    · exact .inl (if_neg hx)
  · cases h; exact .inl rfl

theorem pickChild_le {s s' : St} {lo cnt n c : Nat} (h : pickChild s lo cnt n = .ok (s', c)) :
    c ≤ 2 * n + 2 := by
  rw [pickChild_eq] at h
  obtain ⟨⟨s1, c1⟩, h1, h2⟩ := bind_ok h
  have := cand_inv h1
  have := cand_inv h2
  omega

/-- what a candidate step returns, read on the reference array `a`: the new candidate `c'` is `c`
or `k`, and holds the greater of the two keys (`k` counts only when it is a node, `k < cnt`) -/
structure CandPost (a : Array Elem) (lo cnt k c c' : Nat) : Prop where
  mem : c' = c ∨ c' = k
  lt : c' < cnt
  geOld : ak a (lo + c) ≤ ak a (lo + c')
  geNew : k < cnt → ak a (lo + k) ≤ ak a (lo + c')
  moved : c' ≠ c → ak a (lo + c) < ak a (lo + c')

theorem cand_ok {s0 s : St} {lo cnt k c : Nat} (h0 : s0.same s) (hc : c < cnt)
    (hb : lo + cnt ≤ s0.arr.size) :
    Ok (cand s lo cnt k c) fun r => s0.same r.1 ∧ CandPost s0.arr lo cnt k c r.2 := by
  unfold cand
  by_cases hk : k < cnt
  · rw [if_pos hk]
    refine (cmpAt_ok h0 hk hc hb).bind ?_
    rintro ⟨s1, x⟩ ⟨h1, hx⟩
    refine .pure ⟨h1, ?_⟩
    dsimp only
    by_cases hx0 : x > 0
    · rw [if_pos hx0]
      have := hx.gt.1 hx0
      exact { mem := .inr rfl, lt := hk, geOld := Int.le_of_lt this, geNew := fun _ => Int.le_refl _,
              moved := fun _ => this }
    · rw [if_neg hx0]
      have : ¬ _ := fun h => hx0 (hx.gt.2 h)
      exact { mem := .inl rfl, lt := hc, geOld := Int.le_refl _, geNew := fun _ => Int.not_lt.1 this,
              moved := fun h => absurd rfl h }
  · rw [if_neg hk]
    exact .pure ⟨h0, { mem := .inl rfl, lt := hc, geOld := Int.le_refl _, geNew := fun h => absurd h hk,
                       moved := fun h => absurd rfl h }⟩

theorem child_mem {n c1 c2 : Nat} (h1 : c1 = n ∨ c1 = 2 * n + 1) (h2 : c2 = c1 ∨ c2 = 2 * n + 1 + 1) :
    c2 = n ∨ Child n c2 := by
  unfold Child; omega

structure ChildPost (a : Array Elem) (lo cnt n c : Nat) : Prop where
  mem : c = n ∨ Child n c
  lt : c < cnt
  max : ∀ x, Child n x → x < cnt → ak a (lo + x) ≤ ak a (lo + c)
  moved : c ≠ n → ak a (lo + n) < ak a (lo + c)

theorem pickChild_ok {s0 s : St} {lo cnt n : Nat} (h0 : s0.same s) (hn : n < cnt)
    (hb : lo + cnt ≤ s0.arr.size) :
    Ok (pickChild s lo cnt n) fun r => s0.same r.1 ∧ ChildPost s0.arr lo cnt n r.2 := by
  rw [pickChild_eq]
  refine (cand_ok h0 hn hb).bind ?_
  rintro ⟨s1, c1⟩ ⟨h1, p1⟩
  refine (cand_ok h1 p1.lt hb).mono ?_
  rintro ⟨s2, c2⟩ ⟨h2, p2⟩
  dsimp only at p1 p2 h2 ⊢
  refine ⟨h2, child_mem p1.mem p2.mem, p2.lt, fun x hx hx3 => ?_, fun h => ?_⟩
  · by_cases e : x = 2 * n + 1
    · rw [e] at hx3 ⊢; exact Int.le_trans (p1.geNew hx3) p2.geOld
    · have e' : x = 2 * n + 1 + 1 := by unfold Child at hx; omega
      rw [e'] at hx3 ⊢; exact p2.geNew hx3
  · by_cases e : c2 = c1
    · rw [e] at h ⊢; exact p1.moved h
    · exact Int.lt_of_le_of_lt p1.geOld (p2.moved e)

/-- the sift-down loop invariant: from `r` on every node but `n` dominates its
children, and the children of `n` are dominated by the parent of `n` (so that
`n` may be exchanged with one of them) -/
structure SiftInv (a : Array Elem) (lo cnt r n : Nat) : Prop where
  heap : ∀ k, r ≤ k → k < cnt → k ≠ n → HeapAt a lo cnt k
  grand : ∀ g c, r ≤ g → Child g n → Child n c → c < cnt → ak a (lo + c) ≤ ak a (lo + g)

theorem SiftInv.done {a : Array Elem} {lo cnt r n : Nat} (h : SiftInv a lo cnt r n)
    (hn : HeapAt a lo cnt n) : ∀ k, r ≤ k → k < cnt → HeapAt a lo cnt k := by
  intro k h1 h2
  by_cases e : k = n
  · rw [e]; exact hn
  · exact h.heap k h1 h2 e

theorem Child.ne {k x : Nat} (h : Child k x) : x ≠ k := by unfold Child at h; omega

theorem Child.le {r k x : Nat} (h : Child k x) (hr : r ≤ k) : r ≤ x := by unfold Child at h; omega

theorem Child.grand_ne {k x y : Nat} (hx : Child k x) (hy : Child x y) : y ≠ k := by
  unfold Child at hx hy; omega

theorem Child.parent_unique {k n x : Nat} (h1 : Child k x) (h2 : Child n x) : k = n := by
  unfold Child at h1 h2; omega

theorem parent_lt {k : Nat} (h : k ≠ 0) : (k - 1) / 2 < k ∧ Child ((k - 1) / 2) k := by
  unfold Child; omega

/-- exchanging `n` with its greatest child `c` (which holds a greater key) moves
the one possible violation down to `c` -/
theorem SiftInv.step {a a' : Array Elem} {lo cnt r n c : Nat} (h : SiftInv a lo cnt r n)
    (hc : Child n c) (hcc : c < cnt)
    (hmax : ∀ x, Child n x → x < cnt → ak a (lo + x) ≤ ak a (lo + c))
    (hlt : ak a (lo + n) < ak a (lo + c)) (hx : Exch a a' lo n c) : SiftInv a' lo cnt r c := by
  constructor
  · intro k hk1 hk2 hkc x hkx hx3
    by_cases hkn : k = n
    · -- `n` now holds the greatest of the three keys
      rw [hkn] at hkx ⊢
      rw [hx.left]
      by_cases e : x = c
      · rw [e, hx.right]; exact Int.le_of_lt hlt
      · rw [hx.other x hkx.ne e]; exact hmax x hkx hx3
    · -- another node: only a child that is `n` itself has changed, and it received
      -- the key of a grandchild
      rw [hx.other k hkn hkc]
      by_cases e : x = n
      · rw [e] at hkx ⊢
        rw [hx.left]; exact h.grand k c hk1 hkx hc hcc
      · rw [hx.other x e fun ec => hkn (hkx.parent_unique (ec ▸ hc))]
        exact h.heap k hk1 hk2 hkn x hkx hx3
  · intro g c' hg hgc hcc' hc'c
    have e : g = n := hgc.parent_unique hc
    rw [e, hx.left, hx.other c' (hc.grand_ne hcc') hcc'.ne]
    exact h.heap c (hc.le (e ▸ hg)) hcc hc.ne c' hcc' hc'c

/-- fuel: every iteration moves on to a child, so `n` grows and `cnt - n` iterations are certainly
enough (`cnt ≤ f + n`) -/
theorem siftDown_ok (lo cnt r : Nat) :
    ∀ (f : Nat) (s : St) (n : Nat), lo + cnt ≤ s.arr.size → n < cnt → r ≤ n → cnt ≤ f + n →
    SiftInv s.arr lo cnt r n →
    Ok (siftDown lo cnt f s n) fun s' => Moved lo (lo + cnt) s s' ∧
      ∀ k, r ≤ k → k < cnt → HeapAt s'.arr lo cnt k := by
  intro f
  induction f with
  | zero => intro s n _ h1 _ h2; omega
  | succ f ih =>
    intro s n hb hn hr hf hI
    rw [siftDown]
    refine (pickChild_ok (St.same_refl s) hn hb).bind ?_
    rintro ⟨s1, c⟩ ⟨h1, pc⟩
    dsimp only at h1 pc ⊢
    obtain ⟨hc3, hcc, hmax, hlt⟩ := pc
    by_cases hnc : n = c
    · subst hnc
      rw [if_neg (fun h => h rfl)]
      refine .pure ⟨h1.moved _ _, ?_⟩
      rw [h1.arr]
      exact hI.done hmax
    · rw [if_pos hnc]
      have hb1 : lo + cnt ≤ s1.arr.size := by rw [h1.arr]; exact hb
      refine (swapAt_ok hn hcc (Nat.le_refl _) hb1).bind fun s2 ⟨hm, hx⟩ => ?_
      rw [h1.arr] at hx
      have hc2 : Child n c := hc3.resolve_left (Ne.symm hnc)
      have := hc2.1
      refine (ih s2 c (by rw [hm.size_eq]; exact hb1) hcc (hc2.le hr) (by omega)
        (hI.step hc2 hcc hmax (hlt (Ne.symm hnc)) hx)).mono fun s3 ⟨hm3, hh⟩ => ?_
      exact ⟨(h1.moved _ _).trans (hm.trans hm3), hh⟩

theorem heap_root_max {a : Array Elem} {lo cnt : Nat}
    (h : ∀ k, k < cnt → HeapAt a lo cnt k) : ∀ k, k < cnt → ak a (lo + k) ≤ ak a (lo + 0) := by
  intro k
  induction k using Nat.strongRecOn with
  | _ k ih =>
    intro hk
    by_cases h0 : k = 0
    · rw [h0]; exact Int.le_refl _
    · obtain ⟨hgk, hc⟩ := parent_lt h0
      exact Int.le_trans (h _ (Nat.lt_trans hgk hk) k hc hk) (ih _ hgk (Nat.lt_trans hgk hk))

theorem heapify_ok (lo cnt : Nat) :
    ∀ (k : Nat) (s : St), lo + cnt ≤ s.arr.size → k ≤ cnt →
    (∀ j, k ≤ j → j < cnt → HeapAt s.arr lo cnt j) →
    Ok (heapify lo cnt k s) fun s' => Moved lo (lo + cnt) s s' ∧
      ∀ j, j < cnt → HeapAt s'.arr lo cnt j := by
  intro k
  induction k with
  | zero =>
    intro s _ _ h
    exact .pure ⟨.refl _ _ _, fun j hj => h j (Nat.zero_le _) hj⟩
  | succ k ih =>
    intro s hb hk h
    rw [heapify]
    refine (siftDown_ok lo cnt k cnt s k hb hk (Nat.le_refl _) (Nat.le_add_right _ _)
      ⟨fun j hj1 hj2 hj3 => h j (Nat.lt_of_le_of_ne hj1 (Ne.symm hj3)) hj2,
       fun g c hg h1 h2 => absurd (Nat.le_trans h1.1 hg) (by omega)⟩).bind fun s1 ⟨hm1, hh1⟩ => ?_
    refine (ih s1 (by rw [hm1.size_eq]; exact hb) (Nat.le_of_succ_le hk) hh1).mono fun s2 ⟨hm2, hh2⟩ => ?_
    exact ⟨hm1.trans hm2, hh2⟩

/-- the extract-loop invariant beside "the first `i+1` positions are a heap":
every position beyond `i` holds a key that is not below any key before it -/
def Dom (a : Array Elem) (lo cnt i : Nat) : Prop :=
  ∀ p q, p ≤ q → i < q → q < cnt → ak a (lo + p) ≤ ak a (lo + q)

/-- one round of extract: the maximum of the first `i+2` positions goes to
position `i+1`, the rest is permuted among the first `i+1` positions -/
theorem Dom.step {a b : Array Elem} {lo cnt i : Nat} (hd : Dom a lo cnt (i + 1))
    (hb : lo + cnt ≤ a.size) (hi : i + 1 < cnt) (hsw : Sw lo (lo + (i + 2)) a b)
    (htop : ak b (lo + (i + 1)) = ak a (lo + 0))
    (hmax : ∀ k, k < i + 2 → ak a (lo + k) ≤ ak a (lo + 0)) : Dom b lo cnt i := by
  have hb' : lo + (i + 2) ≤ a.size := Nat.le_trans (Nat.add_le_add_left (Nat.succ_le_of_lt hi) lo) hb
  intro p q hpq hiq hq
  by_cases hq1 : q = i + 1
  · rw [hq1] at hpq ⊢
    rw [htop]
    exact hsw.ak_bound (u := 0) (· ≤ ak a (lo + 0)) hb' (fun t _ ht => hmax t ht) p (Nat.zero_le _)
      (Nat.lt_succ_of_le hpq)
  · have hq2 : i + 2 ≤ q := Nat.lt_of_le_of_ne hiq (Ne.symm hq1)
    rw [hsw.ak_outside (u := 0) (t := q) (.inr hq2)]
    by_cases hp : p < i + 2
    · exact hsw.ak_bound (u := 0) (· ≤ ak a (lo + q)) hb'
        (fun t _ ht => hd t q (Nat.le_trans (Nat.le_of_lt ht) hq2) hq2 hq) p (Nat.zero_le _) hp
    · rw [hsw.ak_outside (u := 0) (t := p) (.inr (Nat.le_of_not_lt hp))]
      exact hd p q hpq hq2 hq

theorem extract_ok (lo cnt : Nat) :
    ∀ (i : Nat) (s : St), lo + cnt ≤ s.arr.size → i < cnt →
    (∀ k, k < i + 1 → HeapAt s.arr lo (i + 1) k) → Dom s.arr lo cnt i →
    Ok (extract lo cnt i s) fun s' => Moved lo (lo + cnt) s s' ∧ SortedR s'.arr lo cnt := by
  intro i
  induction i with
  | zero =>
    intro s _ _ _ hd
    refine .pure ⟨.refl _ _ _, fun p q hpq hq => ?_⟩
    by_cases hq0 : q = 0
    · subst hq0
      rw [Nat.le_zero.1 hpq]; exact Int.le_refl _
    · exact hd p q hpq (Nat.pos_of_ne_zero hq0) hq
  | succ i ih =>
    intro s hb hi hheap hd
    rw [extract]
    refine (swapAt_ok (n := i + 2) (Nat.succ_pos _) (Nat.lt_succ_self _) hi hb).bind
      fun s1 ⟨hm1, hx⟩ => ?_
    have hb1 : lo + cnt ≤ s1.arr.size := by rw [hm1.size_eq]; exact hb
    -- sift the new root down inside the first `i+1` positions; the nodes below the
    -- root and their children were not touched by the exchange of `0` and `i+1`
    have hi1 : lo + (i + 1) ≤ lo + cnt := Nat.add_le_add_left (Nat.le_of_lt hi) lo
    refine (siftDown_ok lo (i + 1) 0 (i + 1) s1 0 (Nat.le_trans hi1 hb1) (Nat.succ_pos _) (Nat.le_refl _)
      (Nat.le_add_right _ _) ⟨?_, fun g c _ hg => absurd hg.1 (Nat.not_succ_le_zero _)⟩).bind
      fun s2 ⟨hm2, hh2⟩ => ?_
    · intro k _ hk hk0 x hkx hx3
      rw [hx.other k hk0 (Nat.ne_of_lt hk), hx.other x (Nat.ne_of_gt (Nat.lt_of_lt_of_le (Nat.succ_pos _) hkx.1))
        (Nat.ne_of_lt hx3)]
      exact hheap k (Nat.lt_succ_of_lt hk) x hkx (Nat.lt_succ_of_lt hx3)
    · have hm12 : Moved lo (lo + (i + 2)) s s2 :=
        hm1.trans (hm2.mono (Nat.le_refl _) (Nat.add_le_add_left (Nat.le_succ _) lo))
      have htop : ak s2.arr (lo + (i + 1)) = ak s.arr (lo + 0) := by
        rw [hm2.sw.ak_outside (u := 0) (t := i + 1) (.inr (Nat.le_refl _)), hx.right]
      refine (ih s2 (by rw [hm2.size_eq]; exact hb1) (Nat.lt_of_succ_lt hi) (fun k hk => hh2 k (Nat.zero_le _) hk)
        (hd.step hb hi hm12.sw htop (heap_root_max hheap))).mono fun s3 ⟨hm3, hs⟩ => ?_
      exact ⟨(hm12.mono (Nat.le_refl _) (Nat.add_le_add_left (Nat.succ_le_of_lt hi) lo)).trans hm3, hs⟩

theorem leaf_of_half_le {cnt j x : Nat} (hj : cnt / 2 ≤ j) (hx : Child j x) : ¬ x < cnt := by
  unfold Child at hx; omega

theorem hsort_ok (s : St) (lo cnt : Nat) (hb : lo + cnt ≤ s.arr.size) :
    Ok (hsort s lo cnt) fun s' => Moved lo (lo + cnt) s s' ∧ SortedR s'.arr lo cnt := by
  unfold hsort
  by_cases hc : cnt > 1
  · rw [if_pos hc]
    refine (heapify_ok lo cnt (cnt / 2) s hb (Nat.div_le_self _ _)
      fun j hj1 hj2 x hx hx3 => absurd hx3 (leaf_of_half_le hj1 hx)).bind fun s1 ⟨hm1, hh1⟩ => ?_
    have h0 : 0 < cnt := Nat.lt_trans Nat.zero_lt_one hc
    have e : cnt - 1 + 1 = cnt := Nat.sub_add_cancel h0
    refine (extract_ok lo cnt (cnt - 1) s1 (by rw [hm1.size_eq]; exact hb) (Nat.sub_lt h0 Nat.zero_lt_one)
      (by rw [e]; exact hh1) (fun p q _ h1 h2 => absurd h2 (Nat.not_lt.2 (e ▸ h1)))).mono
      fun s2 ⟨hm2, hs⟩ => ?_
    exact ⟨hm1.trans hm2, hs⟩
  · rw [if_neg hc]
    exact .pure ⟨.refl _ _ _, sortedR_small _ _ hc⟩

end Cstl.Sort
