import Cstl.Sort.PropsSearch
import Cstl.Sort.PropsHeap
import Cstl.Sort.PropsQuick
/-
Property C11, sort part ("for every array content, length, element size and algorithm
selector (each named algorithm and any out-of-range value), the raw-array and vector sorts
leave the same elements … in non-decreasing order, and touch no memory outside the array and
the one scratch element"), for `cstl_raw_array_sort` (= `__cstl_vector_sort`, which
passes `(base, count, size, scratch = slot cap)` through): every selector —
the four named algorithms and every out-of-range value — leaves a sorted
permutation and never reaches outside the array.
-/
namespace Cstl.Sort

/-- **default fallback**: every out-of-range selector behaves exactly like
`CSTL_SORT_ALGORITHM_DEFAULT` (median-of-three quicksort) -/
theorem sort_default (fuel : Nat) (s : St) (algo : Nat) (h : 3 < algo) :
    sort fuel s algo = sort fuel s 2 := by
  have e : effAlgo algo = 2 := by unfold effAlgo; rw [if_neg (by omega)]
  unfold sort
  rw [e]
  rfl

theorem sort_eq (fuel : Nat) (s : St) (algo : Nat) :
    sort fuel s algo =
      if effAlgo algo = 3 then hsort s 0 s.arr.size else qsort (effAlgo algo) fuel s 0 s.arr.size := rfl

/-- the dispatch done once: every selector returns a sorted permutation, unless it is a quicksort
whose budget was not `Enough` -/
theorem sort_main (fuel : Nat) (s : St) (algo : Nat) :
    (∃ s', sort fuel s algo = .ok s' ∧
      s'.arr.toList.Perm s.arr.toList ∧
      s'.arr.toList.Pairwise (fun x y => x.key ≤ y.key)) ∨
    (sort fuel s algo = .error .fuel ∧ ¬ Enough (effAlgo algo) fuel s s.arr.size) := by
  rw [sort_eq]
  split
  · obtain ⟨s', h1, h2, h3, _⟩ := hsort_sorted_perm s
    exact .inl ⟨s', h1, h2, h3⟩
  · exact qsort_whole (effAlgo algo) fuel s

theorem sort_of_ok {fuel : Nat} {s s' : St} {algo : Nat} (h : sort fuel s algo = .ok s') :
    s'.arr.toList.Perm s.arr.toList ∧ s'.arr.toList.Pairwise (fun x y => x.key ≤ y.key) :=
  (sort_main fuel s algo).elim (Ok.post · h) fun hf => nomatch h.symm.trans hf.1

/-- **every selector returns a sorted permutation whenever it returns, and
never touches anything outside `[0,count)` ∪ {scratch}**: the model checks
every element access against the range and the only other cell it writes is
the scratch cell, so "no access outside" is "the result is never `oob`"; the
only way not to return is the recursion budget of the random-pivot corner. -/
theorem sort_sorted_perm (fuel : Nat) (s : St) (algo : Nat) :
    (∃ s', sort fuel s algo = .ok s' ∧
      s'.arr.toList.Perm s.arr.toList ∧
      s'.arr.toList.Pairwise (fun x y => x.key ≤ y.key)) ∨
    sort fuel s algo = .error .fuel := by
  exact (sort_main fuel s algo).imp_right (·.1)

/-- no out-of-range access and no `int` overflow, for every selector, stream and fuel -/
theorem sort_no_oob (fuel : Nat) (s : St) (algo : Nat) :
    sort fuel s algo ≠ .error .oob ∧ sort fuel s algo ≠ .error .ovf := by
  rcases sort_sorted_perm fuel s algo with ⟨s', h, _⟩ | h
  · rw [h]; exact ⟨nofun, nofun⟩
  · rw [h]; exact ⟨nofun, nofun⟩

/-- **the sort always finishes for the deterministic selectors** (first
element, median of three, heapsort, every out-of-range value) with recursion
budget `count` -/
theorem sort_terminates (fuel : Nat) (s : St) (algo : Nat) (halgo : algo ≠ 1) (hf : s.arr.size ≤ fuel) :
    ∃ s', sort fuel s algo = .ok s' ∧
      s'.arr.toList.Perm s.arr.toList ∧
      s'.arr.toList.Pairwise (fun x y => x.key ≤ y.key) := by
  have he : effAlgo algo ≠ 1 := by unfold effAlgo; split <;> omega
  exact (sort_main fuel s algo).resolve_right fun h => h.2 (.of_det s he hf)

/-- **the configuration the correspondence check runs** (`rand()` = the
scripted draws, then 0; budget `sortFuel`) always returns a sorted
permutation, for every selector and every list of draws -/
theorem sort_total (s : St) (algo : Nat) (hd : s.dflt = 0) :
    ∃ s', sort (sortFuel s) s algo = .ok s' ∧
      s'.arr.toList.Perm s.arr.toList ∧
      s'.arr.toList.Pairwise (fun x y => x.key ≤ y.key) := by
  exact (sort_main (sortFuel s) s algo).resolve_right fun h => h.2 (.of_zeros hd (Nat.le_succ _))

example : ((sort 9 { arr := #[⟨2, 0⟩, ⟨3, 1⟩, ⟨1, 2⟩, ⟨2, 3⟩, ⟨1, 4⟩], rnd := [4, 4, 1] } 1).toOption.map
    (fun s => s.arr.toList.map (·.key))) = some [1, 1, 2, 2, 3] := by decide

example : ((sort 5 { arr := #[⟨2, 0⟩, ⟨3, 1⟩, ⟨1, 2⟩, ⟨2, 3⟩, ⟨1, 4⟩] } 77).toOption.map
    (fun s => s.arr.toList.map (·.key))) = some [1, 1, 2, 2, 3] := by decide

example : True := by
  have := sort_terminates 5 { arr := #[⟨2, 0⟩, ⟨3, 1⟩, ⟨1, 2⟩, ⟨2, 3⟩, ⟨1, 4⟩] } 0 (by decide) (by decide)
  have := sort_total { arr := #[⟨2, 0⟩, ⟨3, 1⟩, ⟨1, 2⟩, ⟨2, 3⟩, ⟨1, 4⟩], rnd := [4, 4, 1] } 1 rfl
  trivial

/-- one call of the public API on the same array (what a line of the check's
scripts does) -/
inductive Op where
  | sort (algo : Nat) (draws : List Nat)
  | rev
  | search (x : Elem)
  | find (x : Elem)

def runOp (s : St) : Op → R St
  | .sort algo draws =>
    let s0 := { s with rnd := draws, dflt := 0 }
    sort (sortFuel s0) s0 algo
  | .rev => reverse s
  | .search x => (search s x).map (·.1)
  | .find x => (find s x).map (·.1)

def run : List Op → St → R St
  | [], s => pure s
  | op :: ops, s => runOp s op >>= run ops

/-- **every history of sort / reverse / search / find calls** (any selectors,
any draws, any probes, sorted or not) that returns leaves a permutation of
the original `(key,id)` elements: nothing is ever lost, duplicated or altered.
(That each `sort` step returns, sorted, is `sort_total`.) -/
theorem run_perm : ∀ (ops : List Op) (s s' : St), run ops s = .ok s' →
    s'.arr.toList.Perm s.arr.toList := by
  intro ops
  induction ops with
  | nil => intro s s' h; cases h; exact List.Perm.refl _
  | cons op ops ih =>
    intro s s' h
    unfold run at h
    cases hop : runOp s op with
    | error e => rw [hop] at h; cases h
    | ok s1 =>
      rw [hop] at h
      refine (ih s1 s' h).trans ?_
      cases op with
      | sort algo draws => exact (sort_of_ok hop).1
      | rev => exact reverse_perm hop
      | search x =>
        have hop' : (search s x).map (·.1) = .ok s1 := hop
        cases hs : search s x with
        | error e => rw [hs] at hop'; cases hop'
        | ok r =>
          rw [hs] at hop'
          cases hop'
          show r.1.arr.toList.Perm s.arr.toList
          rw [search_arr hs]
      | find x =>
        have hop' : (find s x).map (·.1) = .ok s1 := hop
        obtain ⟨s2, r, h2, ha, _⟩ := find_first s x
        rw [h2] at hop'; cases hop'
        show s2.arr.toList.Perm s.arr.toList
        rw [ha]

example : (run [.find ⟨2, 0⟩, .rev, .sort 1 [2, 2], .search ⟨3, 0⟩, .sort 99 []]
    { arr := #[⟨2, 0⟩, ⟨3, 1⟩, ⟨1, 2⟩] }).toOption.map (fun s => s.arr.toList.map (·.key)) = some [1, 2, 3] := by
  decide

end Cstl.Sort
