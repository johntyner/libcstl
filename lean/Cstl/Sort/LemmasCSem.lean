import Cstl.Sort.CSem
/-
Unfolding and no-wrap facts about the vocabulary of Sort/CSem.lean, for the tie proofs of Tie.lean
(`usub_wrap`, `castI32_max`, `castI64_max` record what the wrapping cases evaluate to).
-/
namespace Cstl.Sort.CSem
open Cstl.Sort

@[simp] theorem cmpP_el (s : St) (lo cnt i j : Nat) : cmpP s lo cnt (.el i) (.el j) = cmpAt s lo cnt i j := rfl
@[simp] theorem swapP_el (s : St) (lo cnt i j : Nat) : swapP s lo cnt (.el i) (.el j) = swapAt s lo cnt i j := rfl
@[simp] theorem cmpProbeP_el (s : St) (lo cnt : Nat) (x : Elem) (k : Nat) :
    cmpProbeP s lo cnt x (.el k) = cmpProbeL s lo cnt x k := rfl

theorem cmpProbeL_zero (s : St) (cnt : Nat) (x : Elem) (k : Nat) :
    cmpProbeL s 0 cnt x k = cmpProbe s cnt x k := by
  unfold cmpProbeL cmpProbe
  by_cases h : k < cnt ∧ k < s.arr.size
  · have h' : k < cnt ∧ 0 + k < s.arr.size := by simpa using h
    rw [dif_pos h, dif_pos h']
    simp
  · have h' : ¬ (k < cnt ∧ 0 + k < s.arr.size) := by simpa using h
    rw [dif_neg h, dif_neg h']

theorem uadd_eq {a b : Nat} (h : a + b < 18446744073709551616) : uadd a b = a + b :=
  Nat.mod_eq_of_lt h

theorem usub_eq {a b : Nat} (h : b ≤ a) (ha : a < 18446744073709551616) : usub a b = a - b := by
  rw [usub, Nat.sub_add_comm h, Nat.add_mod_right, Nat.mod_eq_of_lt (Nat.lt_of_le_of_lt (Nat.sub_le a b) ha)]

/-- `i++` on an index below a `size_t` count -/
theorem uadd_one {i cnt : Nat} (hi : i < cnt) (hc : cnt < 18446744073709551616) : uadd i 1 = i + 1 :=
  uadd_eq (Nat.lt_of_le_of_lt (Nat.succ_le_of_lt hi) hc)

theorem usub_wrap {a b : Nat} (h : a < b) (_hb : b ≤ 18446744073709551616) :
    usub a b = a + 18446744073709551616 - b := by
  -- `a + 2^64 - b ≤ a + 2^64 - (a + 1) = 2^64 - 1`
  refine Nat.mod_eq_of_lt (Nat.lt_of_le_of_lt (Nat.sub_le_sub_left (Nat.succ_le_of_lt h) _) ?_)
  show a + 18446744073709551616 - (a + 1) < 18446744073709551616
  rw [Nat.add_sub_add_left]
  decide

theorem umul_eq {a b : Nat} (h : a * b < 18446744073709551616) : umul a b = a * b :=
  Nat.mod_eq_of_lt h

@[simp] theorem castU64_ofNat (n : Nat) : castU64 (Int.ofNat n) = n := by
  unfold castU64; simp

/-- the same for the coercion (the translation writes `Int.ofNat`, the loop lemmas `↑`) -/
@[simp] theorem castU64_natCast (n : Nat) : castU64 (n : Int) = n := by
  unfold castU64; simp

theorem castU64_nonneg {v : Int} (h : 0 ≤ v) : castU64 v = v.toNat := by
  unfold castU64; simp [h]

theorem castI32_small {v : Nat} (h : v < 2147483648) : castI32 v = (v : Int) := by
  unfold castI32
  have : v % 4294967296 = v := by omega
  rw [this]; simp [h]

theorem castI32_max : castI32 18446744073709551615 = -1 := by decide

theorem castI64_small {v : Nat} (h : v < 9223372036854775808) : castI64 v = (v : Int) := by
  unfold castI64; simp [h]

theorem castI64_max : castI64 18446744073709551615 = -1 := by decide

theorem i64_ok {v : Int} (h : -9223372036854775808 ≤ v ∧ v ≤ 9223372036854775807) : i64 v = .ok v := by
  unfold i64; rw [if_pos h]; rfl

/-- `i - 1` on an `ssize_t` loop index that holds an index of the array -/
theorem i64_pred {k : Nat} (h : k < 9223372036854775808) : i64 ((k : Int) - 1) = .ok ((k : Int) - 1) :=
  i64_ok (by omega)

/-- `(ssize_t)(n - 1)` for a non-zero `size_t` below 2^63 -/
theorem castI64_pred {n : Nat} (h0 : 0 < n) (h : n < 9223372036854775808) :
    castI64 (usub n 1) = ((n - 1 : Nat) : Int) := by
  rw [usub_eq h0 (Nat.lt_trans h (by decide)), castI64_small (Nat.lt_of_le_of_lt (Nat.sub_le _ _) h)]

/-- the child indices `2k+1`, `2k+2` of an index below 2^63 do not wrap -/
theorem double_lt {k cnt : Nat} (hk : k < cnt) (hc : cnt < 9223372036854775808) :
    2 * k + 2 < 18446744073709551616 := by
  omega

end Cstl.Sort.CSem
