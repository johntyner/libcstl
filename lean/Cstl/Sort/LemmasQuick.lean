import Cstl.Sort.Lemmas
/-
Quicksort of the sort model, up to `qsort_main` (a call returns its range sorted, `QPost`, unless the
fuel was not `Enough`) and its whole-array form `qsort_whole`.  Indices are relative to the range `(lo, cnt)`; `v` is the pivot value
`ak s.arr (lo + p)`.
-/
namespace Cstl.Sort

/-- `k` is the sentinel: a position from `i` on whose key is not below the pivot, so the scan stops inside
the range -/
theorem scanUp_ok (lo cnt p : Nat) {s0 : St} (hb : lo + cnt ≤ s0.arr.size) (hp : p < cnt)
    {v : Int} (hv : ak s0.arr (lo + p) = v) {k : Nat} (hk : k < cnt) (hsent : v ≤ ak s0.arr (lo + k)) :
    ∀ (f : Nat) (s : St) (i : Nat), s0.same s → i ≤ k → k + 1 ≤ f + i →
    Ok (scanUp lo cnt p f s i) fun r => s0.same r.1 ∧ r.2 ≤ k ∧
      (∀ t, i ≤ t → t < r.2 → ak s0.arr (lo + t) < v) ∧ v ≤ ak s0.arr (lo + r.2) := by
  subst hv
  intro f
  induction f with
  | zero => intro s i _ h1 h2; omega
  | succ f ih =>
    intro s i h0 hik hf
    rw [scanUp]
    refine (cmpAt_ok h0 (Nat.lt_of_le_of_lt hik hk) hp hb).bind ?_
    rintro ⟨s1, c⟩ ⟨h1, hc⟩
    dsimp only at *
    by_cases hc0 : c < 0
    · rw [if_pos hc0]
      have hlt := hc.lt.1 hc0
      have hne : i ≠ k := fun e => Int.not_le.2 hlt (e ▸ hsent)
      refine (ih s1 (i + 1) h1 (Nat.lt_of_le_of_ne hik hne) (by omega)).mono ?_
      rintro r ⟨a0, a2, a3, a4⟩
      refine ⟨a0, a2, fun t ht1 ht2 => ?_, a4⟩
      by_cases e : t = i
      · rw [e]; exact hlt
      · exact a3 t (Nat.lt_of_le_of_ne ht1 (Ne.symm e)) ht2
    · rw [if_neg hc0]
      exact .pure ⟨h1, hik, fun t a b => absurd a (Nat.not_le.2 b),
        Int.not_lt.1 fun h => hc0 (hc.lt.2 h)⟩

/-- likewise downwards; the sentinel `k ≤ j` is also why `j` is never decremented at 0 -/
theorem scanDown_ok (lo cnt p : Nat) {s0 : St} (hb : lo + cnt ≤ s0.arr.size) (hp : p < cnt)
    {v : Int} (hv : ak s0.arr (lo + p) = v) {k : Nat} (hsent : ak s0.arr (lo + k) ≤ v) :
    ∀ (f : Nat) (s : St) (j : Nat), s0.same s → k ≤ j → j < cnt → j + 1 ≤ f + k →
    Ok (scanDown lo cnt p f s j) fun r => s0.same r.1 ∧ k ≤ r.2 ∧ r.2 ≤ j ∧
      (∀ t, r.2 < t → t ≤ j → v < ak s0.arr (lo + t)) ∧ ak s0.arr (lo + r.2) ≤ v := by
  subst hv
  intro f
  induction f with
  | zero => intro s j _ h1 _ h2; omega
  | succ f ih =>
    intro s j h0 hkj hj hf
    rw [scanDown]
    refine (cmpAt_ok h0 hj hp hb).bind ?_
    rintro ⟨s1, c⟩ ⟨h1, hc⟩
    dsimp only at *
    by_cases hc0 : c > 0
    · rw [if_pos hc0]
      have hgt := hc.gt.1 hc0
      have hne : j ≠ k := fun e => Int.not_le.2 hgt (e ▸ hsent)
      have hkj' : k < j := Nat.lt_of_le_of_ne hkj (Ne.symm hne)
      rw [if_neg (Nat.ne_of_gt (Nat.zero_lt_of_lt hkj'))]
      refine (ih s1 (j - 1) h1 (Nat.le_sub_one_of_lt hkj') (Nat.lt_of_le_of_lt (Nat.sub_le _ _) hj)
        (by omega)).mono ?_
      rintro r ⟨a0, a1, a2, a3, a4⟩
      refine ⟨a0, a1, Nat.le_trans a2 (Nat.sub_le _ _), fun t ht1 ht2 => ?_, a4⟩
      by_cases e : t = j
      · rw [e]; exact hgt
      · exact a3 t ht1 (Nat.le_sub_one_of_lt (Nat.lt_of_le_of_ne ht2 e))
    · rw [if_neg hc0]
      exact .pure ⟨h1, hkj, Nat.le_refl _, fun t a b => absurd b (Nat.not_le.2 a),
        Int.not_lt.1 fun h => hc0 (hc.gt.2 h)⟩

/-- the partition-loop invariant for the pivot value `v`, between rounds: the scans have stopped at `i` and `j` -/
structure PartInv (a : Array Elem) (lo cnt : Nat) (v : Int) (i j : Nat) : Prop where
  left : ∀ t, t < i → ak a (lo + t) ≤ v
  right : ∀ t, j < t → t < cnt → v ≤ ak a (lo + t)
  ati : v ≤ ak a (lo + i)
  atj : ak a (lo + j) ≤ v

/-- one round: exchange `i` and `j`, scan up from `i+1` to `i'`, down from `j-1` to `j'` -/
theorem PartInv.step {a a' : Array Elem} {lo cnt i j i' j' : Nat} {v : Int}
    (h : PartInv a lo cnt v i j) (hij : i < j) (hx : Exch a a' lo i j)
    (hu : ∀ t, i + 1 ≤ t → t < i' → ak a' (lo + t) < v) (hui : v ≤ ak a' (lo + i'))
    (hd : ∀ t, j' < t → t ≤ j - 1 → v < ak a' (lo + t)) (hdj : ak a' (lo + j') ≤ v) :
    PartInv a' lo cnt v i' j' := by
  refine ⟨fun t ht => ?_, fun t ht1 ht2 => ?_, hui, hdj⟩
  · by_cases e1 : t < i
    · rw [hx.other t (Nat.ne_of_lt e1) (Nat.ne_of_lt (Nat.lt_trans e1 hij))]; exact h.left t e1
    · by_cases e2 : t = i
      · rw [e2, hx.left]; exact h.atj
      · exact Int.le_of_lt (hu t (Nat.lt_of_le_of_ne (Nat.le_of_not_lt e1) (Ne.symm e2)) ht)
  · by_cases e1 : j < t
    · rw [hx.other t (Nat.ne_of_gt (Nat.lt_trans hij e1)) (Nat.ne_of_gt e1)]; exact h.right t e1 ht2
    · by_cases e2 : t = j
      · rw [e2, hx.right]; exact h.ati
      · exact Int.le_of_lt (hd t ht1 (Nat.le_sub_one_of_lt (Nat.lt_of_le_of_ne (Nat.le_of_not_lt e1) e2)))

theorem PartInv.exit {a : Array Elem} {lo cnt i j : Nat} {v : Int} (h : PartInv a lo cnt v i j)
    (hij : ¬ i < j) : ∀ t, t ≤ j → ak a (lo + t) ≤ v := by
  intro t ht
  by_cases e : t < i
  · exact h.left t e
  · rw [Nat.le_antisymm ht (Nat.le_trans (Nat.le_of_not_lt hij) (Nat.le_of_not_lt e))]; exact h.atj

/-- the pivot position after the exchange of `i` and `j` (`if (p == a) p = b; else if (p == b) p = a`)
is inside the range and holds the pivot value -/
theorem track_ok {a a' : Array Elem} {lo cnt p i j : Nat} (hx : Exch a a' lo i j) (hp : p < cnt)
    (hi : i < cnt) (hj : j < cnt) :
    (if p = i then j else if p = j then i else p) < cnt ∧
    ak a' (lo + (if p = i then j else if p = j then i else p)) = ak a (lo + p) := by
  by_cases e1 : p = i
  · rw [if_pos e1, e1]; exact ⟨hj, hx.right⟩
  · rw [if_neg e1]
    by_cases e2 : p = j
    · rw [if_pos e2, e2]; exact ⟨hi, hx.left⟩
    · rw [if_neg e2]; exact ⟨hp, hx.other p e1 e2⟩

/-- the partition loop from `(i, j)` under `PartInv`: it returns a split `m = r.2`.
`i < j → m < j`: a round that runs moves the split strictly down — with `j ≤ cnt - 1` this is what
makes the left part a proper sub-range.  `¬ i < j → m = j ∧ nothing moved`: the only way to end
with `m = cnt - 1`, the corner in which the random pivot can diverge (`partition_ok`,
`qsort_random_diverges`).  The last two clauses are the split property. -/
theorem partLoop_ok (lo cnt : Nat) (v : Int) :
    ∀ (f : Nat) (s : St) (p i j : Nat), lo + cnt ≤ s.arr.size → p < cnt → j < cnt → j + 1 ≤ f →
      ak s.arr (lo + p) = v → PartInv s.arr lo cnt v i j →
    Ok (partLoop lo cnt f s p i j) fun r => Moved lo (lo + cnt) s r.1 ∧
      (i < j → r.2 < j) ∧ (¬ i < j → r.2 = j ∧ r.1.arr = s.arr) ∧
      (∀ t, t ≤ r.2 → ak r.1.arr (lo + t) ≤ v) ∧
      (∀ t, r.2 < t → t < cnt → v ≤ ak r.1.arr (lo + t)) := by
  intro f
  induction f with
  | zero => intro s p i j _ _ _ h; omega
  | succ f ih =>
    intro s p i j hb hp hj hf hv hI
    rw [partLoop]
    by_cases hlt : i < j
    · rw [if_pos hlt]
      refine (swapAt_ok (Nat.lt_trans hlt hj) hj (Nat.le_refl _) hb).bind fun s1 ⟨hm1, hx⟩ => ?_
      have hb1 : lo + cnt ≤ s1.arr.size := by rw [hm1.size_eq]; exact hb
      -- the pivot is followed through the exchange: its value stays `v`
      obtain ⟨hp'c, hv'⟩ := track_ok hx hp (Nat.lt_trans hlt hj) hj
      rw [hv] at hv'
      generalize (if p = i then j else if p = j then i else p) = p' at hp'c hv' ⊢
      dsimp only
      have hj1 : j - 1 < j := Nat.sub_lt (Nat.zero_lt_of_lt hlt) Nat.zero_lt_one
      -- scan up from `i+1` (sentinel: position `j`), down from `j-1` (sentinel: position `i`)
      refine (scanUp_ok lo cnt p' hb1 hp'c hv' hj (by rw [hx.right]; exact hI.ati)
        (cnt + 1) s1 (i + 1) (St.same_refl _) hlt (by omega)).bind ?_
      rintro ⟨s2, i'⟩ ⟨h2, u2, u3, u4⟩
      refine (scanDown_ok lo cnt p' hb1 hp'c hv' (k := i) (by rw [hx.left]; exact hI.atj)
        (cnt + 1) s2 (j - 1) h2 (Nat.le_sub_one_of_lt hlt) (Nat.lt_trans hj1 hj) (by omega)).bind ?_
      rintro ⟨s3, j'⟩ ⟨h3, d1, d2, d3, d4⟩
      dsimp only at u2 u3 u4 d1 d2 d3 d4 h3 ⊢
      have hj'j : j' < j := Nat.lt_of_le_of_lt d2 hj1
      -- the scans wrote the log only: what was said of `s1.arr` is said of `s3.arr`
      rw [← h3.arr] at hb1 hv' u3 u4 d3 d4 hx
      refine (ih s3 p' i' j' hb1 hp'c (Nat.lt_trans hj'j hj)
        (Nat.le_of_lt_succ (Nat.lt_of_lt_of_le (Nat.succ_lt_succ hj'j) hf)) hv'
        (hI.step hlt hx u3 u4 d3 d4)).mono ?_
      rintro ⟨s4, m⟩ ⟨hm4, c1, c2, m4, m5⟩
      dsimp only at hm4 c1 c2 m4 m5 ⊢
      refine ⟨hm1.trans ((h3.moved _ _).trans hm4), fun _ => ?_, fun h => absurd hlt h, m4, m5⟩
      by_cases h : i' < j'
      · exact Nat.lt_trans (c1 h) hj'j
      · rw [(c2 h).1]; exact hj'j
    · rw [if_neg hlt]
      exact .pure ⟨.refl _ _ _, fun h => absurd h hlt, fun _ => ⟨rfl, rfl⟩, hI.exit hlt, hI.right⟩

/-- the split `m` when the first scans stopped at `i0 ≤ p ≤ j0` and the loop satisfies the two
clauses of `partLoop_ok`: it is inside the range, and it is the last index exactly when both scans
stopped there (`i0 = p = j0 = cnt - 1`), in which case the loop body did not run -/
theorem split_arith {cnt p i0 j0 m : Nat} (hp : p < cnt) (hi : i0 ≤ p) (hj : p ≤ j0) (hjc : j0 ≤ cnt - 1)
    (h1 : i0 < j0 → m < j0) (h2 : ¬ i0 < j0 → m = j0) :
    m < cnt ∧ (m = cnt - 1 ↔ i0 = cnt - 1 ∧ p = cnt - 1) ∧ (m = cnt - 1 → ¬ i0 < j0) := by
  omega

/-- `m` splits the range around the pivot value; the left part is the whole
range (`m = cnt - 1`) exactly when the pivot is at the last position and is the
strict maximum, and then nothing was moved -/
theorem partition_ok (s : St) (lo cnt p : Nat) (hb : lo + cnt ≤ s.arr.size) (hp : p < cnt) :
    Ok (partition s lo cnt p) fun r => Moved lo (lo + cnt) s r.1 ∧ r.2 < cnt ∧
      (∀ t, t ≤ r.2 → ak r.1.arr (lo + t) ≤ ak s.arr (lo + p)) ∧
      (∀ t, r.2 < t → t < cnt → ak s.arr (lo + p) ≤ ak r.1.arr (lo + t)) ∧
      (r.2 = cnt - 1 ↔ (p = cnt - 1 ∧ ∀ t, t < cnt - 1 → ak s.arr (lo + t) < ak s.arr (lo + p))) ∧
      (r.2 = cnt - 1 → r.1.arr = s.arr) := by
  unfold partition
  rw [if_neg (Nat.ne_of_gt (Nat.zero_lt_of_lt hp))]
  -- both scans have the pivot itself as sentinel
  refine (scanUp_ok lo cnt p hb hp rfl hp (Int.le_refl _) (cnt + 1) s 0 (St.same_refl s)
    (Nat.zero_le _) (Nat.succ_le_succ (Nat.le_of_lt hp))).bind ?_
  rintro ⟨s1, i0⟩ ⟨h1, u2, u3, u4⟩
  have hc1 : cnt - 1 < cnt := Nat.sub_lt (Nat.zero_lt_of_lt hp) Nat.zero_lt_one
  have hp1 : p ≤ cnt - 1 := Nat.le_sub_one_of_lt hp
  refine (scanDown_ok lo cnt p hb hp rfl (k := p) (Int.le_refl _) (cnt + 1) s1 (cnt - 1) h1
    hp1 hc1 (by omega)).bind ?_
  rintro ⟨s2, j0⟩ ⟨h2, d1, d2, d3, d4⟩
  dsimp only at u2 u3 u4 d1 d2 d3 d4 h2 ⊢
  have hj0 : j0 < cnt := Nat.lt_of_le_of_lt d2 hc1
  refine (partLoop_ok lo cnt _ cnt s2 p i0 j0 (by rw [h2.arr]; exact hb) hp hj0 hj0
    (by rw [h2.arr]) ?_).mono ?_
  · rw [h2.arr]
    exact ⟨fun t ht => Int.le_of_lt (u3 t (Nat.zero_le _) ht),
      fun t ht1 ht2 => Int.le_of_lt (d3 t ht1 (Nat.le_sub_one_of_lt ht2)), u4, d4⟩
  rintro ⟨s3, m⟩ ⟨hm, c1, c2, m4, m5⟩
  dsimp only at hm c1 c2 m4 m5 ⊢
  rw [h2.arr] at c2
  obtain ⟨hmc, hiff, hnlt⟩ := split_arith hp u2 d1 d2 c1 fun h => (c2 h).1
  refine ⟨(h2.moved _ _).trans hm, hmc, m4, m5, ⟨fun hm' => ?_, fun ⟨hpl, hmax⟩ => ?_⟩, fun hm' => ?_⟩
  · obtain ⟨hi, hpl⟩ := hiff.1 hm'
    exact ⟨hpl, fun t ht => u3 t (Nat.zero_le _) (hi ▸ ht)⟩
  · -- the scan up cannot have stopped before the last position
    refine hiff.2 ⟨?_, hpl⟩
    refine Nat.le_antisymm (Nat.le_trans u2 hp1) (Nat.le_of_not_lt fun h => ?_)
    exact Int.not_lt.2 u4 (hmax i0 h)
  · exact (c2 (hnlt hm')).2

/-! ### whatever `partition` returns is an index of the range

(no hypothesis on the state: a scan that returns has just compared that position) -/

theorem scanDown_lt (lo cnt p : Nat) : ∀ (f : Nat) (s : St) (j : Nat) (s' : St) (j' : Nat),
    scanDown lo cnt p f s j = .ok (s', j') → j' < cnt := by
  intro f
  induction f with
  | zero => intro s j s' j' h; cases h
  | succ f ih =>
    intro s j s' j' h
    rw [scanDown] at h
    obtain ⟨⟨s1, c⟩, h1, h⟩ := bind_ok h
    dsimp only at h
    split at h
    · split at h
      · cases h
      · exact ih _ _ _ _ h
    · cases h; exact (cmpAt_inv h1).1

theorem partLoop_lt (lo cnt : Nat) : ∀ (f : Nat) (s : St) (p i j : Nat) (s' : St) (m : Nat),
    partLoop lo cnt f s p i j = .ok (s', m) → j < cnt → m < cnt := by
  intro f
  induction f with
  | zero => intro s p i j s' m h; cases h
  | succ f ih =>
    intro s p i j s' m h hj
    rw [partLoop] at h
    split at h
    · obtain ⟨s1, _, h⟩ := bind_ok h
      obtain ⟨⟨s2, i2⟩, _, h⟩ := bind_ok h
      obtain ⟨⟨s3, j2⟩, hd, h⟩ := bind_ok h
      exact ih _ _ _ _ _ _ h (scanDown_lt lo cnt _ _ _ _ _ _ hd)
    · cases h; exact hj

theorem partition_lt {s s' : St} {lo cnt p m : Nat} (h : partition s lo cnt p = .ok (s', m)) : m < cnt := by
  unfold partition at h
  split at h
  · cases h
  · obtain ⟨⟨s2, i2⟩, _, h⟩ := bind_ok h
    obtain ⟨⟨s3, j2⟩, hd, h⟩ := bind_ok h
    exact partLoop_lt lo cnt _ _ _ _ _ _ _ h (scanDown_lt lo cnt _ _ _ _ _ _ hd)

theorem condSwap_ok {s : St} {lo cnt a b : Nat} (hb : lo + cnt ≤ s.arr.size)
    (h1 : a < cnt) (h2 : b < cnt) :
    Ok (condSwap s lo cnt a b) fun s2 => Moved lo (lo + cnt) s s2 ∧
      ak s2.arr (lo + b) ≤ ak s2.arr (lo + a) ∧
      (Exch s.arr s2.arr lo a b ∨ s2.arr = s.arr) := by
  unfold condSwap
  refine (cmpAt_ok (St.same_refl s) h1 h2 hb).bind ?_
  rintro ⟨s1, c⟩ ⟨hs1, hc⟩
  dsimp only at *
  by_cases hc0 : c < 0
  · rw [if_pos hc0]
    refine (swapAt_ok h1 h2 (Nat.le_refl _) (by rw [hs1.arr]; exact hb)).mono fun s2 ⟨hm, hx⟩ => ?_
    rw [hs1.arr] at hx
    exact ⟨(hs1.moved _ _).trans hm, by rw [hx.right, hx.left]; exact Int.le_of_lt (hc.lt.1 hc0),
      .inl hx⟩
  · rw [if_neg hc0]
    exact .pure ⟨hs1.moved _ _, by rw [hs1.arr]; exact Int.not_lt.1 fun h => hc0 (hc.lt.2 h), .inr hs1.arr⟩

theorem mid_lt_last {cnt : Nat} (hc : 1 < cnt) : (cnt - 1) / 2 < cnt - 1 := by omega

theorem med3_ok (s : St) (lo cnt : Nat) (hb : lo + cnt ≤ s.arr.size) (hc : 1 < cnt) :
    Ok (med3 s lo cnt) fun s' => Moved lo (lo + cnt) s s' ∧
      ak s'.arr (lo + 0) ≤ ak s'.arr (lo + (cnt - 1) / 2) ∧
      ak s'.arr (lo + (cnt - 1) / 2) ≤ ak s'.arr (lo + (cnt - 1)) := by
  have h0 : 0 < cnt := Nat.lt_trans Nat.zero_lt_one hc
  have he : cnt - 1 < cnt := Nat.sub_lt h0 Nat.zero_lt_one
  have hme := mid_lt_last hc
  unfold med3
  -- `cnt - 1` and its half become variables `e`, `m` with `m < e < cnt`: only that is used, and `omega`
  -- need not see the division again
  generalize cnt - 1 = e at *
  generalize e / 2 = m at *
  have hm : m < cnt := Nat.lt_trans hme he
  refine (condSwap_ok hb he h0).bind fun s2 ⟨hm2, o1, _⟩ => ?_
  have hb2 : lo + cnt ≤ s2.arr.size := by rw [hm2.size_eq]; exact hb
  refine (cmpAt_ok (St.same_refl s2) hm h0 hb2).bind ?_
  rintro ⟨s3, c2⟩ ⟨hs3, hc2⟩
  dsimp only at *
  have hb3 : lo + cnt ≤ s3.arr.size := by rw [hs3.arr]; exact hb2
  by_cases hc20 : c2 < 0
  · rw [if_pos hc20]
    have hlt2 := hc2.lt.1 hc20
    refine (swapAt_ok hm h0 (Nat.le_refl _) hb3).mono fun s4 ⟨hm4, hx⟩ => ?_
    rw [hs3.arr] at hx
    refine ⟨hm2.trans ((hs3.moved _ _).trans hm4), ?_, ?_⟩
    · rw [hx.right, hx.left]; exact Int.le_of_lt hlt2
    · rw [hx.left, hx.other e (Nat.ne_of_gt hme) (Nat.ne_of_gt (Nat.zero_lt_of_lt hme))]; exact o1
  · rw [if_neg hc20]
    have hge : ak s2.arr (lo + 0) ≤ ak s2.arr (lo + m) := Int.not_lt.1 fun h => hc20 (hc2.lt.2 h)
    refine (condSwap_ok hb3 he hm).mono fun s6 ⟨hm6, o6, k6⟩ => ?_
    rw [hs3.arr] at k6
    refine ⟨hm2.trans ((hs3.moved _ _).trans hm6), ?_, o6⟩
    rcases k6 with hx | ea
    · by_cases hm0 : m = 0
      · rw [hm0]; exact Int.le_refl _
      · rw [hx.other 0 (Nat.ne_of_lt (Nat.zero_lt_of_lt hme)) (Ne.symm hm0), hx.right]; exact o1
    · rw [ea]; exact hge

/-- unless `rand()` has run out of scripted draws and answers the default 0,
which is never the last index, a draw shortens the stream -/
theorem draw_progress {s : St} (hd : s.dflt = 0) {cnt : Nat} (hc : 1 < cnt) :
    (draw s).2 % cnt ≠ cnt - 1 ∨ (draw s).1.rnd.length < s.rnd.length := by
  unfold draw
  cases hr : s.rnd with
  | nil => left; rw [hd, Nat.zero_mod]; omega
  | cons r rs => right; exact Nat.lt_succ_self _

theorem draw_nil {s : St} (h : s.rnd = []) : draw s = (s, s.dflt) := by
  unfold draw; rw [h]

theorem draw_same (s : St) :
    (draw s).1.arr = s.arr ∧ (draw s).1.dflt = s.dflt ∧ (draw s).1.rnd.length ≤ s.rnd.length := by
  unfold draw
  cases hr : s.rnd with
  | nil => exact ⟨rfl, rfl, by rw [hr]; exact Nat.le_refl _⟩
  | cons r rs => exact ⟨rfl, rfl, Nat.le_succ _⟩

/-- `Moved`, except that the random selector (`algo = 1`) may have consumed draws: what the pivot choice
and a whole `qsort` call do to the state -/
structure Drew (lo hi : Nat) (s s' : St) : Prop where
  sw : Sw lo hi s.arr s'.arr
  dflt : s'.dflt = s.dflt
  len : s'.rnd.length ≤ s.rnd.length

theorem Moved.drew {lo hi : Nat} {s s' : St} (h : Moved lo hi s s') : Drew lo hi s s' :=
  ⟨h.sw, h.dflt, Nat.le_of_eq (congrArg _ h.rnd)⟩

theorem Drew.trans {lo hi : Nat} {a b c : St} (h1 : Drew lo hi a b) (h2 : Drew lo hi b c) :
    Drew lo hi a c :=
  ⟨h1.sw.trans h2.sw, h2.dflt.trans h1.dflt, Nat.le_trans h2.len h1.len⟩

theorem Drew.mono {lo hi lo' hi' : Nat} {a b : St} (h : Drew lo hi a b) (hl : lo' ≤ lo) (hh : hi ≤ hi') :
    Drew lo' hi' a b :=
  ⟨h.sw.mono hl hh, h.dflt, h.len⟩

/-- what `pickPivot` leaves behind: a pivot position `r.2` inside the range, the array changed only
by the 3-sort.  `det` is the progress fact of the deterministic selectors (the pivot is never the
last position, so the partition's left part is a proper sub-range); `rand` says which draw a random
pivot was (for `draw_progress` and the diverging corner); `small` is the `count ≤ 3` shortcut of
median-of-three, where the 3-sort has already sorted the range. -/
structure PivotPost (algo lo cnt : Nat) (s : St) (r : St × Nat) : Prop where
  lt : r.2 < cnt
  drew : Drew lo (lo + cnt) s r.1
  det : algo ≠ 1 → r.2 ≠ cnt - 1
  rand : algo = 1 → r = ((draw s).1, (draw s).2 % cnt)
  small : algo = 2 → cnt ≤ 3 → SortedR r.1.arr lo cnt

theorem PivotPost.of_det {algo lo cnt p : Nat} {s s1 : St} (h1 : algo ≠ 1) (hp : p < cnt)
    (hne : p ≠ cnt - 1) (hm : Moved lo (lo + cnt) s s1)
    (hsmall : algo = 2 → cnt ≤ 3 → SortedR s1.arr lo cnt) : PivotPost algo lo cnt s (s1, p) where
  lt := hp
  drew := hm.drew
  det := fun _ => hne
  rand := fun h => absurd h h1
  small := hsmall

theorem pickPivot_ok (algo : Nat) (s : St) (lo cnt : Nat) (hb : lo + cnt ≤ s.arr.size) (hc : 1 < cnt) :
    Ok (pickPivot algo s lo cnt) (PivotPost algo lo cnt s) := by
  have h0 : 0 < cnt := Nat.lt_trans Nat.zero_lt_one hc
  unfold pickPivot
  by_cases h1 : algo = 1
  · rw [if_pos h1]
    show Ok (pure ((draw s).1, (draw s).2 % cnt)) _
    have hs := draw_same s
    exact .pure {
      lt := Nat.mod_lt _ h0
      drew := ⟨by rw [hs.1]; exact .refl _, hs.2.1, hs.2.2⟩
      det := fun h => absurd h1 h
      rand := fun _ => rfl
      small := fun h => absurd (h1 ▸ h) (by decide) }
  · rw [if_neg h1]
    by_cases h2 : algo = 2
    · rw [if_pos h2]
      have hme := mid_lt_last hc
      refine (med3_ok s lo cnt hb hc).bind fun s1 ⟨hm, o1, o2⟩ => ?_
      refine .pure (.of_det h1 (Nat.lt_of_lt_of_le hme (Nat.sub_le _ _)) (Nat.ne_of_lt hme) hm fun _ hc3 => ?_)
      -- two or three elements: the 3-sort has sorted the range
      refine sortedR_of_adjacent fun t ht => ?_
      have hcases : cnt = 2 ∨ cnt = 3 := by omega
      rcases hcases with rfl | rfl
      · have e : t = 0 := by omega
        rw [e]; exact o2
      · have e : t = 0 ∨ t = 1 := by omega
        rcases e with rfl | rfl
        · exact o1
        · exact o2
    · rw [if_neg h2]
      exact .pure (.of_det h1 h0 (Nat.ne_of_lt (Nat.lt_sub_of_add_lt hc)) (.refl _ _ _) fun h => absurd h h2)

theorem range_split {lo cnt m : Nat} (hm : m < cnt) : lo + m + 1 + (cnt - m - 1) = lo + cnt := by omega

theorem shift_idx {lo m p : Nat} (h : m + 1 ≤ p) : lo + m + 1 + (p - (m + 1)) = lo + p := by omega

theorem right_smaller {cnt m : Nat} (hm : m < cnt) : cnt - m - 1 < cnt := by omega

theorem SortedR.glue {a b c : Array Elem} {lo cnt m : Nat} {v : Int} (hm : m < cnt) (hb : lo + cnt ≤ a.size)
    (hle : ∀ t, t ≤ m → ak a (lo + t) ≤ v) (hge : ∀ t, m < t → t < cnt → v ≤ ak a (lo + t))
    (h1 : Sw lo (lo + (m + 1)) a b) (hs1 : SortedR b lo (m + 1))
    (h2 : Sw (lo + (m + 1)) (lo + cnt) b c) (hs2 : SortedR c (lo + m + 1) (cnt - m - 1)) :
    SortedR c lo cnt := by
  have hm1 : lo + (m + 1) ≤ a.size := Nat.le_trans (Nat.add_le_add_left (Nat.succ_le_of_lt hm) lo) hb
  intro p q hpq hq
  by_cases hqm : q ≤ m
  · rw [h2.ak_outside (t := p) (.inl (Nat.lt_succ_of_le (Nat.le_trans hpq hqm))),
      h2.ak_outside (t := q) (.inl (Nat.lt_succ_of_le hqm))]
    exact hs1 p q hpq (Nat.lt_succ_of_le hqm)
  · have hmq : m + 1 ≤ q := Nat.lt_of_not_le hqm
    by_cases hpm : p ≤ m
    · refine Int.le_trans (b := v) ?_ ?_
      · rw [h2.ak_outside (t := p) (.inl (Nat.lt_succ_of_le hpm))]
        exact h1.ak_bound (u := 0) (· ≤ v) hm1 (fun t _ ht => hle t (Nat.le_of_lt_succ ht)) p (Nat.zero_le _)
          (Nat.lt_succ_of_le hpm)
      · refine h2.ak_bound (v ≤ ·) (by rw [h1.size_eq]; exact hb) (fun t ht1 ht2 => ?_) q hmq hq
        rw [h1.ak_outside (u := 0) (t := t) (.inr ht1)]
        exact hge t ht1 ht2
    · have hmp : m + 1 ≤ p := Nat.lt_of_not_le hpm
      have := hs2 (p - (m + 1)) (q - (m + 1)) (Nat.sub_le_sub_right hpq _) (by omega)
      rwa [shift_idx hmp, shift_idx hmq] at this

/-- fuel that is certainly enough: `count` for the deterministic pivots; for
the random pivot on a stream that ends in zeros, `count` plus the number of
explicit draws still to come (each draw can re-enter the same range once) -/
def Enough (algo f : Nat) (s : St) (cnt : Nat) : Prop :=
  if algo = 1 then s.dflt = 0 ∧ cnt + s.rnd.length ≤ f else cnt ≤ f

theorem Enough.of_det {algo f cnt : Nat} (s : St) (h : algo ≠ 1) (hf : cnt ≤ f) : Enough algo f s cnt := by
  unfold Enough; rw [if_neg h]; exact hf

theorem Enough.of_zeros {algo f cnt : Nat} {s : St} (hd : s.dflt = 0) (hf : cnt + s.rnd.length ≤ f) :
    Enough algo f s cnt := by
  unfold Enough; split
  · exact ⟨hd, hf⟩
  · omega

theorem Enough.le {algo f cnt : Nat} {s : St} (h : Enough algo f s cnt) : cnt ≤ f := by
  unfold Enough at h; split at h <;> omega

theorem Enough.dflt {f cnt : Nat} {s : St} (h : Enough 1 f s cnt) : s.dflt = 0 := by
  unfold Enough at h; exact (if_pos rfl ▸ h).1

theorem Enough.step {algo f : Nat} {s s' : St} {cnt cnt' : Nat} (h : Enough algo (f + 1) s cnt)
    (hd : s'.dflt = s.dflt) (h1 : algo = 1 → cnt' + s'.rnd.length < cnt + s.rnd.length)
    (h2 : algo ≠ 1 → cnt' < cnt) : Enough algo f s' cnt' := by
  unfold Enough at h ⊢
  by_cases ha : algo = 1
  · rw [if_pos ha] at h ⊢
    have := h1 ha
    exact ⟨hd.trans h.1, by omega⟩
  · rw [if_neg ha] at h ⊢
    have := h2 ha
    omega

theorem qsort_small (algo f : Nat) (s : St) (lo cnt : Nat) (h : ¬ cnt > 1) :
    qsort algo f s lo cnt = .ok s := by
  cases f <;> rw [qsort, if_neg h] <;> rfl

structure QPost (lo cnt : Nat) (s s' : St) : Prop where
  drew : Drew lo (lo + cnt) s s'
  sorted : SortedR s'.arr lo cnt

/-- the left call gets less than the whole range unless the split is at the
last index, and then (random pivot, default draw 0) a scripted draw was consumed -/
theorem left_progress {cnt m l1 l : Nat} (hm : m < cnt) (h : m ≠ cnt - 1 ∨ l1 < l) (hl : l1 ≤ l) :
    m + 1 + l1 < cnt + l := by omega

theorem qsort_main (algo : Nat) :
    ∀ (f : Nat) (s : St) (lo cnt : Nat), lo + cnt ≤ s.arr.size →
    Ok (qsort algo f s lo cnt) (QPost lo cnt s) ∨
    (qsort algo f s lo cnt = .error .fuel ∧ ¬ Enough algo f s cnt) := by
  have small : ∀ f s lo cnt, ¬ cnt > 1 → Ok (qsort algo f s lo cnt) (QPost lo cnt s) :=
    fun f s lo cnt hc => ⟨s, qsort_small _ _ _ _ _ hc, (Moved.refl _ _ s).drew, sortedR_small _ _ hc⟩
  intro f
  induction f with
  | zero =>
    intro s lo cnt hb
    by_cases hc : cnt > 1
    · exact .inr ⟨by rw [qsort, if_pos hc], fun h => absurd h.le (by omega)⟩
    · exact .inl (small _ _ _ _ hc)
  | succ f ih =>
    intro s lo cnt hb
    by_cases hc : cnt > 1
    · obtain ⟨⟨s1, p⟩, hpk, hpv⟩ := pickPivot_ok algo s lo cnt hb hc
      have hb1 : lo + cnt ≤ s1.arr.size := by rw [hpv.drew.sw.size_eq]; exact hb
      rw [qsort, if_pos hc, bind_of_ok hpk]
      dsimp only
      by_cases hpart : algo ≠ 2 ∨ cnt > 3
      · obtain ⟨⟨s2, m⟩, hpt, hm2, hm, hle, hge, hcorner, _⟩ := partition_ok s1 lo cnt p hb1 hpv.lt
        dsimp only at hm2 hm hle hge hcorner
        have hb2 : lo + cnt ≤ s2.arr.size := by rw [hm2.size_eq]; exact hb1
        have hm1 : lo + (m + 1) ≤ lo + cnt := Nat.add_le_add_left (Nat.succ_le_of_lt hm) lo
        have d2 : Drew lo (lo + cnt) s s2 := hpv.drew.trans (hm2.drew)
        rw [if_pos hpart, bind_of_ok hpt]
        dsimp only
        -- the left call gets the whole range only if the pivot drawn was the last index
        have hleft : Enough algo (f + 1) s cnt → Enough algo f s2 (m + 1) := fun hen =>
          hen.step d2.dflt
            (fun h1 => by
              refine left_progress hm ?_ d2.len
              have e1 : s1 = (draw s).1 := congrArg Prod.fst (hpv.rand h1)
              have e2 : p = (draw s).2 % cnt := congrArg Prod.snd (hpv.rand h1)
              rw [hm2.rnd, e1]
              exact (draw_progress (h1 ▸ hen).dflt hc).imp (fun h e => h (e2 ▸ (hcorner.1 e).1)) id)
            (fun h1 => Nat.lt_of_le_of_ne (Nat.succ_le_of_lt hm) fun e =>
              hpv.det h1 (hcorner.1 (Nat.eq_sub_of_add_eq e)).1)
        rcases ih s2 lo (m + 1) (Nat.le_trans hm1 hb2) with ⟨s3, h3, q3⟩ | ⟨h3, hne3⟩
        · have d3 : Drew lo (lo + cnt) s s3 := d2.trans (q3.drew.mono (Nat.le_refl _) hm1)
          have hb3 : lo + cnt ≤ s3.arr.size := by rw [d3.sw.size_eq]; exact hb
          rw [bind_of_ok h3]
          rcases ih s3 (lo + m + 1) (cnt - m - 1) (range_split hm ▸ hb3) with ⟨s4, h4, q4⟩ | ⟨h4, hne4⟩
          · have d4 : Drew (lo + (m + 1)) (lo + cnt) s3 s4 :=
              q4.drew.mono (Nat.le_refl _) (Nat.le_of_eq (range_split hm))
            exact .inl ⟨s4, h4, d3.trans (d4.mono (Nat.le_add_right _ _) (Nat.le_refl _)),
              SortedR.glue hm hb2 hle hge q3.drew.sw q3.sorted d4.sw q4.sorted⟩
          · refine .inr ⟨h4, fun hen => hne4 (hen.step d3.dflt (fun _ => ?_) fun _ => right_smaller hm)⟩
            exact Nat.add_lt_add_of_lt_of_le (right_smaller hm) d3.len
        · exact .inr ⟨by rw [h3]; rfl, fun hen => hne3 (hleft hen)⟩
      · have h2 : algo = 2 := Decidable.not_not.1 fun h => hpart (.inl h)
        rw [if_neg hpart]
        exact .inl (.pure ⟨hpv.drew, hpv.small h2 (Nat.le_of_not_lt fun h => hpart (.inr h))⟩)
    · exact .inl (small _ _ _ _ hc)

theorem qsort_whole (algo fuel : Nat) (s : St) :
    (∃ s', qsort algo fuel s 0 s.arr.size = .ok s' ∧
      s'.arr.toList.Perm s.arr.toList ∧
      s'.arr.toList.Pairwise (fun x y => x.key ≤ y.key)) ∨
    (qsort algo fuel s 0 s.arr.size = .error .fuel ∧ ¬ Enough algo fuel s s.arr.size) :=
  (qsort_main algo fuel s 0 s.arr.size (Nat.le_of_eq (Nat.zero_add _))).imp_left
    fun ⟨s', h, q⟩ => ⟨s', h, sorted_perm_of q.drew.sw q.sorted⟩

end Cstl.Sort
