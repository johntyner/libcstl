import Cstl.Sort.LemmasSearch
/-
Property C11, search part ("on a sorted array binary search returns an index whose element
compares equal to the probe if and only if one exists and -1 otherwise, linear find returns
the first such index in any array, and reverse exactly mirrors the order").
All three are total statements: the model call returns (no out-of-range
access, fuel suffices, no `int` overflow for the stated sizes).
-/
namespace Cstl.Sort

/-- **find returns the first index whose element compares equal to the probe,
or -1 when there is none**, on any array; the array is not modified. -/
theorem find_first (s : St) (x : Elem) :
    ∃ s' r, find s x = .ok (s', r) ∧ s'.arr = s.arr ∧
      ((r = -1 ∧ ∀ k, k < s.arr.size → ak s.arr k ≠ x.key) ∨
       (∃ n : Nat, r = (n : Int) ∧ n < s.arr.size ∧ ak s.arr n = x.key ∧
          ∀ k, k < n → ak s.arr k ≠ x.key)) := by
  obtain ⟨⟨s', r⟩, h, hs, hr⟩ := findLoop_ok x s.arr.size (Nat.le_refl _) (s.arr.size + 1) s 0
    (St.same_refl s) (Nat.le_refl _) (Nat.zero_le _)
  refine ⟨s', r, h, hs.arr, ?_⟩
  rcases hr with ⟨e, hall⟩ | ⟨n, e, b, c, d⟩
  · exact .inl ⟨e, fun k hk => hall k (Nat.zero_le _) hk⟩
  · exact .inr ⟨n, e, b, c, fun k hk => d k (Nat.zero_le _) hk⟩

example : (find { arr := #[⟨3, 0⟩, ⟨1, 1⟩, ⟨3, 2⟩, ⟨1, 3⟩] } ⟨1, 9⟩).toOption.map (·.2) = some 1 := by decide

/-- **reverse exactly mirrors the order** (element for element, not only the
keys), for every array of at most 2^31 elements (it is `count - 1`
that has to fit C `int`); it returns (no out-of-range
access, no overflow, fuel suffices). -/
theorem reverse_mirror (s : St) (h : s.arr.size ≤ 2147483648) :
    ∃ s', reverse s = .ok s' ∧ s'.arr.toList = s.arr.toList.reverse ∧
      s'.rnd = s.rnd ∧ s'.dflt = s.dflt := by
  unfold reverse
  rw [bind_of_ok (lastIdx_ok h), ← Array.toList_reverse, Array.reverse]
  by_cases h1 : s.arr.size ≤ 1
  · -- `0 < count - 1` fails at once
    rw [dif_pos h1, revLoop, if_neg (by omega)]
    exact ⟨s, rfl, rfl, rfl, rfl⟩
  · rw [dif_neg h1]
    obtain ⟨s', h2, ha, hr⟩ := revLoop_ok s.arr.size h (s.arr.size + 1) s 0 (s.arr.size - 1)
      (by omega) rfl (Nat.zero_le _) (by omega)
    rw [show ((s.arr.size - 1 : Nat) : Int) = (s.arr.size : Int) - 1 by omega] at h2
    exact ⟨s', h2, congrArg Array.toList ha, hr⟩

/-- reverse keeps exactly the same elements whenever it returns (any length) -/
theorem reverse_perm {s s' : St} (h : reverse s = .ok s') : s'.arr.toList.Perm s.arr.toList := by
  by_cases hsz : s.arr.size ≤ 2147483648
  · rw [(Ok.post (reverse_mirror s hsz) h).1]; exact List.reverse_perm _
  · exfalso
    unfold reverse lastIdx at h
    rw [if_neg (by omega)] at h
    have : i32 ((s.arr.size : Int) - 1) = .error .ovf := by
      unfold i32; rw [if_neg (by omega)]
    rw [this] at h; cases h

example : (reverse { arr := #[⟨3, 0⟩, ⟨1, 1⟩, ⟨2, 2⟩] }).toOption.map (·.arr) = some #[⟨2, 2⟩, ⟨1, 1⟩, ⟨3, 0⟩] := by
  decide

/-- **binary search on a sorted array returns an index whose element compares
equal to the probe if one exists and -1 otherwise** (so: a non-negative result
iff a match exists), for every length up to 2^30 (all `int` intermediates
`i + j`, `n ± 1` then fit 32 bits: the model would return `Stop.ovf`
otherwise); every access is inside the array; the array is not modified. -/
theorem search_spec (s : St) (x : Elem) (hsz : s.arr.size ≤ 1073741824)
    (hsorted : s.arr.toList.Pairwise (fun a b => a.key ≤ b.key)) :
    ∃ s' r, search s x = .ok (s', r) ∧ s'.arr = s.arr ∧
      ((r = -1 ∧ ∀ k, k < s.arr.size → ak s.arr k ≠ x.key) ∨
       (∃ n : Nat, r = (n : Int) ∧ n < s.arr.size ∧ ak s.arr n = x.key)) := by
  have hs : ∀ p q, p ≤ q → q < s.arr.size → ak s.arr p ≤ ak s.arr q := by
    simpa [SortedR] using (sortedR_iff_pairwise s.arr).2 hsorted
  obtain ⟨⟨s', r⟩, h, hsame, hr⟩ := searchLoop_ok x s.arr.size hsz (Nat.le_refl _) hs (s.arr.size + 1) s 0
    ((s.arr.size : Int) - 1) (St.same_refl s) (Int.le_refl _) (by omega) (by omega) (by omega)
    ⟨fun k hk => by omega, fun k hk1 hk2 => by omega⟩
  refine ⟨s', r, ?_, hsame.arr, hr⟩
  unfold search
  rw [bind_of_ok (lastIdx_ok (by omega))]
  exact h

/-- the "if and only if" reading of `search_spec` -/
theorem search_iff (s : St) (x : Elem) (hsz : s.arr.size ≤ 1073741824)
    (hsorted : s.arr.toList.Pairwise (fun a b => a.key ≤ b.key)) :
    ∃ s' r, search s x = .ok (s', r) ∧
      ((∃ k, k < s.arr.size ∧ ak s.arr k = x.key) ↔
        (0 ≤ r ∧ r.toNat < s.arr.size ∧ ak s.arr r.toNat = x.key)) ∧
      ((¬ ∃ k, k < s.arr.size ∧ ak s.arr k = x.key) ↔ r = -1) := by
  obtain ⟨s', r, h, _, hr⟩ := search_spec s x hsz hsorted
  refine ⟨s', r, h, ?_⟩
  rcases hr with ⟨rfl, hall⟩ | ⟨n, rfl, hn, hk⟩
  · have hno : ¬ ∃ k, k < s.arr.size ∧ ak s.arr k = x.key := fun ⟨k, hk, he⟩ => hall k hk he
    exact ⟨⟨fun h => absurd h hno, fun ⟨h0, _⟩ => absurd h0 (by decide)⟩, fun _ => rfl, fun _ => hno⟩
  · have hyes : ∃ k, k < s.arr.size ∧ ak s.arr k = x.key := ⟨n, hn, hk⟩
    exact ⟨⟨fun _ => ⟨Int.natCast_nonneg n, hn, hk⟩, fun _ => hyes⟩, fun h => absurd hyes h,
      fun e => absurd e (by omega)⟩

example : (search { arr := #[⟨1, 0⟩, ⟨1, 1⟩, ⟨2, 2⟩, ⟨5, 3⟩] } ⟨2, 9⟩).toOption.map (·.2) = some 2 := by decide
example : (search { arr := #[⟨1, 0⟩, ⟨1, 1⟩, ⟨2, 2⟩, ⟨5, 3⟩] } ⟨3, 9⟩).toOption.map (·.2) = some (-1) := by decide
/-- the hypotheses of `search_spec` hold on a concrete array with duplicates -/
example : True := by
  have := search_spec { arr := #[⟨1, 0⟩, ⟨1, 1⟩, ⟨2, 2⟩, ⟨5, 3⟩] } ⟨2, 9⟩ (by decide) (by simp)
  trivial

/-- **binary search never modifies the array** (sorted or not) -/
theorem search_arr {s : St} {x : Elem} {r : St × Int} (h : search s x = .ok r) : r.1.arr = s.arr := by
  unfold search at h
  obtain ⟨j, _, h⟩ := bind_ok h
  exact searchLoop_arr _ _ _ _ _ _ _ _ h

end Cstl.Sort
