import Cstl.Sort.Model
/-
Vocabulary of the translation of src/array.c's raw-array algorithms (tools/c2lean_sort.py →
Cstl/Gen/SortC.lean).  Everything the generated module mentions that is not already in
Cstl/Sort/Model.lean is defined here (core Lean only), so that the generated text stays a
statement-by-statement image of the C function.

Pointers.  The C code addresses elements as `(char *)arr + i * size` (`__cstl_raw_array_at`, whose
body the translator checks).  A pointer value of the translation is `Ptr`: `null`, or `el i` =
`arr + i * size` for the `arr` the enclosing function was handed (its position in the one global
array is the function's `lo`).  Equality of pointers is equality of `Ptr`s (`size ≥ 1`: distinct
indices are distinct addresses).  The comparison / swap callbacks called on `Ptr`s are the model's
logged, bounds-checked `cmpAt` / `swapAt`; a callback handed `NULL` is a stop.

Integers.  `size_t` is `Nat` with the wrap-around of 64-bit unsigned arithmetic written out
(`uadd`, `usub`, `umul`); C `int` / `ssize_t` variables are `Int`; signed `+ - *` are checked
(`i32` of the model, `i64`): signed overflow has no meaning in C, the translation stops with
`Stop.ovf`.  Conversions between integer types are gcc's (value-preserving where the value fits,
otherwise modulo 2^N); the arguments of `castU64` are values of C `int` / `ssize_t` variables.
-/
namespace Cstl.Sort.CSem
open Cstl.Sort

inductive Ptr where
  | null
  | el (i : Nat)
deriving DecidableEq, Repr, Inhabited

/-- `a + b` on `size_t` -/
def uadd (a b : Nat) : Nat := (a + b) % 18446744073709551616

/-- `a - b` on `size_t` (`b ≤ 2^64`) -/
def usub (a b : Nat) : Nat := (a + 18446744073709551616 - b) % 18446744073709551616

/-- `a * b` on `size_t` -/
def umul (a b : Nat) : Nat := (a * b) % 18446744073709551616

/-- `(size_t)v` for a value `v` of a signed type of at most 64 bits -/
def castU64 (v : Int) : Nat := if 0 ≤ v then v.toNat else (v + 18446744073709551616).toNat

/-- `(int)v` for a `size_t` value -/
def castI32 (v : Nat) : Int :=
  if v % 4294967296 < 2147483648 then ((v % 4294967296 : Nat) : Int)
  else ((v % 4294967296 : Nat) : Int) - 4294967296

/-- `(ssize_t)v` for a `size_t` value (`v < 2^64`) -/
def castI64 (v : Nat) : Int :=
  if v < 9223372036854775808 then (v : Int) else (v : Int) - 18446744073709551616

/-- checked `ssize_t` arithmetic -/
def i64 (v : Int) : R Int :=
  if -9223372036854775808 ≤ v ∧ v ≤ 9223372036854775807 then pure v else .error .ovf

/-- `cmp(a, b, priv)` on element pointers -/
def cmpP (s : St) (lo cnt : Nat) : Ptr → Ptr → R (St × Int)
  | .el i, .el j => cmpAt s lo cnt i j
  | _, _ => .error .oob

/-- `swap(a, b, t, size)` on element pointers -/
def swapP (s : St) (lo cnt : Nat) : Ptr → Ptr → R St
  | .el i, .el j => swapAt s lo cnt i j
  | _, _ => .error .oob

/-- `cmp(ex, at(k), priv)` inside a function that was handed `(arr+lo, cnt)` -/
def cmpProbeL (s : St) (lo cnt : Nat) (x : Elem) (k : Nat) : R (St × Int) :=
  if h : k < cnt ∧ lo + k < s.arr.size then
    .ok ({ s with log := s.log.cmp .probe (.idx (lo + k)) }, cmpKey x (s.arr[lo + k]'h.2))
  else .error .oob

def cmpProbeP (s : St) (lo cnt : Nat) (x : Elem) : Ptr → R (St × Int)
  | .el k => cmpProbeL s lo cnt x k
  | .null => .error .oob

end Cstl.Sort.CSem
