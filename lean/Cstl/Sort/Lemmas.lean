import Cstl.Sort.Model
/-
Basic facts about the primitives of the sort model: what a comparison /
swap call returns, when it is in bounds, and the "obtained by swaps inside a
range" relation `Sw` that every sorting routine of the model satisfies, with
what the routines say in its terms (`Exch`, `Moved`, `SortedR`).

Specifications have the form `Ok x Q`: the call `x` returns, and its result
satisfies `Q`.  A read-only call is specified relative to a reference state
`s0` it agrees with (`s0.same s`), so that facts about the array never have to
be carried from one state to the next.  For the ties of Tie.lean: `bind_congr_ok`
steps over a call both sides share, `Ref x y` (`x` is `y` unless `y` runs out of
fuel) with `Ref.bind` does the same where the two sides count fuel differently.
-/
namespace Cstl.Sort

def Ok {α : Type} (x : R α) (Q : α → Prop) : Prop := ∃ a, x = .ok a ∧ Q a

theorem Ok.pure {α : Type} {a : α} {Q : α → Prop} (h : Q a) : Ok (pure a) Q := ⟨a, rfl, h⟩

theorem Ok.bind {α β : Type} {x : R α} {f : α → R β} {P : α → Prop} {Q : β → Prop}
    (hx : Ok x P) (hf : ∀ a, P a → Ok (f a) Q) : Ok (x >>= f) Q := by
  obtain ⟨a, rfl, ha⟩ := hx
  exact hf a ha

theorem Ok.mono {α : Type} {x : R α} {P Q : α → Prop} (hx : Ok x P) (h : ∀ a, P a → Q a) : Ok x Q := by
  obtain ⟨a, e, ha⟩ := hx
  exact ⟨a, e, h a ha⟩

theorem Ok.post {α : Type} {x : R α} {Q : α → Prop} (h : Ok x Q) {a : α} (hx : x = .ok a) : Q a := by
  obtain ⟨b, e, hb⟩ := h
  cases e.symm.trans hx
  exact hb

theorem bind_of_ok {α β : Type} {x : R α} {a : α} (h : x = .ok a) (f : α → R β) : (x >>= f) = f a := by
  rw [h]; rfl

theorem bind_congr_ok {α β : Type} {x : R α} {f g : α → R β} (h : ∀ a, x = .ok a → f a = g a) :
    (x >>= f) = (x >>= g) := by
  cases x with
  | error e => rfl
  | ok a => exact h a rfl

def Ref {α : Type} (x y : R α) : Prop := y ≠ .error .fuel → x = y

theorem Ref.rfl {α : Type} {x : R α} : Ref x x := fun _ => Eq.refl x

theorem Ref.fuel {α : Type} {x : R α} : Ref x (.error .fuel) := fun h => absurd (Eq.refl _) h

theorem Ref.bind {α β : Type} {x y : R α} {f g : α → R β} (h1 : Ref x y)
    (h2 : ∀ a, y = .ok a → Ref (f a) (g a)) : Ref (x >>= f) (y >>= g) := by
  intro hne
  cases y with
  | error e =>
    rw [h1 fun h => hne (by rw [h]; rfl)]
    rfl
  | ok a =>
    rw [h1 nofun]
    exact h2 a (Eq.refl _) hne

theorem bind_ok {α β : Type} {x : R α} {f : α → R β} {b : β} (h : (x >>= f) = .ok b) :
    ∃ a, x = .ok a ∧ f a = .ok b := by
  cases x with
  | error e => cases h
  | ok a => exact ⟨a, rfl, h⟩

theorem exists_succ {n k : Nat} (h : k + 1 ≤ n) : ∃ m, n = m + 1 :=
  Nat.exists_eq_add_one.mpr (Nat.zero_lt_of_lt h)

theorem cmpKey_lt {x y : Elem} : cmpKey x y < 0 ↔ x.key < y.key := by
  unfold cmpKey; split
  · simp [*]
  · split <;> omega

theorem cmpKey_gt {x y : Elem} : cmpKey x y > 0 ↔ x.key > y.key := by
  unfold cmpKey; split
  · omega
  · split <;> omega

theorem cmpKey_eq {x y : Elem} : cmpKey x y = 0 ↔ x.key = y.key := by
  unfold cmpKey; split
  · omega
  · split <;> omega

/-- spec-level accessor: the key stored at global index `i` (0 outside) -/
def ak (a : Array Elem) (i : Nat) : Int :=
  match a[i]? with
  | some e => e.key
  | none => 0

theorem ak_eq {a : Array Elem} {i : Nat} (h : i < a.size) : ak a i = a[i].key := by
  simp [ak, h]

/-- `c` is the comparison callback's result on keys `x`, `y` -/
structure Sgn (c x y : Int) : Prop where
  lt : c < 0 ↔ x < y
  gt : c > 0 ↔ x > y
  eq : c = 0 ↔ x = y

/-- the parts of the state the theorems talk about (everything but the log
and the scratch cell) -/
structure St.same (s s' : St) : Prop where
  arr : s'.arr = s.arr
  rnd : s'.rnd = s.rnd
  dflt : s'.dflt = s.dflt

theorem St.same_refl (s : St) : s.same s := ⟨rfl, rfl, rfl⟩
theorem St.same_trans {a b c : St} (h1 : a.same b) (h2 : b.same c) : a.same c :=
  ⟨h2.arr.trans h1.arr, h2.rnd.trans h1.rnd, h2.dflt.trans h1.dflt⟩

theorem cmpAt_eq {s : St} {lo cnt i j : Nat}
    (hi : i < cnt) (hj : j < cnt) (hb : lo + cnt ≤ s.arr.size) :
    cmpAt s lo cnt i j =
      .ok ({ s with log := s.log.cmp (.idx (lo + i)) (.idx (lo + j)) },
           cmpKey (s.arr[lo + i]'(by omega)) (s.arr[lo + j]'(by omega))) := by
  have h1 : lo + i < s.arr.size := by omega
  have h2 : lo + j < s.arr.size := by omega
  simp [cmpAt, hi, hj, h1, h2]

theorem cmpAt_ok {s0 s : St} {lo cnt i j : Nat} (h0 : s0.same s)
    (hi : i < cnt) (hj : j < cnt) (hb : lo + cnt ≤ s0.arr.size) :
    Ok (cmpAt s lo cnt i j) fun r =>
      s0.same r.1 ∧ Sgn r.2 (ak s0.arr (lo + i)) (ak s0.arr (lo + j)) := by
  rw [← h0.arr] at hb ⊢
  have h1 : lo + i < s.arr.size := by omega
  have h2 : lo + j < s.arr.size := by omega
  refine ⟨_, cmpAt_eq hi hj hb, St.same_trans h0 ⟨rfl, rfl, rfl⟩, ?_⟩
  rw [ak_eq h1, ak_eq h2]
  exact ⟨cmpKey_lt, cmpKey_gt, cmpKey_eq⟩

theorem cmpAt_inv {s : St} {lo cnt i j : Nat} {s' : St} {c : Int}
    (h : cmpAt s lo cnt i j = .ok (s', c)) :
    i < cnt ∧ j < cnt := by
  unfold cmpAt at h
  split at h
  · rename_i hh; omega
  · cases h

theorem cmpAt_oob_left {s : St} {lo cnt i j : Nat} (h : cnt ≤ i) : cmpAt s lo cnt i j = .error .oob := by
  unfold cmpAt
  rw [dif_neg]
  omega

theorem cmpAt_err {s : St} {lo cnt i j : Nat} {e : Stop}
    (h : cmpAt s lo cnt i j = .error e) : e = .oob := by
  unfold cmpAt at h
  split at h
  · cases h
  · cases h; rfl

theorem cmpProbe_eq {s : St} {cnt k : Nat} (x : Elem) (hk : k < cnt) (hb : cnt ≤ s.arr.size) :
    cmpProbe s cnt x k =
      .ok ({ s with log := s.log.cmp .probe (.idx k) }, cmpKey x (s.arr[k]'(by omega))) := by
  have h1 : k < s.arr.size := by omega
  simp [cmpProbe, hk, h1]

theorem cmpProbe_ok {s0 s : St} {cnt k : Nat} (x : Elem) (h0 : s0.same s)
    (hk : k < cnt) (hb : cnt ≤ s0.arr.size) :
    Ok (cmpProbe s cnt x k) fun r => s0.same r.1 ∧ Sgn r.2 x.key (ak s0.arr k) := by
  rw [← h0.arr] at hb ⊢
  refine ⟨_, cmpProbe_eq x hk hb, St.same_trans h0 ⟨rfl, rfl, rfl⟩, ?_⟩
  rw [ak_eq (Nat.lt_of_lt_of_le hk hb)]
  exact ⟨cmpKey_lt, cmpKey_gt, cmpKey_eq⟩

theorem cmpProbe_oob {s : St} {cnt k : Nat} (x : Elem) (h : cnt ≤ k) : cmpProbe s cnt x k = .error .oob := by
  unfold cmpProbe
  rw [dif_neg]
  omega

theorem cmpProbe_arr {s s' : St} {cnt k : Nat} {x : Elem} {c : Int}
    (h : cmpProbe s cnt x k = .ok (s', c)) : s'.arr = s.arr := by
  unfold cmpProbe at h
  split at h
  · cases h; rfl
  · cases h

theorem swapAt_eq {s : St} {lo cnt i j : Nat}
    (hi : i < cnt) (hj : j < cnt) (hb : lo + cnt ≤ s.arr.size) :
    swapAt s lo cnt i j =
      .ok { s with arr := s.arr.swap (lo + i) (lo + j) (by omega) (by omega),
                   scr := s.arr[lo + i]'(by omega),
                   log := s.log.swap (lo + i) (lo + j) } := by
  have h1 : lo + i < s.arr.size := by omega
  have h2 : lo + j < s.arr.size := by omega
  simp only [swapAt, hi, hj, h1, h2, and_self, ↓reduceDIte]
  rfl

theorem swapAt_inv {s : St} {lo cnt i j : Nat} {s' : St}
    (h : swapAt s lo cnt i j = .ok s') : i < cnt ∧ j < cnt := by
  unfold swapAt at h
  split at h
  · rename_i hh; omega
  · cases h

theorem swapAt_err {s : St} {lo cnt i j : Nat} {e : Stop}
    (h : swapAt s lo cnt i j = .error e) : e = .oob := by
  unfold swapAt at h
  split at h
  · cases h
  · cases h; rfl

inductive Sw (lo hi : Nat) : Array Elem → Array Elem → Prop
  | refl (a : Array Elem) : Sw lo hi a a
  | step {a b : Array Elem} {i j : Nat} (h1 : i < a.size) (h2 : j < a.size)
      (hi' : lo ≤ i ∧ i < hi) (hj : lo ≤ j ∧ j < hi) :
      Sw lo hi (a.swap i j h1 h2) b → Sw lo hi a b

theorem Sw.trans {lo hi : Nat} {a b c : Array Elem} (h1 : Sw lo hi a b) (h2 : Sw lo hi b c) :
    Sw lo hi a c := by
  induction h1 with
  | refl => exact h2
  | step p q r t _ ih => exact .step p q r t (ih h2)

theorem Sw.mono {lo hi lo' hi' : Nat} {a b : Array Elem} (h : Sw lo hi a b)
    (hl : lo' ≤ lo) (hh : hi ≤ hi') : Sw lo' hi' a b := by
  induction h with
  | refl => exact .refl _
  | step p q r t _ ih =>
    exact .step p q ⟨Nat.le_trans hl r.1, Nat.lt_of_lt_of_le r.2 hh⟩
      ⟨Nat.le_trans hl t.1, Nat.lt_of_lt_of_le t.2 hh⟩ ih

theorem Sw.size_eq {lo hi : Nat} {a b : Array Elem} (h : Sw lo hi a b) : b.size = a.size := by
  induction h with
  | refl => rfl
  | step p q r t _ ih => simpa using ih

theorem Sw.perm {lo hi : Nat} {a b : Array Elem} (h : Sw lo hi a b) : b.toList.Perm a.toList := by
  induction h with
  | refl => exact List.Perm.refl _
  | step p q r t _ ih => exact ih.trans (Array.swap_perm p q).toList

theorem Sw.outside {lo hi : Nat} {a b : Array Elem} (h : Sw lo hi a b) {k : Nat}
    (hk : k < lo ∨ hi ≤ k) : b[k]? = a[k]? := by
  induction h with
  | refl => rfl
  | @step a b i j p q r t _ ih =>
    rw [ih, Array.getElem?_swap]
    have e1 : ¬ j = k := by omega
    have e2 : ¬ i = k := by omega
    simp [e1, e2]

theorem Sw.closed {lo hi : Nat} {a b : Array Elem} (h : Sw lo hi a b) {k : Nat}
    (hk1 : lo ≤ k) (hk2 : k < hi) (hk3 : k < b.size) :
    ∃ k', lo ≤ k' ∧ k' < hi ∧ k' < a.size ∧ b[k]? = a[k']? := by
  induction h with
  | refl => exact ⟨k, hk1, hk2, hk3, rfl⟩
  | @step a b i j p q r t _ ih =>
    obtain ⟨k', a1, a2, a3, a4⟩ := ih hk3
    simp only [Array.size_swap] at a3
    rw [a4, Array.getElem?_swap]
    by_cases e1 : j = k'
    · exact ⟨i, r.1, r.2, p, by simp [e1]⟩
    · by_cases e2 : i = k'
      · exact ⟨j, t.1, t.2, q, by simp [e1, e2]⟩
      · exact ⟨k', a1, a2, a3, by simp [e1, e2]⟩

theorem Sw.ak_outside {lo u v : Nat} {a b : Array Elem} (h : Sw (lo + u) (lo + v) a b) {t : Nat}
    (ht : t < u ∨ v ≤ t) : ak b (lo + t) = ak a (lo + t) := by
  have : b[lo + t]? = a[lo + t]? :=
    h.outside (ht.imp (Nat.add_lt_add_left · lo) (Nat.add_le_add_left · lo))
  simp [ak, this]

theorem Sw.ak_bound {lo u v : Nat} {a b : Array Elem} (h : Sw (lo + u) (lo + v) a b) (P : Int → Prop)
    (hb : lo + v ≤ a.size) (hP : ∀ t, u ≤ t → t < v → P (ak a (lo + t))) :
    ∀ t, u ≤ t → t < v → P (ak b (lo + t)) := by
  intro t h1 h2
  have h2' : lo + t < lo + v := Nat.add_lt_add_left h2 lo
  obtain ⟨k', a1, a2, _, a4⟩ := h.closed (k := lo + t) (Nat.add_le_add_left h1 lo) h2'
    (by rw [h.size_eq]; exact Nat.lt_of_lt_of_le h2' hb)
  obtain ⟨t', rfl⟩ : ∃ t', k' = lo + t' := ⟨k' - lo, by omega⟩
  have e : ak b (lo + t) = ak a (lo + t') := by simp [ak, a4]
  rw [e]
  exact hP t' (Nat.le_of_add_le_add_left a1) (Nat.lt_of_add_lt_add_left a2)

structure Exch (a a' : Array Elem) (lo i j : Nat) : Prop where
  left : ak a' (lo + i) = ak a (lo + j)
  right : ak a' (lo + j) = ak a (lo + i)
  other : ∀ x, x ≠ i → x ≠ j → ak a' (lo + x) = ak a (lo + x)

theorem exch_swap {a : Array Elem} {lo i j : Nat} (h1 : lo + i < a.size) (h2 : lo + j < a.size) :
    Exch a (a.swap (lo + i) (lo + j) h1 h2) lo i j := by
  have key : ∀ x, ak (a.swap (lo + i) (lo + j) h1 h2) (lo + x) =
      if j = x then ak a (lo + i) else if i = x then ak a (lo + j) else ak a (lo + x) := by
    intro x
    rw [ak, Array.getElem?_swap]
    simp only [Nat.add_left_cancel_iff]
    by_cases e1 : j = x
    · rw [if_pos e1, if_pos e1, ak_eq h1]
    · rw [if_neg e1, if_neg e1]
      by_cases e2 : i = x
      · rw [if_pos e2, if_pos e2, ak_eq h2]
      · rw [if_neg e2, if_neg e2]; rfl
  refine ⟨?_, ?_, ?_⟩
  · rw [key]; split
    · subst_vars; rfl
    · rw [if_pos rfl]
  · rw [key, if_pos rfl]
  · intro x hi hj; rw [key, if_neg (Ne.symm hj), if_neg (Ne.symm hi)]

/-- `s'` is `s` after swaps of positions inside `[lo,hi)`: what every routine
that moves elements (and does not call `rand()`) does to the state -/
structure Moved (lo hi : Nat) (s s' : St) : Prop where
  sw : Sw lo hi s.arr s'.arr
  rnd : s'.rnd = s.rnd
  dflt : s'.dflt = s.dflt

theorem St.same.moved {s s' : St} (h : s.same s') (lo hi : Nat) : Moved lo hi s s' :=
  ⟨by rw [h.arr]; exact .refl _, h.rnd, h.dflt⟩

theorem Moved.refl (lo hi : Nat) (s : St) : Moved lo hi s s := ⟨.refl _, rfl, rfl⟩

theorem Moved.trans {lo hi : Nat} {a b c : St} (h1 : Moved lo hi a b) (h2 : Moved lo hi b c) :
    Moved lo hi a c :=
  ⟨h1.sw.trans h2.sw, h2.rnd.trans h1.rnd, h2.dflt.trans h1.dflt⟩

theorem Moved.mono {lo hi lo' hi' : Nat} {a b : St} (h : Moved lo hi a b) (hl : lo' ≤ lo) (hh : hi ≤ hi') :
    Moved lo' hi' a b :=
  ⟨h.sw.mono hl hh, h.rnd, h.dflt⟩

theorem Moved.size_eq {lo hi : Nat} {a b : St} (h : Moved lo hi a b) : b.arr.size = a.arr.size :=
  h.sw.size_eq

/-- a swap of two positions below `n ≤ cnt` (the callers pass `n = cnt` unless
they need to know that the rest of the range is untouched) -/
theorem swapAt_ok {s : St} {lo cnt n i j : Nat}
    (hi : i < n) (hj : j < n) (hn : n ≤ cnt) (hb : lo + cnt ≤ s.arr.size) :
    Ok (swapAt s lo cnt i j) fun s' => Moved lo (lo + n) s s' ∧ Exch s.arr s'.arr lo i j := by
  have hb' : lo + n ≤ s.arr.size := Nat.le_trans (Nat.add_le_add_left hn lo) hb
  have h1 : lo + i < s.arr.size := Nat.lt_of_lt_of_le (Nat.add_lt_add_left hi lo) hb'
  have h2 : lo + j < s.arr.size := Nat.lt_of_lt_of_le (Nat.add_lt_add_left hj lo) hb'
  exact ⟨_, swapAt_eq (Nat.lt_of_lt_of_le hi hn) (Nat.lt_of_lt_of_le hj hn) hb,
    ⟨.step h1 h2 ⟨Nat.le_add_right _ _, Nat.add_lt_add_left hi lo⟩
      ⟨Nat.le_add_right _ _, Nat.add_lt_add_left hj lo⟩ (.refl _), rfl, rfl⟩,
    exch_swap h1 h2⟩

/-- keys of the range `(lo, cnt)` are non-decreasing -/
def SortedR (a : Array Elem) (lo cnt : Nat) : Prop :=
  ∀ p q, p ≤ q → q < cnt → ak a (lo + p) ≤ ak a (lo + q)

theorem sortedR_small (a : Array Elem) (lo : Nat) {cnt : Nat} (h : ¬ cnt > 1) : SortedR a lo cnt := by
  intro p q hpq hq
  have : p = q := by omega
  rw [this]; exact Int.le_refl _

theorem sortedR_of_adjacent {a : Array Elem} {lo cnt : Nat}
    (h : ∀ t, t + 1 < cnt → ak a (lo + t) ≤ ak a (lo + (t + 1))) : SortedR a lo cnt := by
  intro p q hpq hq
  induction q with
  | zero => rw [Nat.le_zero.1 hpq]; exact Int.le_refl _
  | succ q ih =>
    rcases Nat.lt_or_eq_of_le hpq with h1 | h1
    · exact Int.le_trans (ih (Nat.le_of_lt_succ h1) (Nat.lt_of_succ_lt hq)) (h q hq)
    · rw [h1]; exact Int.le_refl _

theorem sortedR_iff_pairwise (a : Array Elem) :
    SortedR a 0 a.size ↔ a.toList.Pairwise (fun x y => x.key ≤ y.key) := by
  rw [List.pairwise_iff_getElem]
  simp only [SortedR, Nat.zero_add, Array.length_toList, Array.getElem_toList]
  constructor
  · intro h i j hi hj hij
    have := h i j (Nat.le_of_lt hij) hj
    rwa [ak_eq hi, ak_eq hj] at this
  · intro h p q hpq hq
    rcases Nat.lt_or_eq_of_le hpq with hlt | rfl
    · rw [ak_eq (Nat.lt_trans hlt hq), ak_eq hq]
      exact h p q (Nat.lt_trans hlt hq) hq hlt
    · exact Int.le_refl _

theorem sorted_perm_of {a b : Array Elem} {lo hi : Nat} (hsw : Sw lo hi a b) (hs : SortedR b 0 a.size) :
    b.toList.Perm a.toList ∧ b.toList.Pairwise (fun x y => x.key ≤ y.key) := by
  refine ⟨hsw.perm, ?_⟩
  rw [← sortedR_iff_pairwise, hsw.size_eq]
  exact hs

end Cstl.Sort
