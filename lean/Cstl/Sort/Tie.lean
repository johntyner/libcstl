import Cstl.Gen.SortC
import Cstl.Sort.LemmasCSem
import Cstl.Sort.Props
/-
Translator ties for the raw-array algorithms of src/array.c (property C11).

`Cstl/Gen/SortC.lean` is regenerated from the clang AST of the current src/array.c by
tools/c2lean_sort.py on every check run (tools/areas/sortmap_tie.py); the theorems below
(hand-written, fixed) state that the hand-written model of Cstl/Sort/Model.lean — the functions the
C11 theorems of Props*.lean are about — is that translation, function by function.

Form of the proofs.  Both sides are unfolded by one iteration and brought to the same shape
(`bind_assoc`, `ok_bind`); `bind_congr_ok` (in an equality) or `Ref.bind` (in a tie up to fuel, see
below) then steps over each call they share, and the bounds a wrap-around operation needs (`uadd_eq`,
`usub_eq`) come from the fact that the call returned (`cmpAt_inv`, `swapAt_inv`, `partition_lt`).

Form of the ties.  Where model and translation count fuel the same way the tie is an equality
(`scanUp`, `searchLoop`, `findLoop`, `revLoop`, …; also `scanDown`, under `j + 2 ≤ f`: the translation
notices the wrap of `j--` one iteration after the model).  Where they do not — the model's
`partLoop` spends a unit on the final `i < j` test, the C `do … while` does not; the model's
`siftDown` swaps at the bottom of an iteration, the C loop at the top of the next; the model's
`qsort` counts nesting levels with `count > 1`, the translation every call — the tie has the form
`Ref translation model` (Sort/Lemmas.lean), that is `model ≠ .error .fuel → translation = model`:
whenever the model finishes (with a result OR with an out-of-bounds / overflow stop) the translation
finishes with the same outcome.  (That the model
does finish is what `qsort_terminates`, `sort_terminates`, `hsort_sorted_perm`, … prove.)

Side conditions are the ranges of the C types: `count < 2^64` (`size_t`), `count < 2^63` where an
index is doubled or converted to `ssize_t`, `count ≤ 2^31` where it is converted to `int`
(DESIGN 7, "Bounds").  `fu k c` is the fuel of loop `k` of the generated module inside a function
called with `count = c` (0 reverse, 1 search, 2 find, 3/4 the two scans, 5 the partition
do/while, 6 the hsort_b do/while, 7/8 the two loops of hsort); `fun _ c => c + 1` satisfies every
fuel hypothesis below (`*_std` corollaries).
-/
namespace Cstl.Sort.Tie
open Cstl.Sort Cstl.Sort.CSem Cstl.Gen.SortC

theorem ok_bind {ε α β : Type} (a : α) (f : α → Except ε β) : (Except.ok a >>= f) = f a := rfl
theorem err_bind {ε α β : Type} (e : ε) (f : α → Except ε β) : ((Except.error e : Except ε α) >>= f) = Except.error e := rfl
theorem pure_eq {ε α : Type} (a : α) : (pure a : Except ε α) = Except.ok a := rfl
theorem map_ok {ε α β : Type} (a : α) (f : α → β) : (Except.ok a : Except ε α).map f = Except.ok (f a) := rfl
theorem map_err {ε α β : Type} (e : ε) (f : α → β) : (Except.error e : Except ε α).map f = Except.error e := rfl

/-- the `while (cmp(a = at(i), p) < 0) i++` loop is `scanUp`.  The translation threads the pointer
variable `a` through the loop although every iteration overwrites it before use, hence the dead
parameter `a`; what it returns is the model's `(s, i)` with `a = at(i)`. -/
theorem scanUp_tie (fu : Nat → Nat → Nat) (lo cnt p : Nat) (hc : cnt < 18446744073709551616) :
    ∀ (f : Nat) (s : St) (i : Nat) (a : Ptr),
      c_cstl_raw_array_qsort_p_loop1 fu lo cnt (.el p) f s i a
        = scanUp lo cnt p f s i >>= fun r => pure (r.1, r.2, Ptr.el r.2) := by
  intro f
  induction f with
  | zero => intro s i a; rfl
  | succ f ih =>
    intro s i a
    simp only [c_cstl_raw_array_qsort_p_loop1, scanUp, cmpP_el, bind_assoc]
    refine bind_congr_ok ?_
    rintro ⟨s1, c⟩ h
    have hi := (cmpAt_inv h).1
    dsimp only
    by_cases hcz : c < 0
    · rw [if_pos hcz, if_pos hcz, uadd_one hi hc, ih]
    · rw [if_neg hcz, if_neg hcz]; rfl

/-- the `while (cmp(b = at(j), p) > 0) j--` loop is `scanDown` (`b` is dead like `a` above).  When
`j--` wraps at 0 the model stops with `oob` at once, the translation only at the next comparison:
it needs one more iteration than the model, and `j + 2 ≤ f` guarantees it has one. -/
theorem scanDown_tie (fu : Nat → Nat → Nat) (lo cnt p : Nat) (hc : cnt < 18446744073709551616) :
    ∀ (f : Nat) (s : St) (j : Nat) (b : Ptr), j + 2 ≤ f →
      c_cstl_raw_array_qsort_p_loop2 fu lo cnt (.el p) f s j b
        = scanDown lo cnt p f s j >>= fun r => pure (r.1, r.2, Ptr.el r.2) := by
  intro f
  induction f with
  | zero => intro s j b hf; omega
  | succ f ih =>
    intro s j b hf
    simp only [c_cstl_raw_array_qsort_p_loop2, scanDown, cmpP_el, bind_assoc]
    refine bind_congr_ok ?_
    rintro ⟨s1, c⟩ h
    have hj := (cmpAt_inv h).1
    dsimp only
    by_cases hcz : c > 0
    · rw [if_pos hcz, if_pos hcz]
      by_cases hj0 : j = 0
      · -- `j--` wraps to SIZE_MAX: the next comparison is out of bounds
        subst hj0
        obtain ⟨f', rfl⟩ := exists_succ (k := 0) (Nat.le_of_succ_le_succ hf)
        simp only [if_pos, c_cstl_raw_array_qsort_p_loop2, cmpP_el]
        rw [cmpAt_oob_left (by unfold usub; omega)]
        rfl
      · rw [if_neg hj0, usub_eq (Nat.pos_of_ne_zero hj0) (Nat.lt_trans hj hc), ih _ _ _ (by omega)]
    · rw [if_neg hcz, if_neg hcz]; rfl

theorem track_tie (p i j : Nat) :
    (if (Ptr.el p = Ptr.el i) then (Ptr.el j) else (if (Ptr.el p = Ptr.el j) then (Ptr.el i) else (Ptr.el p)))
      = Ptr.el (if p = i then j else if p = j then i else p) := by
  simp only [Ptr.el.injEq]
  split
  · rfl
  · split <;> rfl

/-- the do/while of `cstl_raw_array_qsort_p`, entered with `a = at(i) ≠ b = at(j)`, is `partLoop`.
The model spends a fuel unit on the final `i < j` test, the C loop tests at the bottom: the `if` in
front of the translated loop is that test, so that both sides run on the same `f`.  The translated
loop returns `(s, p, i, j, a, b)`; `r.2.2.2.1` is its `j`, the value `cstl_raw_array_qsort_p`
returns. -/
theorem partLoop_tie (fu : Nat → Nat → Nat) (lo cnt : Nat) (hc : cnt < 18446744073709551616)
    (h3 : fu 3 cnt = cnt + 1) (h4 : fu 4 cnt = cnt + 1) :
    ∀ (f : Nat) (s : St) (p i j : Nat),
      Ref ((if i < j then c_cstl_raw_array_qsort_p_loop3 fu lo cnt f s (.el p) i j (.el i) (.el j)
        else pure (s, Ptr.el p, i, j, Ptr.el i, Ptr.el j)) >>= (fun r => pure (r.1, r.2.2.2.1)))
        (partLoop lo cnt f s p i j) := by
  intro f
  induction f with
  | zero => intro s p i j; exact Ref.fuel
  | succ f ih =>
    intro s p i j
    by_cases hij : i < j
    · have hab : Ptr.el i ≠ Ptr.el j := fun h => Nat.ne_of_lt hij (Ptr.el.inj h)
      rw [partLoop, if_pos hij]
      simp only [if_pos hij, c_cstl_raw_array_qsort_p_loop3, if_pos hab, swapP_el, track_tie, bind_assoc,
        pure_eq, ok_bind, h3, h4]
      refine Ref.bind .rfl fun s1 hs => ?_
      have hb := swapAt_inv hs
      rw [uadd_one hb.1 hc, usub_eq (Nat.zero_lt_of_lt hij) (Nat.lt_trans hb.2 hc), scanUp_tie fu lo cnt _ hc,
        bind_assoc]
      refine Ref.bind .rfl fun ⟨s2, i2⟩ _ => ?_
      simp only [ok_bind, pure_eq]
      rw [scanDown_tie fu lo cnt _ hc _ _ _ _ (Nat.succ_le_succ (Nat.succ_le_of_lt
        (Nat.lt_of_le_of_lt (Nat.sub_le j 1) hb.2))), bind_assoc]
      refine Ref.bind .rfl fun ⟨s3, j2⟩ _ => ?_
      simp only [ok_bind, pure_eq]
      exact ih s3 _ i2 j2
    · rw [if_neg hij, partLoop, if_neg hij]; exact Ref.rfl

/-- `cstl_raw_array_qsort_p` is `partition`.  The first iteration of the do/while runs with
`a = b = NULL`, so its `if (a != b)` swap block is skipped (the `if_neg` of the second `simp only`)
and it consists of the two scans alone — the model's two scans in front of `partLoop`. -/
theorem partition_tie (fu : Nat → Nat → Nat) (s : St) (lo cnt p : Nat) (hc : cnt < 18446744073709551616)
    (h3 : fu 3 cnt = cnt + 1) (h4 : fu 4 cnt = cnt + 1) (h5 : fu 5 cnt = cnt + 1) :
    Ref (c_cstl_raw_array_qsort_p fu s lo cnt (.el p)) (partition s lo cnt p) := by
  unfold partition
  simp only [c_cstl_raw_array_qsort_p, h5]
  rw [c_cstl_raw_array_qsort_p_loop3]
  simp only [if_neg (fun h : Ptr.null ≠ Ptr.null => h rfl), h3, h4, pure_eq, ok_bind, bind_assoc]
  by_cases hz : cnt = 0
  · -- `count - 1` wraps, but the first comparison is out of bounds already
    subst hz
    simp only [if_true, c_cstl_raw_array_qsort_p_loop1, cmpP_el]
    rw [cmpAt_oob_left (Nat.le_refl 0)]
    exact Ref.rfl
  · rw [if_neg hz, scanUp_tie fu lo cnt _ hc, usub_eq (Nat.pos_of_ne_zero hz) hc, bind_assoc]
    refine Ref.bind .rfl fun ⟨s2, i2⟩ _ => ?_
    simp only [ok_bind, pure_eq]
    rw [scanDown_tie fu lo cnt _ hc _ _ _ _ (Nat.succ_le_succ (Nat.succ_le_of_lt
      (Nat.sub_lt (Nat.pos_of_ne_zero hz) Nat.zero_lt_one))), bind_assoc]
    refine Ref.bind .rfl fun ⟨s3, j2⟩ _ => ?_
    simp only [ok_bind, pure_eq]
    exact partLoop_tie fu lo cnt hc h3 h4 cnt s3 p i2 j2

/-! ### heapsort

The do/while of `cstl_raw_array_hsort_b` carries `c`, the child to exchange with `n`, from the
bottom of one iteration to the top of the next; `c = SIZE_MAX = 18446744073709551615` means "no swap
pending" (the initial value).  `hsortb_first` is an iteration entered with that marker (the test
`c < SIZE_MAX` fails: `Nat.lt_irrefl`), `hsortb_next` one entered with a real `c`.
`sift_first_tie` and `siftDown_next_tie` turn the two into iterations of the model's `siftDown`
(which swaps at the bottom of an iteration instead), and `siftDown_tie` is the whole function. -/

/-- the model's candidate step in the form the translation has: a flag, then `c = flag ? k : c` -/
theorem cand_flag (s : St) (lo cnt k c : Nat) :
    cand s lo cnt k c =
      (if k < cnt then do
          let (s, x) ← cmpAt s lo cnt k c
          pure (s, decide (x > 0))
        else pure (s, false) : R (St × Bool)) >>= fun r => pure (r.1, if r.2 = true then k else c) := by
  unfold cand
  by_cases hk : k < cnt
  · rw [if_pos hk, if_pos hk, bind_assoc]
    refine bind_congr_ok ?_
    rintro ⟨s1, x⟩ _
    simp only [pure_eq, ok_bind, decide_eq_true_eq]
  · rw [if_neg hk, if_neg hk]; rfl

theorem hsortb_first (fu : Nat → Nat → Nat) (lo cnt : Nat) (f : Nat) (s : St) (n : Nat)
    (hn : 2 * n + 2 < 18446744073709551616) :
    c_cstl_raw_array_hsort_b_loop1 fu lo cnt (f + 1) s n 18446744073709551615
      = pickChild s lo cnt n >>= fun sc =>
          if n ≠ sc.2 then c_cstl_raw_array_hsort_b_loop1 fu lo cnt f sc.1 n sc.2 else pure (sc.1, n, sc.2) := by
  rw [c_cstl_raw_array_hsort_b_loop1]
  have hl : uadd (umul 2 n) 1 = 2 * n + 1 := by
    rw [umul_eq (Nat.lt_of_succ_lt (Nat.lt_of_succ_lt hn)), uadd_eq (Nat.lt_of_succ_lt hn)]
  have hr : uadd (2 * n + 1) 1 = 2 * n + 1 + 1 := uadd_eq hn
  rw [pickChild_eq, bind_assoc]
  simp only [Nat.lt_irrefl, if_false, pure_eq, ok_bind, hl, hr, cand_flag, cmpP_el, bind_assoc]

theorem hsortb_next (fu : Nat → Nat → Nat) (lo cnt : Nat) (f : Nat) (s : St) (n c : Nat) (hc : c < 18446744073709551615) :
    c_cstl_raw_array_hsort_b_loop1 fu lo cnt (f + 1) s n c
      = swapAt s lo cnt n c >>= fun s1 => c_cstl_raw_array_hsort_b_loop1 fu lo cnt (f + 1) s1 c 18446744073709551615 := by
  rw [c_cstl_raw_array_hsort_b_loop1]
  simp only [if_pos hc, swapP_el, bind_assoc, pure_eq, ok_bind]
  refine bind_congr_ok fun s1 _ => ?_
  rw [c_cstl_raw_array_hsort_b_loop1]
  simp only [Nat.lt_irrefl, if_false, pure_eq, ok_bind]

/-- an iteration that starts with nothing to swap is an iteration of the model's `siftDown`,
given the tie `next` for the iteration that follows a decision to swap -/
theorem sift_first_tie (fu : Nat → Nat → Nat) (lo cnt f : Nat) (s : St) (n : Nat)
    (hn : 2 * n + 2 < 18446744073709551616)
    (next : ∀ (s2 : St) (c : Nat), c < 18446744073709551615 →
      Ref (c_cstl_raw_array_hsort_b_loop1 fu lo cnt (f + 1) s2 n c >>= fun r => pure r.1)
        (swapAt s2 lo cnt n c >>= fun s1 => siftDown lo cnt f s1 c)) :
    Ref (c_cstl_raw_array_hsort_b_loop1 fu lo cnt (f + 1 + 1) s n 18446744073709551615 >>= fun r => pure r.1)
      (siftDown lo cnt (f + 1) s n) := by
  rw [hsortb_first fu lo cnt _ s n hn, bind_assoc, siftDown]
  refine .bind .rfl fun ⟨s2, c⟩ hp => ?_
  have hle := pickChild_le hp
  dsimp only
  by_cases hcc : n ≠ c
  · rw [if_pos hcc, if_pos hcc]
    exact next s2 c (by omega)
  · rw [if_neg hcc, if_neg hcc]; exact .rfl

theorem siftDown_next_tie (fu : Nat → Nat → Nat) (lo cnt : Nat) (hc : cnt < 9223372036854775808) :
    ∀ (f : Nat) (s : St) (n c : Nat), c < 18446744073709551615 →
      Ref (c_cstl_raw_array_hsort_b_loop1 fu lo cnt (f + 1) s n c >>= fun r => pure r.1)
        (swapAt s lo cnt n c >>= fun s1 => siftDown lo cnt f s1 c) := by
  intro f
  induction f with
  | zero =>
    intro s n c hcm
    rw [hsortb_next fu lo cnt 0 s n c hcm, bind_assoc]
    exact Ref.bind .rfl fun s1 _ => .fuel
  | succ f ih =>
    intro s n c hcm
    rw [hsortb_next fu lo cnt _ s n c hcm, bind_assoc]
    refine Ref.bind .rfl fun s1 hs => ?_
    have hb := swapAt_inv hs
    exact sift_first_tie fu lo cnt f s1 c (by omega) (ih · c)

/-- `cstl_raw_array_hsort_b` is the model's `siftDown` (run on one unit of fuel more: the C loop
performs the swap decided in iteration k at the top of iteration k+1) -/
theorem siftDown_tie (fu : Nat → Nat → Nat) (lo cnt : Nat) (hc : cnt < 9223372036854775808)
    (f : Nat) (s : St) (n : Nat) (h6 : fu 6 cnt = f + 1) (hn : 2 * n + 2 < 18446744073709551616) :
    Ref (c_cstl_raw_array_hsort_b fu s lo cnt n) (siftDown lo cnt f s n) := by
  simp only [c_cstl_raw_array_hsort_b, h6]
  cases f with
  | zero => exact Ref.fuel
  | succ f => exact sift_first_tie fu lo cnt f s n hn (siftDown_next_tie fu lo cnt hc f · n)

/-- the first `for` of `cstl_raw_array_hsort` from index `k - 1` down is the model's `heapify … k` -/
theorem heapify_tie (fu : Nat → Nat → Nat) (lo cnt : Nat) (hc : cnt < 9223372036854775808)
    (h6 : fu 6 cnt = cnt + 1) :
    ∀ (k : Nat) (F : Nat) (s : St), k ≤ cnt → k + 1 ≤ F →
      Ref (c_cstl_raw_array_hsort_loop1 fu lo cnt F s ((k : Int) - 1) >>= fun r => pure r.1) (heapify lo cnt k s) := by
  intro k
  induction k with
  | zero =>
    intro F s hk hF
    obtain ⟨F', rfl⟩ := exists_succ hF
    rw [c_cstl_raw_array_hsort_loop1, if_neg (by decide)]
    exact Ref.rfl
  | succ k ih =>
    intro F s hk hF
    obtain ⟨F', rfl⟩ := exists_succ hF
    have e1 : ((k + 1 : Nat) : Int) - 1 = (k : Int) := by omega
    rw [c_cstl_raw_array_hsort_loop1, e1, if_pos (Int.natCast_nonneg k), castU64_natCast, heapify, bind_assoc]
    refine Ref.bind (siftDown_tie fu lo cnt hc cnt s k h6 (double_lt hk hc)) fun s1 _ => ?_
    rw [i64_pred (Nat.lt_trans hk hc), ok_bind]
    exact ih F' s1 (Nat.le_of_succ_le hk) (Nat.le_of_succ_le_succ hF)

/-- the second `for` of `cstl_raw_array_hsort` from index `k` down is the model's `extract … k` -/
theorem extract_tie (fu : Nat → Nat → Nat) (lo cnt : Nat) (hc : cnt < 9223372036854775808)
    (h6 : ∀ c, fu 6 c = c + 1) :
    ∀ (k : Nat) (F : Nat) (s : St), k + 1 ≤ F →
      Ref (c_cstl_raw_array_hsort_loop2 fu lo cnt F s (k : Int) >>= fun r => pure r.1) (extract lo cnt k s) := by
  intro k
  induction k with
  | zero =>
    intro F s hF
    obtain ⟨F', rfl⟩ := exists_succ hF
    rw [c_cstl_raw_array_hsort_loop2, if_neg (by decide)]
    exact Ref.rfl
  | succ k ih =>
    intro F s hF
    obtain ⟨F', rfl⟩ := exists_succ hF
    have e1 : ((k + 1 : Nat) : Int) - 1 = (k : Int) := by omega
    rw [c_cstl_raw_array_hsort_loop2, if_pos (Int.natCast_pos.2 (Nat.succ_pos k)), castU64_natCast, swapP_el,
      extract, bind_assoc]
    refine Ref.bind .rfl fun s1 hs => ?_
    have hkc : k + 1 < 9223372036854775808 := Nat.lt_trans (swapAt_inv hs).2 hc
    rw [bind_assoc]
    refine Ref.bind (siftDown_tie fu lo (k + 1) hkc (k + 1) s1 0 (h6 (k + 1)) (by decide)) fun s2 _ => ?_
    rw [i64_pred hkc, ok_bind, e1]
    exact ih F' s2 (Nat.le_of_succ_le_succ hF)

theorem hsort_tie (fu : Nat → Nat → Nat) (s : St) (lo cnt : Nat) (hc : cnt < 9223372036854775808)
    (h6 : ∀ c, fu 6 c = c + 1) (h7 : cnt / 2 + 1 ≤ fu 7 cnt) (h8 : cnt ≤ fu 8 cnt) :
    Ref (c_cstl_raw_array_hsort fu s lo cnt) (hsort s lo cnt) := by
  unfold hsort c_cstl_raw_array_hsort
  by_cases h1 : cnt > 1
  · rw [if_pos h1, if_pos h1]
    have h2 : 0 < cnt / 2 := Nat.div_pos h1 (by decide)
    have e1 : castI64 (usub (cnt / 2) 1) = ((cnt / 2 : Nat) : Int) - 1 := by
      rw [castI64_pred h2 (Nat.lt_of_le_of_lt (Nat.div_le_self _ _) hc)]; omega
    have e2 : castI64 (usub cnt 1) = ((cnt - 1 : Nat) : Int) := castI64_pred (Nat.zero_lt_of_lt h1) hc
    -- the two loops one after the other, in the form the translation has
    have key := Ref.bind (heapify_tie fu lo cnt hc (h6 cnt) (cnt / 2) (fu 7 cnt) s (Nat.div_le_self _ _) h7)
      fun s1 _ => extract_tie fu lo cnt hc h6 (cnt - 1) (fu 8 cnt) s1 (Nat.sub_add_cancel (Nat.le_of_lt h1) ▸ h8)
    simp only [bind_assoc, pure_eq, ok_bind] at key
    simp only [e1, e2, pure_eq]
    exact key
  · rw [if_neg h1, if_neg h1]; exact Ref.rfl

/-- the `for` of `cstl_raw_array_search` is the model's `searchLoop` (a negative middle index,
converted to `size_t`, is far outside the array: the model's `idx` stop) -/
theorem searchLoop_tie (fu : Nat → Nat → Nat) (cnt : Nat) (x : Elem) (hc : cnt < 9223372036854775808) :
    ∀ (f : Nat) (s : St) (i j : Int),
      c_cstl_raw_array_search_loop1 fu 0 cnt x f s i j = searchLoop cnt x f s i j := by
  intro f
  induction f with
  | zero => intro s i j; rfl
  | succ f ih =>
    intro s i j
    rw [c_cstl_raw_array_search_loop1, searchLoop]
    by_cases hij : i ≤ j
    · rw [if_pos hij, if_pos hij]
      refine bind_congr_ok fun sum h1 => ?_
      have hb := i32_inv h1
      have hdiv := tdiv2_bounds (v := sum) (by omega)
      simp only [cmpProbeP_el, cmpProbeL_zero]
      by_cases hn : Int.tdiv sum 2 < 0
      · rw [idx, if_pos hn, cmpProbe_oob x (by unfold castU64; rw [if_neg (Int.not_le.2 hn)]; omega)]
        rfl
      · rw [idx, if_neg hn, castU64_nonneg (Int.not_lt.1 hn), pure_eq, ok_bind]
        refine bind_congr_ok ?_
        rintro ⟨s1, eq⟩ _
        dsimp only
        split
        · rfl
        · split
          · simp only [bind_assoc, pure_eq, ok_bind, ih]
          · simp only [bind_assoc, pure_eq, ok_bind, ih]
    · rw [if_neg hij, if_neg hij]

theorem lastIdx_tie {cnt : Nat} (hc : cnt ≤ 2147483648) : lastIdx cnt = .ok (castI32 (usub cnt 1)) := by
  unfold lastIdx
  by_cases hz : cnt = 0
  · rw [if_pos hz, hz]; rfl
  · rw [if_neg hz, i32_ok (by omega), usub_eq (by omega) (by omega), castI32_small (by omega)]
    congr 1
    omega

/-- `cstl_raw_array_search` is the model's `search` (arrays of at most 2^31 elements: beyond that
the model stops with `ovf` where gcc's conversion to `int` wraps) -/
theorem search_tie (fu : Nat → Nat → Nat) (s : St) (x : Elem) (hc : s.arr.size ≤ 2147483648)
    (h1 : fu 1 s.arr.size = s.arr.size + 1) :
    c_cstl_raw_array_search fu s 0 s.arr.size x = search s x := by
  unfold c_cstl_raw_array_search search
  rw [h1, searchLoop_tie fu _ x (Nat.lt_of_le_of_lt hc (by decide)), lastIdx_tie hc, ok_bind]

theorem findLoop_tie (fu : Nat → Nat → Nat) (cnt : Nat) (x : Elem) (hc : cnt < 9223372036854775808) :
    ∀ (f : Nat) (s : St) (i : Nat),
      c_cstl_raw_array_find_loop1 fu 0 cnt x f s i = findLoop cnt x f s i := by
  intro f
  induction f with
  | zero => intro s i; rfl
  | succ f ih =>
    intro s i
    rw [c_cstl_raw_array_find_loop1, findLoop]
    by_cases hi : i < cnt
    · rw [if_pos hi, if_pos hi, cmpProbeP_el, cmpProbeL_zero]
      refine bind_congr_ok ?_
      rintro ⟨s1, eq⟩ _
      dsimp only
      rw [castI64_small (Nat.lt_trans hi hc), uadd_one hi (Nat.lt_trans hc (by decide)), ih]
    · rw [if_neg hi, if_neg hi]

theorem find_tie (fu : Nat → Nat → Nat) (s : St) (x : Elem) (hc : s.arr.size < 9223372036854775808)
    (h2 : fu 2 s.arr.size = s.arr.size + 1) :
    c_cstl_raw_array_find fu s 0 s.arr.size x = find s x := by
  unfold c_cstl_raw_array_find find
  rw [h2, findLoop_tie fu _ x hc]

theorem revLoop_tie (fu : Nat → Nat → Nat) (cnt : Nat) :
    ∀ (f : Nat) (s : St) (i j : Int), 0 ≤ i →
      (c_cstl_raw_array_reverse_loop1 fu 0 cnt f s i j >>= fun r => pure r.1) = revLoop cnt f s i j := by
  intro f
  induction f with
  | zero => intro s i j hi; rfl
  | succ f ih =>
    intro s i j hi
    rw [c_cstl_raw_array_reverse_loop1, revLoop]
    by_cases hij : i < j
    · rw [if_pos hij, if_pos hij, swapP_el, castU64_nonneg hi, castU64_nonneg (by omega), idx,
        if_neg (Int.not_lt.2 hi), idx, if_neg (by omega)]
      simp only [pure_eq, ok_bind, bind_assoc]
      refine bind_congr_ok fun s1 _ => ?_
      refine bind_congr_ok fun v h3 => ?_
      have hv := i32_inv h3
      refine bind_congr_ok fun w _ => ?_
      exact ih s1 v w (by omega)
    · rw [if_neg hij, if_neg hij]
      rfl

theorem reverse_tie (fu : Nat → Nat → Nat) (s : St) (hc : s.arr.size ≤ 2147483648)
    (h0 : fu 0 s.arr.size = s.arr.size + 1) :
    c_cstl_raw_array_reverse fu s 0 s.arr.size = reverse s := by
  unfold c_cstl_raw_array_reverse reverse
  rw [h0, lastIdx_tie hc, ok_bind]
  exact revLoop_tie fu _ _ s 0 _ (Int.le_refl 0)

/-- one call of `cstl_raw_array_qsort`: the pivot block (draw, in-place 3-sort of first / middle /
last, or position 0) is the model's `pickPivot` -/
theorem qsort_step (fu : Nat → Nat → Nat) (rf : Nat) (s : St) (lo cnt algo : Nat) (hc : cnt < 18446744073709551616) :
    c_cstl_raw_array_qsort fu (rf + 1) s lo cnt algo =
      if cnt > 1 then
        pickPivot algo s lo cnt >>= fun sp =>
          if algo ≠ 2 ∨ cnt > 3 then
            c_cstl_raw_array_qsort_p fu sp.1 lo cnt (.el sp.2) >>= fun sm =>
              c_cstl_raw_array_qsort fu rf sm.1 lo (uadd sm.2 1) algo >>= fun s1 =>
                c_cstl_raw_array_qsort fu rf s1 (lo + uadd sm.2 1) (usub (usub cnt sm.2) 1) algo
          else pure sp.1
      else pure s := by
  rw [c_cstl_raw_array_qsort]
  by_cases h1 : cnt > 1
  · have hs : usub cnt 1 = cnt - 1 := usub_eq (Nat.le_of_lt h1) hc
    simp only [if_pos h1, pickPivot, med3, condSwap, cmpP_el, swapP_el, hs, castU64_ofNat, pure_eq, bind_assoc]
    by_cases ha1 : algo = 1
    · simp only [if_pos ha1]
    · by_cases ha2 : algo = 2
      · simp only [if_neg ha1, if_pos ha2, ok_bind, bind_assoc]
      · simp only [if_neg ha1, if_neg ha2]
        rfl
  · simp only [if_neg h1, pure_eq]

/-- `cstl_raw_array_qsort` (C recursion = recursion on a call-depth budget) is the model's `qsort`
whenever the model finishes (result or out-of-bounds stop): the model's fuel `f` counts nesting
levels with `count > 1`, the translation's budget every call, so `f + 1` calls suffice -/
theorem qsort_tie (fu : Nat → Nat → Nat) (algo : Nat)
    (h3 : ∀ c, fu 3 c = c + 1) (h4 : ∀ c, fu 4 c = c + 1) (h5 : ∀ c, fu 5 c = c + 1) :
    ∀ (f : Nat) (s : St) (lo cnt rf : Nat), cnt < 18446744073709551616 → f + 1 ≤ rf →
      Ref (c_cstl_raw_array_qsort fu rf s lo cnt algo) (qsort algo f s lo cnt) := by
  intro f
  induction f with
  | zero =>
    intro s lo cnt rf hc hrf
    obtain ⟨rf', rfl⟩ := exists_succ hrf
    rw [qsort_step fu rf' s lo cnt algo hc, qsort]
    by_cases h1 : cnt > 1
    · rw [if_pos h1, if_pos h1]; exact Ref.fuel
    · rw [if_neg h1, if_neg h1]; exact Ref.rfl
  | succ f ih =>
    intro s lo cnt rf hc hrf
    obtain ⟨rf', rfl⟩ := exists_succ hrf
    have hrf' : f + 1 ≤ rf' := Nat.le_of_succ_le_succ hrf
    rw [qsort_step fu rf' s lo cnt algo hc, qsort]
    by_cases h1 : cnt > 1
    · rw [if_pos h1, if_pos h1]
      refine Ref.bind .rfl fun ⟨s1, p⟩ _ => ?_
      dsimp only
      by_cases hcond : algo ≠ 2 ∨ cnt > 3
      · rw [if_pos hcond, if_pos hcond]
        refine Ref.bind (partition_tie fu s1 lo cnt p hc (h3 cnt) (h4 cnt) (h5 cnt)) fun ⟨s2, m⟩ hpt => ?_
        have hm := partition_lt hpt
        have hcm : cnt - m < 18446744073709551616 := Nat.lt_of_le_of_lt (Nat.sub_le _ _) hc
        dsimp only
        rw [uadd_one hm hc, usub_eq (Nat.le_of_lt hm) hc, usub_eq (Nat.sub_pos_of_lt hm) hcm, ← Nat.add_assoc]
        refine Ref.bind (ih s2 lo (m + 1) rf' (Nat.lt_of_le_of_lt (Nat.succ_le_of_lt hm) hc) hrf') fun s3 _ => ?_
        exact ih s3 (lo + m + 1) (cnt - m - 1) rf' (Nat.lt_of_le_of_lt (Nat.sub_le _ _) hcm) hrf'
      · rw [if_neg hcond, if_neg hcond]; exact Ref.rfl
    · rw [if_neg h1, if_neg h1]; exact Ref.rfl

/-- the dispatch of `cstl_raw_array_sort` on a named selector: one call, then `qsort_tie` or
`hsort_tie` -/
theorem sort_tie_named (fu : Nat → Nat → Nat) (f : Nat) (s : St) (algo : Nat) (hc : s.arr.size < 9223372036854775808)
    (h3 : ∀ c, fu 3 c = c + 1) (h4 : ∀ c, fu 4 c = c + 1) (h5 : ∀ c, fu 5 c = c + 1)
    (h6 : ∀ c, fu 6 c = c + 1) (h7 : s.arr.size / 2 + 1 ≤ fu 7 s.arr.size) (h8 : s.arr.size ≤ fu 8 s.arr.size)
    (hle : algo ≤ 3) (rf : Nat) (hrf : f + 2 ≤ rf) :
    Ref (c_cstl_raw_array_sort fu rf s 0 s.arr.size algo) (sort f s algo) := by
  obtain ⟨rf', rfl⟩ := exists_succ hrf
  have he : effAlgo algo = algo := if_pos hle
  rw [sort_eq, he, c_cstl_raw_array_sort]
  by_cases hheap : algo = 3
  · subst hheap
    rw [if_pos rfl, if_neg (by decide), if_pos rfl]
    exact hsort_tie fu s 0 _ hc h6 h7 h8
  · have ha : algo = 0 ∨ algo = 1 ∨ algo = 2 := by omega
    rw [if_pos ha, if_neg hheap]
    exact qsort_tie fu algo h3 h4 h5 f s 0 _ rf' (Nat.lt_trans hc (by decide)) (Nat.le_of_succ_le_succ hrf)

/-- `cstl_raw_array_sort`: the selector dispatch is the model's `sort`.  An out-of-range selector
takes the `default:` branch, which calls the function again with `CSTL_SORT_ALGORITHM_DEFAULT` —
the model's `sort_default`; hence one call more than `sort_tie_named` (`f + 3 ≤ rf`: the dispatch,
the re-dispatch, and the `f + 1` of `qsort_tie`). -/
theorem sort_tie (fu : Nat → Nat → Nat) (f : Nat) (s : St) (algo : Nat) (hc : s.arr.size < 9223372036854775808)
    (h3 : ∀ c, fu 3 c = c + 1) (h4 : ∀ c, fu 4 c = c + 1) (h5 : ∀ c, fu 5 c = c + 1)
    (h6 : ∀ c, fu 6 c = c + 1) (h7 : s.arr.size / 2 + 1 ≤ fu 7 s.arr.size) (h8 : s.arr.size ≤ fu 8 s.arr.size)
    (rf : Nat) (hrf : f + 3 ≤ rf) :
    Ref (c_cstl_raw_array_sort fu rf s 0 s.arr.size algo) (sort f s algo) := by
  by_cases hle : algo ≤ 3
  · exact sort_tie_named fu f s algo hc h3 h4 h5 h6 h7 h8 hle rf (Nat.le_of_succ_le hrf)
  · obtain ⟨rf', rfl⟩ := exists_succ hrf
    rw [sort_default f s algo (Nat.lt_of_not_le hle), c_cstl_raw_array_sort, if_neg (by omega), if_neg (by omega)]
    exact sort_tie_named fu f s 2 hc h3 h4 h5 h6 h7 h8 (by decide) rf' (Nat.le_of_succ_le_succ hrf)

def fuStd : Nat → Nat → Nat := fun _ c => c + 1

theorem partition_tie_std (s : St) (lo cnt p : Nat) (hc : cnt < 18446744073709551616)
    (hne : partition s lo cnt p ≠ .error .fuel) :
    c_cstl_raw_array_qsort_p fuStd s lo cnt (.el p) = partition s lo cnt p :=
  partition_tie fuStd s lo cnt p hc rfl rfl rfl hne

theorem siftDown_tie_std (lo cnt : Nat) (hc : cnt < 9223372036854775808) (s : St) (n : Nat)
    (hn : 2 * n + 2 < 18446744073709551616) (hne : siftDown lo cnt cnt s n ≠ .error .fuel) :
    c_cstl_raw_array_hsort_b fuStd s lo cnt n = siftDown lo cnt cnt s n :=
  siftDown_tie fuStd lo cnt hc cnt s n rfl hn hne

theorem hsort_tie_std (s : St) (lo cnt : Nat) (hc : cnt < 9223372036854775808) (hne : hsort s lo cnt ≠ .error .fuel) :
    c_cstl_raw_array_hsort fuStd s lo cnt = hsort s lo cnt :=
  hsort_tie fuStd s lo cnt hc (fun _ => rfl) (by unfold fuStd; omega) (by unfold fuStd; omega) hne

theorem search_tie_std (s : St) (x : Elem) (hc : s.arr.size ≤ 2147483648) :
    c_cstl_raw_array_search fuStd s 0 s.arr.size x = search s x := search_tie fuStd s x hc rfl

theorem find_tie_std (s : St) (x : Elem) (hc : s.arr.size < 9223372036854775808) :
    c_cstl_raw_array_find fuStd s 0 s.arr.size x = find s x := find_tie fuStd s x hc rfl

theorem reverse_tie_std (s : St) (hc : s.arr.size ≤ 2147483648) :
    c_cstl_raw_array_reverse fuStd s 0 s.arr.size = reverse s := reverse_tie fuStd s hc rfl

theorem qsort_tie_std (algo f : Nat) (s : St) (lo cnt : Nat) (hc : cnt < 18446744073709551616)
    (hne : qsort algo f s lo cnt ≠ .error .fuel) :
    c_cstl_raw_array_qsort fuStd (f + 1) s lo cnt algo = qsort algo f s lo cnt :=
  qsort_tie fuStd algo (fun _ => rfl) (fun _ => rfl) (fun _ => rfl) f s lo cnt (f + 1) hc (Nat.le_refl _) hne

theorem sort_tie_std (f : Nat) (s : St) (algo : Nat) (hc : s.arr.size < 9223372036854775808)
    (hne : sort f s algo ≠ .error .fuel) :
    c_cstl_raw_array_sort fuStd (f + 3) s 0 s.arr.size algo = sort f s algo :=
  sort_tie fuStd f s algo hc (fun _ => rfl) (fun _ => rfl) (fun _ => rfl) (fun _ => rfl)
    (by unfold fuStd; omega) (by unfold fuStd; omega) (f + 3) (Nat.le_refl _) hne

/-- **the translated C function sorts**: for the deterministic selectors (everything but the random
pivot) `cstl_raw_array_sort`, as regenerated from the source, returns a sorted permutation of every
array of fewer than 2^63 elements, never stops out of bounds, and its run (comparison / swap log
included) is the model's (`sort_terminates` discharges the "model finishes" hypothesis of the tie) -/
theorem c_sort_sorts (s : St) (algo : Nat) (halgo : algo ≠ 1) (hc : s.arr.size < 9223372036854775808) :
    ∃ s', c_cstl_raw_array_sort fuStd (s.arr.size + 3) s 0 s.arr.size algo = .ok s' ∧
      sort s.arr.size s algo = .ok s' ∧
      s'.arr.toList.Perm s.arr.toList ∧
      s'.arr.toList.Pairwise (fun x y => x.key ≤ y.key) := by
  obtain ⟨s', h, hp, hs⟩ := sort_terminates s.arr.size s algo halgo (Nat.le_refl _)
  refine ⟨s', ?_, h, hp, hs⟩
  rw [sort_tie_std s.arr.size s algo hc (by rw [h]; simp), h]

/-- for every selector (the random pivot included), every draw stream and every budget: whenever the
model returns, the translated C function returns the same state, a sorted permutation (`sort_of_ok`) -/
theorem c_sort_sorted_perm (f : Nat) (s s' : St) (algo : Nat) (hc : s.arr.size < 9223372036854775808)
    (h : sort f s algo = .ok s') :
    c_cstl_raw_array_sort fuStd (f + 3) s 0 s.arr.size algo = .ok s' ∧
      s'.arr.toList.Perm s.arr.toList ∧ s'.arr.toList.Pairwise (fun x y => x.key ≤ y.key) := by
  exact ⟨by rw [sort_tie_std f s algo hc (by rw [h]; simp), h], sort_of_ok h⟩

/-- the hypotheses are satisfiable on a concrete array: the translated C function sorts `[3,1,2]`
with every selector, and the run is the model's -/
theorem translated_sort_example : ∀ algo ∈ [0, 1, 2, 3, 99],
    (c_cstl_raw_array_sort fuStd 7 { arr := #[⟨3, 0⟩, ⟨1, 1⟩, ⟨2, 2⟩] } 0 3 algo).toOption.map (·.arr.toList.map (·.key))
      = some [1, 2, 3] ∧
    (sort 4 { arr := #[⟨3, 0⟩, ⟨1, 1⟩, ⟨2, 2⟩] } algo).toOption.map (·.arr.toList.map (·.key)) = some [1, 2, 3] := by
  decide

end Cstl.Sort.Tie
