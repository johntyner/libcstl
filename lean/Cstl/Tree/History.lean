import Cstl.Tree.Model
/-
Operation histories on one tree / one map, built from the model operations of
Model.lean.  The driver (Main.lean) executes every standard operation as one
`btStep` / `rbStep` / `mapStep`, so the step functions the history theorems of
Props*.lean are about are the ones compared with the real code on every run.
The history theorems quantify over `List Op` / `List MOp` from the initial
(empty) container.
-/
namespace Cstl.Tree
open Color Tree

/-- why a history cannot continue -/
inductive Stop where
  /-- the caller broke the interface: the element is already in the tree -/
  | badOp
  /-- the code would dereference NULL -/
  | segv
deriving DecidableEq, Repr

inductive Op where
  /-- insert(e, NULL) -/
  | ins (x : Elem)
  /-- find(e, &par); insert(e, par) -/
  | insHint (x : Elem)
  | find (k : Int)
  | erase (k : Int)
  | foreach (fwd : Bool) (visit : Nat → Elem → Ord → Int)
  | clear

inductive Out where
  | done
  | found (r : Option Elem)
  | erased (r : Option Elem)
  | visited (res : Int) (evs : List Ev)
  | cleared (cbs : List Elem)

/-- a tree container: the root and the `size` member -/
structure TS where
  t : Tree := nil
  size : Nat := 0

/-- one operation on a `struct cstl_bintree` -/
def btStep (s : TS) : Op → Except Stop (TS × Out)
  | .ins x =>
    if x.id ∈ s.t.ids then .error .badOp
    else .ok ({ t := btIns x s.t, size := s.size + 1 }, .done)
  | .insHint x =>
    if x.id ∈ s.t.ids then .error .badOp
    else match (find x.key s.t).2 with
      | none => .ok ({ t := btIns x s.t, size := s.size + 1 }, .done)
      | some p =>
        match btInsAt p.id x s.t with
        | some t' => .ok ({ t := t', size := s.size + 1 }, .done)
        | none => .error .segv
  | .find k => .ok (s, .found (find k s.t).1)
  | .erase k =>
    match btErase k s.t with
    | (t', some e) => .ok ({ t := t', size := s.size - 1 }, .erased (some e))
    | (_, none) => .ok (s, .erased none)
  | .foreach fwd visit =>
    let r := foreach fwd visit s.t
    .ok (s, .visited r.1 r.2)
  | .clear => .ok ({ t := nil, size := 0 }, .cleared (clearOrder s.t))

/-- one operation on a `struct cstl_rbtree` -/
def rbStep (s : TS) : Op → Except Stop (TS × Out)
  | .ins x =>
    if x.id ∈ s.t.ids then .error .badOp
    else match rbInsert x s.t with
      | some t' => .ok ({ t := t', size := s.size + 1 }, .done)
      | none => .error .segv
  | .insHint x =>
    if x.id ∈ s.t.ids then .error .badOp
    else match (find x.key s.t).2 with
      | none =>
        match rbInsert x s.t with
        | some t' => .ok ({ t := t', size := s.size + 1 }, .done)
        | none => .error .segv
      | some p =>
        match rbInsertAt p.id x s.t with
        | some (some t') => .ok ({ t := t', size := s.size + 1 }, .done)
        | _ => .error .segv
  | .find k => .ok (s, .found (find k s.t).1)
  | .erase k =>
    match rbErase k s.t with
    | none => .error .segv
    | some (t', some e) => .ok ({ t := t', size := s.size - 1 }, .erased (some e))
    | some (_, none) => .ok (s, .erased none)
  | .foreach fwd visit =>
    let r := foreach fwd visit s.t
    .ok (s, .visited r.1 r.2)
  | .clear => .ok ({ t := nil, size := 0 }, .cleared (clearOrder s.t))

def runFrom (step : TS → Op → Except Stop (TS × Out)) : TS → List Op → Except Stop (TS × List Out)
  | s, [] => .ok (s, [])
  | s, op :: ops =>
    match step s op with
    | .error e => .error e
    | .ok (s', o) =>
      match runFrom step s' ops with
      | .error e => .error e
      | .ok (s'', os) => .ok (s'', o :: os)

theorem runFrom_cons_ok {step : TS → Op → Except Stop (TS × Out)} {s s'' : TS} {op : Op} {ops : List Op}
    {outs : List Out} :
    runFrom step s (op :: ops) = .ok (s'', outs) ↔
      ∃ s' o os, step s op = .ok (s', o) ∧ runFrom step s' ops = .ok (s'', os) ∧ outs = o :: os := by
  simp only [runFrom]
  cases step s op with
  | error e => simp
  | ok r =>
    obtain ⟨s1, o⟩ := r
    cases hr : runFrom step s1 ops with
    | error e => simp [hr]
    | ok r' =>
      simp only [hr]
      constructor
      · intro h; cases h; exact ⟨s1, o, _, rfl, hr, rfl⟩
      · rintro ⟨_, _, _, h1, h2, rfl⟩; cases h1; cases hr.symm.trans h2; rfl

def btRun (ops : List Op) := runFrom btStep {} ops
def rbRun (ops : List Op) := runFrom rbStep {} ops

inductive MOp where
  /-- insert(key object `kp` with value `k`, value `v`), malloc's answer -/
  | ins (k : Int) (kp v : Nat) (allocOk : Bool)
  | find (k : Int)
  | erase (k : Int)
  /-- find(k, &it); if it is not end: erase_iterator(&it) -/
  | eraseIt (k : Int)
  | clear (withCb : Bool)
deriving Repr

inductive MOut where
  | ins (ret : Int) (it : Iter) (log : List MEv)
  | find (it : Iter)
  | erase (ret : Int) (it : Iter) (log : List MEv)
  | eraseIt (it : Iter) (log : List MEv)
  | clear (log : List MEv)
deriving Repr

/-- `none` = NULL dereference -/
def mapStep (m : MapSt) : MOp → Option (MapSt × MOut)
  | .ins k kp v a =>
    match mapInsert m k kp v a with
    | none => none
    | some (m', r, it, log) => some (m', .ins r it log)
  | .find k => some (m, .find (mapFind m k))
  | .erase k =>
    match mapErase m k with
    | none => none
    | some (m', r, it, log) => some (m', .erase r it log)
  | .eraseIt k =>
    match (find k m.t).1 with
    | none => some (m, .eraseIt none [])
    | some e =>
      match mapEraseNode m e with
      | none => none
      | some (m', log) => some (m', .eraseIt (iterOf e) log)
  | .clear cb =>
    let r := mapClear m cb
    some (r.1, .clear r.2)

def mapRunFrom : MapSt → List MOp → Option (MapSt × List MOut)
  | m, [] => some (m, [])
  | m, op :: ops =>
    match mapStep m op with
    | none => none
    | some (m', o) =>
      match mapRunFrom m' ops with
      | none => none
      | some (m'', os) => some (m'', o :: os)

def mapRun (ops : List MOp) := mapRunFrom {} ops

end Cstl.Tree
