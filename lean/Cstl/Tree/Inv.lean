import Cstl.Tree.Bal
/-
The red-black rules read directly off the tree (no reference to `Bal`), and their equivalence
with the inductive `Bal`.  Against the four rules of include/cstl/rbtree.h: rules 1 and 2 are in the
type and in `isRed`/`isBlack` (a missing child is black), rule 3 is `NoRedRed`, rule 4 is `UniformBlack`
— stated there for the paths from every node, here from the root, which is the same condition (a
path from a node extends the one path that leads to it).  That the root is black is not among the
header's rules: the code establishes it (`cstl_rbtree_insert` ends by painting the root, rbtree.c)
and `RootBlack` records it.
-/
namespace Cstl.Tree
open Color Tree

/-- the root is black (an empty tree has no root) -/
def RootBlack : Tree → Prop
  | nil => True
  | node c _ _ _ => c = black

/-- no red node has a red child -/
def NoRedRed : Tree → Prop
  | nil => True
  | node c l _ r => (c = red → l.isRed = false ∧ r.isRed = false) ∧ NoRedRed l ∧ NoRedRed r

/-- for every path from the root down to a missing child, the number of black
nodes it crosses -/
def blackCounts : Tree → List Nat
  | nil => [0]
  | node c l _ r => (blackCounts l ++ blackCounts r).map (· + (if c = black then 1 else 0))

/-- every such path crosses the same number of black nodes -/
def UniformBlack (t : Tree) : Prop := ∃ n, ∀ m ∈ blackCounts t, m = n

/-- the red-black rules of include/cstl/rbtree.h (see the head of this file), with the black root the code keeps -/
def Inv (t : Tree) : Prop := RootBlack t ∧ NoRedRed t ∧ UniformBlack t

theorem blackCounts_ne_nil : ∀ t : Tree, blackCounts t ≠ []
  | nil => by simp [blackCounts]
  | node _ l _ _ => by simp [blackCounts, blackCounts_ne_nil l]

theorem forall_blackCounts_node {P : Nat → Prop} {c : Color} {l r : Tree} {e : Elem} :
    (∀ m ∈ blackCounts (node c l e r), P m) ↔
      (∀ a ∈ blackCounts l, P (a + if c = black then 1 else 0)) ∧
      (∀ a ∈ blackCounts r, P (a + if c = black then 1 else 0)) := by
  simp only [blackCounts, List.mem_map, List.mem_append]
  constructor
  · intro h
    exact ⟨fun a ha => h _ ⟨a, Or.inl ha, rfl⟩, fun a ha => h _ ⟨a, Or.inr ha, rfl⟩⟩
  · rintro ⟨hl, hr⟩ m ⟨a, ha | ha, rfl⟩
    · exact hl a ha
    · exact hr a ha

theorem Bal.rules {t : Tree} {c : Color} {n : Nat} (h : Bal t c n) :
    NoRedRed t ∧ ∀ m ∈ blackCounts t, m = n := by
  induction h with
  | nil => simp [NoRedRed, blackCounts]
  | red hl hr ihl ihr =>
    refine ⟨⟨fun _ => ⟨hl.isRed_of_black, hr.isRed_of_black⟩, ihl.1, ihr.1⟩, ?_⟩
    exact forall_blackCounts_node.2 ⟨fun a ha => ihl.2 a ha, fun a ha => ihr.2 a ha⟩
  | black hl hr ihl ihr =>
    refine ⟨⟨nofun, ihl.1, ihr.1⟩, ?_⟩
    exact forall_blackCounts_node.2
      ⟨fun a ha => congrArg (· + 1) (ihl.2 a ha), fun a ha => congrArg (· + 1) (ihr.2 a ha)⟩

theorem bal_of_rules : ∀ (t : Tree) (n : Nat), NoRedRed t → (∀ m ∈ blackCounts t, m = n) →
    ∃ c, Bal t c n
  | nil, n, _, h => by
    cases h 0 (List.mem_singleton.2 rfl)
    exact ⟨black, Bal.nil⟩
  | node red l e r, n, ⟨hc, hl, hr⟩, hb => by
    obtain ⟨bl, br⟩ := forall_blackCounts_node.1 hb
    obtain ⟨cl, hbl⟩ := bal_of_rules l n hl bl
    obtain ⟨cr, hbr⟩ := bal_of_rules r n hr br
    cases cl with
    | red => exact absurd hbl.isRed_of_red (by simp [(hc rfl).1])
    | black =>
      cases cr with
      | red => exact absurd hbr.isRed_of_red (by simp [(hc rfl).2])
      | black => exact ⟨red, Bal.red hbl hbr⟩
  | node black l e r, n, ⟨_, hl, hr⟩, hb => by
    obtain ⟨bl, br⟩ := forall_blackCounts_node.1 hb
    -- a path of the left subtree names the children's black height
    obtain ⟨k, hk⟩ := List.exists_mem_of_ne_nil _ (blackCounts_ne_nil l)
    cases bl k hk
    obtain ⟨cl, hbl⟩ := bal_of_rules l k hl (fun a ha => Nat.add_right_cancel (bl a ha))
    obtain ⟨cr, hbr⟩ := bal_of_rules r k hr (fun a ha => Nat.add_right_cancel (br a ha))
    exact ⟨black, Bal.black hbl hbr⟩

/-- the header's rules hold iff the tree is balanced with a black root -/
theorem inv_iff_bal (t : Tree) : Inv t ↔ ∃ n, Bal t black n := by
  constructor
  · rintro ⟨hroot, hrr, n, hn⟩
    obtain ⟨c, hb⟩ := bal_of_rules t n hrr hn
    cases c with
    | black => exact ⟨n, hb⟩
    | red =>
      cases hb
      simp [RootBlack] at hroot
  · rintro ⟨n, hb⟩
    obtain ⟨h1, h2⟩ := hb.rules
    refine ⟨?_, h1, n, h2⟩
    cases hb <;> simp [RootBlack]

end Cstl.Tree
