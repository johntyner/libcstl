import Cstl.Tree.History
/-
Histories: the contract of one step (`Safe`) and how it passes from the steps to a run.
-/
namespace Cstl.Tree
open Color Tree

/-- `r` is not a NULL dereference, and a normal result satisfies `Q`.  The property theorems about steps and
histories (`rbStep_inv`, `btStep_refines`, `bt_run_refines`, …) spell this conjunction out in their
statements: they are `Safe` unfolded, and are proved and used as `Safe`. -/
def Safe {σ ω : Type} (r : Except Stop (σ × ω)) (Q : σ → ω → Prop) : Prop :=
  r ≠ .error .segv ∧ ∀ s o, r = .ok (s, o) → Q s o

theorem Safe.ok {σ ω : Type} {Q : σ → ω → Prop} {s : σ} {o : ω} (h : Q s o) : Safe (.ok (s, o)) Q :=
  ⟨nofun, fun _ _ e => by cases e; exact h⟩

theorem Safe.error {σ ω : Type} {Q : σ → ω → Prop} {e : Stop} (h : e ≠ .segv) :
    Safe (.error e : Except Stop (σ × ω)) Q := ⟨fun he => by cases he; exact h rfl, nofun⟩

theorem Safe.badOp {σ ω : Type} {Q : σ → ω → Prop} : Safe (.error .badOp : Except Stop (σ × ω)) Q :=
  .error nofun

theorem Safe.mono {σ ω : Type} {Q Q' : σ → ω → Prop} {r : Except Stop (σ × ω)} (h : Safe r Q)
    (hq : ∀ s o, Q s o → Q' s o) : Safe r Q' :=
  ⟨h.1, fun s o e => hq s o (h.2 s o e)⟩

theorem runFrom_cons_safe {step : TS → Op → Except Stop (TS × Out)} {s : TS} {op : Op} {ops : List Op}
    {Q : TS → List Out → Prop}
    (h : Safe (step s op) fun s' o => Safe (runFrom step s' ops) fun s'' os => Q s'' (o :: os)) :
    Safe (runFrom step s (op :: ops)) Q := by
  rw [runFrom]
  split
  · next he => exact .error fun hs => h.1 (hs ▸ he)
  · next he =>
    have h' := h.2 _ _ he
    split
    · next hr => exact .error fun hs => h'.1 (hs ▸ hr)
    · next hr => exact .ok (h'.2 _ _ hr)

theorem runFrom_inv {step : TS → Op → Except Stop (TS × Out)} {P : TS → Prop}
    (hstep : ∀ {s}, P s → ∀ op, Safe (step s op) fun s' _ => P s') :
    ∀ (ops : List Op) (s : TS), P s → Safe (runFrom step s ops) fun s' _ => P s'
  | [], _, h => .ok h
  | op :: ops, _, h => runFrom_cons_safe ((hstep h op).mono fun s' _ h' => runFrom_inv hstep ops s' h')

end Cstl.Tree
