import Cstl.Tree.MapLemmas
import Cstl.Tree.PropsC01
/-
C08 — the map keeps exactly one entry per key and never replaces or loses one
silently.

`absMap m.t : Key → Option (key pointer × value pointer × node)` is the partial
function the map's tree represents (MapLemmas.lean); `MapInv` is the invariant.
-/
namespace Cstl.Tree
open Color Tree

structure MapInv (m : MapSt) : Prop where
  rb : Inv m.t
  /-- one entry per key -/
  strict : StrictSorted m.t
  size : m.size = m.t.size
  /-- every node is a block the allocator has handed out -/
  fresh : ∀ i ∈ m.t.ids, i < m.next
  nodup : m.t.ids.Nodup

theorem mapInv_empty (next : Nat) : MapInv { t := nil, size := 0, next := next } :=
  ⟨inv_nil, List.Pairwise.nil, rfl, fun _ h => (nomatch h), List.nodup_nil⟩

/-- inserting an existing key returns 1 with an iterator to the existing entry;
nothing changes (stored key and value pointers untouched) and nothing is allocated -/
theorem mapInsert_existing {m : MapSt} (h : MapInv m) {k : Int} {it : Nat × Nat × Nat} (kp v : Nat) (a : Bool)
    (ha : absMap m.t k = some it) : mapInsert m k kp v a = some (m, 1, some it, []) := by
  obtain ⟨e, hf, ht⟩ := find_fst_of_absMap_some h.strict ha
  unfold mapInsert
  cases hfind : find k m.t with
  | mk f par =>
    rw [hfind] at hf
    subst hf
    simp [iterOf, ← ht, triple]

/-- malloc failure: -1, the end iterator, state unchanged -/
theorem mapInsert_fail {m : MapSt} (h : MapInv m) {k : Int} (kp v : Nat)
    (ha : absMap m.t k = none) : mapInsert m k kp v false = some (m, -1, none, [MEv.allocFail]) := by
  have hf := find_fst_of_absMap_none h.strict ha
  unfold mapInsert
  cases hfind : find k m.t with
  | mk f par =>
    rw [hfind] at hf
    subst hf
    simp

/-- inserting a new key returns 0 with an iterator to the new entry; exactly that
entry is added, the node is the block malloc returned -/
theorem mapInsert_new {m : MapSt} (h : MapInv m) {k : Int} (kp v : Nat)
    (ha : absMap m.t k = none) :
    ∃ m', mapInsert m k kp v true = some (m', 0, some (kp, v, m.next), [MEv.alloc m.next]) ∧ MapInv m' ∧
      (∀ k', absMap m'.t k' = if k' = k then some (kp, v, m.next) else absMap m.t k') ∧
      m'.size = m.size + 1 ∧ m'.next = m.next + 1 ∧ m'.t.ids.Perm (m.next :: m.t.ids) := by
  have hf := find_fst_of_absMap_none h.strict ha
  let x : Elem := { key := k, id := m.next, kp := kp, val := v }
  obtain ⟨t', ht', hi'⟩ := rbInsert_inv x h.rb
  obtain ⟨hperm, hsorted, hsize⟩ := rbInsert_spec ht'
  have hnone : ∀ e ∈ m.t.inorder, e.key ≠ k := absMap_eq_none.1 ha
  have hnext : m.next ∉ m.t.ids := fun hm => Nat.lt_irrefl _ (h.fresh _ hm)
  have hidperm : t'.ids.Perm (m.next :: m.t.ids) := ids_perm_cons hperm
  have hstrict : StrictSorted t' := by
    apply strictSorted_of (hsorted h.strict.sorted)
    rw [(keys_perm_cons hperm).nodup_iff, List.nodup_cons]
    refine ⟨?_, h.strict.keys_nodup⟩
    simp only [List.mem_map, not_exists, not_and]
    intro e he hk
    exact hnone e he hk
  have hinv : MapInv { t := t', size := m.size + 1, next := m.next + 1 } := by
    refine ⟨hi', hstrict, by simp [hsize, h.size], ?_, ?_⟩
    · intro i hi
      rcases List.mem_cons.1 (hidperm.mem_iff.1 hi) with rfl | hi
      · simp
      · have := h.fresh i hi; simp; omega
    · exact hidperm.nodup_iff.2 (List.nodup_cons.2 ⟨hnext, h.nodup⟩)
  refine ⟨{ t := t', size := m.size + 1, next := m.next + 1 }, ?_, hinv, ?_, rfl, rfl, hidperm⟩
  · unfold mapInsert
    cases hfind : find k m.t with
    | mk f par =>
      rw [hfind] at hf
      subst hf
      cases par with
      | none => simp [ht', iterOf, x]
      | some p =>
        have hp : (find x.key m.t).2 = some p := by simp [x, hfind]
        have := rbInsertAt_find_eq x h.nodup hp
        simp only [x] at this ht'
        simp [this, ht', iterOf]
  · exact absMap_perm_cons h.strict hstrict hperm

/-- find yields the stored pointers or the end iterator -/
theorem mapFind_spec {m : MapSt} (h : MapInv m) (k : Int) : mapFind m k = absMap m.t k := by
  rw [← find_eq_absMap h.strict k]
  unfold mapFind
  cases (find k m.t).1 <;> simp [iterOf, triple]

/-- what removing the entry of key `k` does to a map state -/
theorem mapEraseNode_spec {m : MapSt} (h : MapInv m) {k : Int} {e : Elem}
    (hf : (find k m.t).1 = some e) :
    ∃ m', mapEraseNode m e = some (m', [MEv.free e.id]) ∧ MapInv m' ∧
      (∀ k', absMap m'.t k' = if k' = k then none else absMap m.t k') ∧
      m'.size + 1 = m.size ∧ m'.next = m.next ∧ m.t.ids.Perm (e.id :: m'.t.ids) := by
  obtain ⟨hm, hk⟩ := find_some hf
  subst hk
  obtain ⟨t', r, hr, hi'⟩ := rbErase_inv e.key h.rb
  have hre : r = some e := (rbErase_snd hr).trans hf
  subst hre
  obtain ⟨_, _, hperm, _, hsize⟩ := rbErase_some hr
  have hkeys := keys_perm_cons hperm
  have hknd := hkeys.nodup_iff.1 h.strict.keys_nodup
  have hstrict : StrictSorted t' := h.strict.sublist (rbErase_sublist hr)
  have hidperm : m.t.ids.Perm (e.id :: t'.ids) := ids_perm_cons hperm
  have hinv : MapInv { m with t := t', size := m.size - 1 } := by
    refine ⟨hi', hstrict, ?_, ?_, ?_⟩
    · simp only; rw [h.size]; omega
    · intro i hi
      exact h.fresh i (hidperm.mem_iff.2 (List.mem_cons_of_mem _ hi))
    · exact (List.nodup_cons.1 (hidperm.nodup_iff.1 h.nodup)).2
  refine ⟨{ m with t := t', size := m.size - 1 }, by simp [mapEraseNode, hr], hinv, ?_, ?_, rfl, hidperm⟩
  · intro k'
    have := absMap_perm_cons hstrict h.strict hperm k'
    by_cases hk : k' = e.key
    · rw [if_pos hk]
      refine absMap_eq_none.2 fun e' he' hke => (List.nodup_cons.1 hknd).1 ?_
      exact hk ▸ hke ▸ List.mem_map.2 ⟨e', he', rfl⟩
    · rw [if_neg hk] at this ⊢
      exact this.symm
  · simp only; rw [h.size]; omega

/-- erase by key: 0 and the stored pointers of the entry it removed (the node is
freed after unlinking), exactly that entry goes -/
theorem mapErase_some {m : MapSt} (h : MapInv m) {k : Int} {kp v n : Nat}
    (ha : absMap m.t k = some (kp, v, n)) :
    ∃ m', mapErase m k = some (m', 0, some (kp, v, 0), [MEv.free n]) ∧ MapInv m' ∧
      (∀ k', absMap m'.t k' = if k' = k then none else absMap m.t k') ∧
      m'.size + 1 = m.size ∧ m'.next = m.next ∧ m.t.ids.Perm (n :: m'.t.ids) := by
  obtain ⟨e, hf, ht⟩ := find_fst_of_absMap_some h.strict ha
  obtain ⟨m', hrun, rest⟩ := mapEraseNode_spec h hf
  simp only [triple, Prod.mk.injEq] at ht
  obtain ⟨rfl, rfl, rfl⟩ := ht
  exact ⟨m', by simp [mapErase, hf, hrun], rest⟩

/-- erase of an absent key: -1, the end iterator, nothing changes -/
theorem mapErase_none {m : MapSt} (h : MapInv m) {k : Int} (ha : absMap m.t k = none) :
    mapErase m k = some (m, -1, none, []) := by
  simp [mapErase, find_fst_of_absMap_none h.strict ha]

/-- clear passes every entry's key and value to the callback exactly once, frees
every node exactly once (after its callback), and leaves an empty map -/
theorem mapClear_spec {m : MapSt} (h : MapInv m) (withCb : Bool) :
    ∃ es : List Elem, es.Perm m.t.inorder ∧ (mapClear m withCb).2 = clearLog withCb es ∧
      (mapClear m withCb).1.t = nil ∧ (mapClear m withCb).1.size = 0 ∧
      ∀ live : List Nat, live.Perm m.t.ids → ledger live (mapClear m withCb).2 = some [] := by
  refine ⟨clearOrder m.t, clear_spec m.t, rfl, rfl, rfl, ?_⟩
  intro live hl
  have hp : ((clearOrder m.t).map (·.id)).Perm m.t.ids := ids_perm (clear_spec m.t)
  exact ledger_clearLog withCb (clearOrder m.t) live (hl.trans hp.symm) (hp.nodup_iff.2 h.nodup)

/-- size is the number of entries -/
theorem mapSize_spec {m : MapSt} (h : MapInv m) : m.size = m.t.inorder.length := by
  rw [h.size, size_eq_length]

structure MSpec where
  f : Int → Option (Nat × Nat × Nat)
  /-- the block the allocator hands out next -/
  next : Nat
  /-- blocks the map has obtained from malloc and not freed -/
  live : List Nat

def MSpec.init : MSpec := ⟨fun _ => none, 1, []⟩

def MSpec.set (σ : MSpec) (k : Int) (it : Option (Nat × Nat × Nat)) : Int → Option (Nat × Nat × Nat) :=
  fun k' => if k' = k then it else σ.f k'

inductive MSpecStep : MSpec → MOp → MOut → MSpec → Prop where
  | insExisting {σ : MSpec} {k : Int} {kp v : Nat} {a : Bool} {it : Nat × Nat × Nat} :
      σ.f k = some it → MSpecStep σ (.ins k kp v a) (.ins 1 (some it) []) σ
  | insFail {σ : MSpec} {k : Int} {kp v : Nat} :
      σ.f k = none → MSpecStep σ (.ins k kp v false) (.ins (-1) none [.allocFail]) σ
  | insNew {σ : MSpec} {k : Int} {kp v : Nat} :
      σ.f k = none → σ.next ∉ σ.live →
      MSpecStep σ (.ins k kp v true) (.ins 0 (some (kp, v, σ.next)) [.alloc σ.next])
        ⟨σ.set k (some (kp, v, σ.next)), σ.next + 1, σ.next :: σ.live⟩
  | find {σ : MSpec} {k : Int} : MSpecStep σ (.find k) (.find (σ.f k)) σ
  | eraseSome {σ : MSpec} {k : Int} {kp v n : Nat} :
      σ.f k = some (kp, v, n) → n ∈ σ.live →
      MSpecStep σ (.erase k) (.erase 0 (some (kp, v, 0)) [.free n]) ⟨σ.set k none, σ.next, σ.live.erase n⟩
  | eraseNone {σ : MSpec} {k : Int} :
      σ.f k = none → MSpecStep σ (.erase k) (.erase (-1) none []) σ
  | eraseItSome {σ : MSpec} {k : Int} {kp v n : Nat} :
      σ.f k = some (kp, v, n) → n ∈ σ.live →
      MSpecStep σ (.eraseIt k) (.eraseIt (some (kp, v, n)) [.free n]) ⟨σ.set k none, σ.next, σ.live.erase n⟩
  | eraseItNone {σ : MSpec} {k : Int} :
      σ.f k = none → MSpecStep σ (.eraseIt k) (.eraseIt none []) σ
  /-- the callback order is the implementation's; each entry exactly once, its
  node freed right after, everything released at the end -/
  | clear {σ : MSpec} {cb : Bool} {es : List Elem} {log : List MEv} :
      (es.map triple).Nodup → (∀ it, it ∈ es.map triple ↔ ∃ k, σ.f k = some it) →
      log = clearLog cb es → ledger σ.live log = some [] →
      MSpecStep σ (.clear cb) (.clear log) ⟨fun _ => none, σ.next, []⟩

inductive MSpecRun : MSpec → List MOp → List MOut → MSpec → Prop where
  | nil {σ : MSpec} : MSpecRun σ [] [] σ
  | cons {σ σ' σ'' : MSpec} {op : MOp} {o : MOut} {ops : List MOp} {os : List MOut} :
      MSpecStep σ op o σ' → MSpecRun σ' ops os σ'' → MSpecRun σ (op :: ops) (o :: os) σ''

/-- how a map state represents a specification state -/
structure Rep (m : MapSt) (σ : MSpec) : Prop where
  inv : MapInv m
  abs : ∀ k, absMap m.t k = σ.f k
  next : m.next = σ.next
  live : σ.live.Perm m.t.ids

theorem Rep.empty (next : Nat) : Rep { t := nil, size := 0, next := next } ⟨fun _ => none, next, []⟩ :=
  ⟨mapInv_empty next, fun _ => rfl, rfl, .refl _⟩

theorem Rep.init : Rep {} MSpec.init := Rep.empty 1

/-- size equals the number of live nodes -/
theorem rep_size {m : MapSt} {σ : MSpec} (r : Rep m σ) : m.size = σ.live.length := by
  rw [r.live.length_eq, r.inv.size, size_eq_length]; simp [Tree.ids]

theorem Rep.mem_triples {m : MapSt} {σ : MSpec} (r : Rep m σ) {it : Nat × Nat × Nat} :
    it ∈ m.t.inorder.map triple ↔ ∃ k, σ.f k = some it := by
  constructor
  · intro hm
    obtain ⟨e, he, rfl⟩ := List.mem_map.1 hm
    exact ⟨e.key, by rw [← r.abs]; exact (absMap_eq_some r.inv.strict).2 ⟨e, he, rfl, rfl⟩⟩
  · rintro ⟨k, hk⟩
    rw [← r.abs] at hk
    obtain ⟨e, he, _, ht⟩ := (absMap_eq_some r.inv.strict).1 hk
    exact List.mem_map.2 ⟨e, he, ht⟩

/-- the live nodes are exactly the nodes of the entries -/
theorem rep_live_iff {m : MapSt} {σ : MSpec} (r : Rep m σ) (n : Nat) :
    n ∈ σ.live ↔ ∃ k kp v, σ.f k = some (kp, v, n) := by
  rw [r.live.mem_iff, mem_ids]
  constructor
  · rintro ⟨e, he, rfl⟩
    obtain ⟨k, hk⟩ := r.mem_triples.1 (List.mem_map.2 ⟨e, he, rfl⟩)
    exact ⟨k, e.kp, e.val, hk⟩
  · rintro ⟨k, kp, v, hk⟩
    obtain ⟨e, he, ht⟩ := List.mem_map.1 (r.mem_triples.2 ⟨k, hk⟩)
    exact ⟨e, he, congrArg (·.2.2) ht⟩

theorem Rep.erase {m m' : MapSt} {σ : MSpec} {k : Int} {n : Nat} (r : Rep m σ) (hinv : MapInv m')
    (habs : ∀ k', absMap m'.t k' = if k' = k then none else absMap m.t k') (hnext : m'.next = m.next)
    (hids : m.t.ids.Perm (n :: m'.t.ids)) :
    n ∈ σ.live ∧ Rep m' ⟨σ.set k none, σ.next, σ.live.erase n⟩ :=
  ⟨by rw [r.live.mem_iff, hids.mem_iff]; exact List.mem_cons_self,
    hinv, fun k' => by rw [habs k']; simp only [MSpec.set, r.abs], by simp [hnext, r.next],
    by simpa using (r.live.trans hids).erase n⟩

/-- one map operation: never a NULL dereference; the step refines the specification -/
theorem mapStep_refines {m : MapSt} {σ : MSpec} (r : Rep m σ) (op : MOp) :
    ∃ m' o σ', mapStep m op = some (m', o) ∧ MSpecStep σ op o σ' ∧ Rep m' σ' := by
  cases op with
  | ins k kp v a =>
    cases ha : absMap m.t k with
    | some it =>
      refine ⟨m, .ins 1 (some it) [], σ, by simp [mapStep, mapInsert_existing r.inv kp v a ha], ?_, r⟩
      exact MSpecStep.insExisting (by rw [← r.abs, ha])
    | none =>
      cases a with
      | false =>
        refine ⟨m, .ins (-1) none [.allocFail], σ, by simp [mapStep, mapInsert_fail r.inv kp v ha], ?_, r⟩
        exact MSpecStep.insFail (by rw [← r.abs, ha])
      | true =>
        obtain ⟨m', hrun, hinv, habs, _, hnext, hids⟩ := mapInsert_new r.inv kp v ha
        have hnl : σ.next ∉ σ.live := by
          rw [← r.next, r.live.mem_iff]
          exact fun hm => Nat.lt_irrefl _ (r.inv.fresh _ hm)
        exact ⟨m', .ins 0 (some (kp, v, σ.next)) [.alloc σ.next],
          ⟨σ.set k (some (kp, v, σ.next)), σ.next + 1, σ.next :: σ.live⟩, by simp [mapStep, hrun, r.next],
          MSpecStep.insNew (by rw [← r.abs, ha]) hnl,
          hinv, fun k' => by rw [habs k']; simp only [MSpec.set, r.next, r.abs], by simp [hnext, r.next],
          by rw [← r.next]; exact (r.live.cons m.next).trans hids.symm⟩
  | find k =>
    refine ⟨m, _, σ, rfl, ?_, r⟩
    rw [mapFind_spec r.inv, r.abs]
    exact MSpecStep.find
  | erase k =>
    cases ha : absMap m.t k with
    | none =>
      refine ⟨m, .erase (-1) none [], σ, by simp [mapStep, mapErase_none r.inv ha], ?_, r⟩
      exact MSpecStep.eraseNone (by rw [← r.abs, ha])
    | some it =>
      obtain ⟨kp, v, n⟩ := it
      obtain ⟨m', hrun, hinv, habs, _, hnext, hids⟩ := mapErase_some r.inv ha
      obtain ⟨hnl, r'⟩ := r.erase hinv habs hnext hids
      exact ⟨m', .erase 0 (some (kp, v, 0)) [.free n], _, by simp [mapStep, hrun],
        MSpecStep.eraseSome (by rw [← r.abs, ha]) hnl, r'⟩
  | eraseIt k =>
    cases ha : absMap m.t k with
    | none =>
      refine ⟨m, .eraseIt none [], σ, by simp [mapStep, find_fst_of_absMap_none r.inv.strict ha], ?_, r⟩
      exact MSpecStep.eraseItNone (by rw [← r.abs, ha])
    | some it =>
      obtain ⟨e, hf, ht⟩ := find_fst_of_absMap_some r.inv.strict ha
      obtain ⟨m', hrun, hinv, habs, _, hnext, hids⟩ := mapEraseNode_spec r.inv hf
      obtain ⟨hnl, r'⟩ := r.erase hinv habs hnext hids
      subst ht
      refine ⟨m', .eraseIt (iterOf e) [.free e.id], _, by simp [mapStep, hf, hrun], ?_, r'⟩
      have := MSpecStep.eraseItSome (σ := σ) (k := k) (kp := e.kp) (v := e.val) (n := e.id)
        (by rw [← r.abs, ha]; rfl) hnl
      simpa [iterOf] using this
  | clear cb =>
    obtain ⟨es, hperm, hlog, _, _, hledger⟩ := mapClear_spec r.inv cb
    refine ⟨(mapClear m cb).1, _, ⟨fun _ => none, σ.next, []⟩, rfl, ?_, r.next ▸ Rep.empty m.next⟩
    refine MSpecStep.clear (es := es) ?_ ?_ hlog (hledger σ.live r.live)
    · exact triple_nodup ((ids_perm hperm).nodup_iff.2 r.inv.nodup)
    · exact fun it => ((hperm.map triple).mem_iff).trans r.mem_triples

theorem map_runFrom_refines (ops : List MOp) : ∀ (m : MapSt) (σ : MSpec), Rep m σ →
    ∃ m' outs σ', mapRunFrom m ops = some (m', outs) ∧ MSpecRun σ ops outs σ' ∧ Rep m' σ' := by
  induction ops with
  | nil => intro m σ r; exact ⟨m, [], σ, rfl, MSpecRun.nil, r⟩
  | cons op ops ih =>
    intro m σ r
    obtain ⟨m1, o, σ1, h1, hs1, r1⟩ := mapStep_refines r op
    obtain ⟨m2, os, σ2, h2, hs2, r2⟩ := ih m1 σ1 r1
    exact ⟨m2, o :: os, σ2, by simp [mapRunFrom, h1, h2], MSpecRun.cons hs1 hs2, r2⟩

/-- every history of insert (malloc succeeding or failing), find, erase by key,
erase by iterator and clear (with or without callback) runs without a NULL
dereference, produces exactly the outputs of the `Key → Option …` specification
(return codes, iterator contents, allocation / free / callback log), and ends
in a state that represents the specification's state -/
theorem run_refines (ops : List MOp) :
    ∃ m outs σ, mapRun ops = some (m, outs) ∧ MSpecRun MSpec.init ops outs σ ∧ Rep m σ :=
  map_runFrom_refines ops {} MSpec.init Rep.init

example : ∃ m outs, mapRun [.ins 1 2 0 true, .ins 1 3 1 true, .ins 2 4 1 false, .ins 2 4 1 true, .ins 0 0 5 true,
    .find 1, .erase 1, .eraseIt 0, .eraseIt 0, .clear true] = some (m, outs) ∧ m.size = 0 ∧ m.next = 4 :=
  ⟨_, _, rfl, rfl, rfl⟩

/-- the one-entry-per-key clause of the invariant holds of a three-entry tree and excludes a duplicate key -/
example : StrictSorted (node black (node red nil ⟨0, 1, 0, 0⟩ nil) ⟨1, 2, 2, 1⟩ (node red nil ⟨2, 3, 4, 1⟩ nil)) := by
  simp [StrictSorted]
example : ¬ StrictSorted (node black nil ⟨1, 1, 2, 0⟩ (node red nil ⟨1, 2, 3, 1⟩ nil)) := by
  simp [StrictSorted]

end Cstl.Tree
