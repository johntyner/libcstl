import Cstl.Tree.Lemmas
/-
The PRE/MID/POST/LEAF traversal: structure of the complete visit list, the
reverse direction as the forward direction of the mirrored tree, the guarded
visits `runVisits` the recursive traversal makes (the stop rule itself stands with
`StopRule` in PropsC01.lean), and clear.
-/
namespace Cstl.Tree
open Color Tree

def mirror : Tree → Tree
  | nil => nil
  | node c l e r => node c (mirror r) e (mirror l)

theorem inorder_mirror (t : Tree) : (mirror t).inorder = t.inorder.reverse := by
  induction t with
  | nil => rfl
  | node c l e r ihl ihr => simp [mirror, ihl, ihr]

theorem isNil_mirror (t : Tree) : (mirror t).isNil = t.isNil := by cases t <;> rfl

theorem isNil_iff {t : Tree} : t.isNil = true ↔ t = nil := by cases t <;> simp [Tree.isNil]

/-- a reverse traversal is the forward traversal of the mirrored tree -/
theorem events_rev (t : Tree) : events false t = events true (mirror t) := by
  induction t with
  | nil => rfl
  | node c l e r ihl ihr =>
    simp only [events, mirror, isNil_mirror, Bool.and_comm l.isNil]
    split
    · rfl
    · simp [ihl, ihr]

/-- `events` for either direction in one equation: `d` selects which child is visited first -/
theorem events_node (d : Bool) (c : Color) (l r : Tree) (e : Elem) :
    events d (node c l e r) =
      if (if d then l else r).isNil && (if d then r else l).isNil then [(e, Ord.leaf)]
      else (e, Ord.pre) :: events d (if d then l else r) ++ (e, Ord.mid) :: events d (if d then r else l) ++
        [(e, Ord.post)] := by
  cases d
  · simp only [events, Bool.false_eq_true, if_false, Bool.and_comm]
  · rfl

theorem events_mem {fwd : Bool} {t : Tree} {ev : Ev} (h : ev ∈ events fwd t) : ev.1 ∈ t.inorder := by
  induction t with
  | nil => simp [events] at h
  | node c l e r ihl ihr =>
    simp only [events] at h
    simp only [inorder_node, List.mem_append, List.mem_cons]
    split at h
    · simp only [List.mem_singleton] at h; subst h; simp
    · cases fwd <;> simp only [Bool.false_eq_true, if_false, if_true, List.mem_cons, List.mem_append,
        List.not_mem_nil, or_false] at h <;> grind

/-- the visit that presents an element: MID for a non-leaf, LEAF for a leaf -/
def isML (ev : Ev) : Bool := ev.2 = Ord.mid ∨ ev.2 = Ord.leaf

theorem nil_of_isNil_and {l r : Tree} (h : (l.isNil && r.isNil) = true) :
    l = nil ∧ r = nil := by
  simp only [Bool.and_eq_true] at h
  exact ⟨isNil_iff.1 h.1, isNil_iff.1 h.2⟩

/-- the MID/LEAF visits of a forward traversal, in order, are the in-order sequence -/
theorem events_midleaf (t : Tree) : ((events true t).filter isML).map (·.1) = t.inorder := by
  induction t with
  | nil => rfl
  | node c l e r ihl ihr =>
    simp only [events]
    split
    · rename_i h
      obtain ⟨rfl, rfl⟩ := nil_of_isNil_and h
      simp [isML]
    · simp [isML, List.filter_append, ← ihl, ← ihr]

theorem events_midleaf_rev (t : Tree) : ((events false t).filter isML).map (·.1) = t.inorder.reverse := by
  rw [events_rev, events_midleaf, inorder_mirror]

/-- every element has as many PRE as MID as POST visits -/
theorem events_count (fwd : Bool) (t : Tree) (x : Elem) :
    (events fwd t).count (x, Ord.pre) = (events fwd t).count (x, Ord.mid) ∧
    (events fwd t).count (x, Ord.post) = (events fwd t).count (x, Ord.mid) := by
  induction t with
  | nil => simp [events]
  | node c l e r ihl ihr =>
    simp only [events]
    split
    · simp
    · -- in either direction each of the three counts is that of the two subtrees, plus one if `e = x`
      cases fwd
      all_goals
        simp [List.count_cons, List.count_append, ihl.1, ihl.2, ihr.1, ihr.2]
        exact Nat.add_assoc _ _ _

theorem split_append {α : Type} {xs ys A B : List α} {m : α} (h : xs ++ ys = A ++ m :: B) :
    (∃ A', xs = A ++ m :: A' ∧ B = A' ++ ys) ∨ (∃ B', ys = B' ++ m :: B ∧ A = xs ++ B') := by
  rcases List.append_eq_append_iff.1 h with ⟨a', h1, h2⟩ | ⟨c', h1, h2⟩
  · exact Or.inr ⟨a', h2, h1⟩
  · cases c' with
    | nil => exact Or.inr ⟨[], by simpa using h2.symm, by simpa using h1.symm⟩
    | cons z c'' =>
      simp only [List.cons_append, List.cons.injEq] at h2
      obtain ⟨rfl, rfl⟩ := h2
      exact Or.inl ⟨c'', h1, rfl⟩

theorem bracket_node {x e : Elem} {F S A B : List Ev}
    (ihf : ∀ A B, F = A ++ (x, Ord.mid) :: B → (x, Ord.pre) ∈ A ∧ (x, Ord.post) ∈ B)
    (ihs : ∀ A B, S = A ++ (x, Ord.mid) :: B → (x, Ord.pre) ∈ A ∧ (x, Ord.post) ∈ B)
    (h : (e, Ord.pre) :: F ++ (e, Ord.mid) :: S ++ [(e, Ord.post)] = A ++ (x, Ord.mid) :: B) :
    (x, Ord.pre) ∈ A ∧ (x, Ord.post) ∈ B := by
  cases A with
  | nil => simp at h
  | cons a A' =>
    simp only [List.cons_append, List.cons.injEq, List.append_assoc] at h
    obtain ⟨rfl, h⟩ := h
    rcases split_append h with ⟨A'', h1, h2⟩ | ⟨B', h1, h2⟩
    · obtain ⟨p1, p2⟩ := ihf _ _ h1
      exact ⟨by simp [p1], by simp [h2, p2]⟩
    · cases B' with
      | nil =>
        simp only [List.nil_append, List.cons.injEq, Prod.mk.injEq] at h1
        obtain ⟨⟨rfl, _⟩, rfl⟩ := h1
        exact ⟨by simp, by simp⟩
      | cons b B'' =>
        simp only [List.cons_append, List.cons.injEq] at h1
        obtain ⟨rfl, h1⟩ := h1
        rcases split_append h1 with ⟨A'', h3, h4⟩ | ⟨B3, h3, h4⟩
        · obtain ⟨p1, p2⟩ := ihs _ _ h3
          exact ⟨by simp [h2, p1], by simp [h4, p2]⟩
        · cases B3 with
          | nil => simp at h3
          | cons b3 B4 => simp at h3

/-- a MID visit of `x` is preceded by a PRE visit of `x` and followed by a POST visit of `x` -/
theorem events_bracket (fwd : Bool) (t : Tree) (x : Elem) : ∀ A B : List Ev,
    events fwd t = A ++ (x, Ord.mid) :: B → (x, Ord.pre) ∈ A ∧ (x, Ord.post) ∈ B := by
  induction t with
  | nil => intro A B h; simp [events] at h
  | node c l e r ihl ihr =>
    intro A B h
    simp only [events] at h
    split at h
    · cases A with
      | nil => simp at h
      | cons a A' => simp at h
    · split at h
      · exact bracket_node ihl ihr h
      · exact bracket_node ihr ihl h

/-- make the listed visits one after the other (each guarded by `res == 0`) -/
def runVisits (visit : Nat → Elem → Ord → Int) : List Ev → WSt → WSt
  | [], s => s
  | ev :: rest, s => runVisits visit rest (doVisit visit ev.1 ev.2 s)

theorem runVisits_append (visit : Nat → Elem → Ord → Int) (a b : List Ev) (s : WSt) :
    runVisits visit (a ++ b) s = runVisits visit b (runVisits visit a s) := by
  induction a generalizing s with
  | nil => rfl
  | cons x a ih => simp [runVisits, ih]

theorem walk_eq_runVisits (fwd : Bool) (visit : Nat → Elem → Ord → Int) (t : Tree) :
    ∀ s, walk fwd visit t s = runVisits visit (events fwd t) s := by
  induction t with
  | nil => intro s; rfl
  | node c l e r ihl ihr =>
    simp only [walk, events]
    split
    · rename_i h
      obtain ⟨rfl, rfl⟩ := nil_of_isNil_and h
      cases fwd <;> simp [walk, runVisits]
    · cases fwd <;> simp [runVisits, runVisits_append, ihl, ihr]

theorem runVisits_done (visit : Nat → Elem → Ord → Int) (evs : List Ev) {r : Int} (pre : List Ev) (hr : r ≠ 0) :
    runVisits visit evs (r, pre) = (r, pre) := by
  induction evs with
  | nil => rfl
  | cons ev rest ih => simp [runVisits, doVisit, hr, ih]

/-- the callbacks of the subtrees, then the node's own; also for a leaf, whose only visit is the LEAF visit -/
theorem clearOrder_node (c : Color) (l : Tree) (e : Elem) (r : Tree) :
    clearOrder (node c l e r) = clearOrder l ++ clearOrder r ++ [e] := by
  simp only [clearOrder, events]
  split
  · rename_i h
    obtain ⟨rfl, rfl⟩ := nil_of_isNil_and h
    simp [events]
  · simp [List.filter_append]

/-- the callbacks of `clear` are the `cb` events of its access trace, in order -/
theorem clearTrace_cbs (t : Tree) :
    (clearTrace t).filterMap (fun ev => match ev with | .cb e => some e | .touch _ => none) = clearOrder t := by
  induction t with
  | nil => rfl
  | node c l e r ihl ihr => simp [clearTrace, clearOrder_node, List.filterMap_append, ihl, ihr]

theorem clearTrace_mem (t : Tree) (x : Elem) :
    (ClearEv.touch x ∈ clearTrace t ∨ ClearEv.cb x ∈ clearTrace t) → x ∈ t.inorder := by
  induction t with
  | nil => simp [clearTrace]
  | node c l e r ihl ihr =>
    intro h
    simp only [clearTrace, List.mem_cons, List.mem_append, List.not_mem_nil, or_false,
      ClearEv.touch.injEq, ClearEv.cb.injEq, reduceCtorEq, false_or] at h
    simp only [inorder_node, List.mem_append, List.mem_cons]
    grind

/-- once an element has been handed to the callback, `clear` does not touch it
again (elements are distinct objects: `Nodup`) -/
theorem clearTrace_no_touch_after_cb (t : Tree) (hnd : t.inorder.Nodup) (x : Elem) : ∀ A B : List ClearEv,
    clearTrace t = A ++ ClearEv.cb x :: B → ClearEv.touch x ∉ B ∧ ClearEv.cb x ∉ B := by
  induction t with
  | nil => intro A B h; simp [clearTrace] at h
  | node c l e r ihl ihr =>
    intro A B h
    simp only [inorder_node, List.nodup_append, List.nodup_cons, List.mem_cons] at hnd
    obtain ⟨hnl, ⟨her, hnr⟩, hdis⟩ := hnd
    simp only [clearTrace] at h
    cases A with
    | nil => simp at h
    | cons a A' =>
      simp only [List.cons_append, List.cons.injEq, List.append_assoc] at h
      obtain ⟨rfl, h⟩ := h
      rcases split_append h with ⟨A'', h1, h2⟩ | ⟨B', h1, h2⟩
      · obtain ⟨p1, p2⟩ := ihl hnl _ _ h1
        have hxl : x ∈ l.inorder := clearTrace_mem l x (Or.inr (by simp [h1]))
        have hxr : x ∉ r.inorder := fun hm => hdis x hxl x (Or.inr hm) rfl
        have hxe : x ≠ e := fun he => hdis x hxl e (Or.inl rfl) he
        subst h2
        simp only [List.mem_append, List.mem_cons, not_or]
        refine ⟨⟨p1, fun hm => hxr (clearTrace_mem r x (Or.inl hm)), by simp⟩,
                ⟨p2, fun hm => hxr (clearTrace_mem r x (Or.inr hm)), by simpa using hxe⟩⟩
      · rcases split_append h1 with ⟨A'', h3, h4⟩ | ⟨B3, h3, h4⟩
        · obtain ⟨p1, p2⟩ := ihr hnr _ _ h3
          have hxr : x ∈ r.inorder := clearTrace_mem r x (Or.inr (by simp [h3]))
          have hxe : x ≠ e := fun he => her (he ▸ hxr)
          subst h4
          simp only [List.mem_append, List.mem_cons, not_or]
          exact ⟨⟨p1, by simp⟩, ⟨p2, by simpa using hxe⟩⟩
        · cases B3 with
          | nil =>
            simp at h3
            obtain ⟨_, rfl⟩ := h3
            simp
          | cons b3 B4 => simp at h3

end Cstl.Tree
