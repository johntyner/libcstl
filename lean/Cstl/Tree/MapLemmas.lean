import Cstl.Tree.Order
/-
Helper lemmas for C08: strict order (= one entry per key), the abstraction of
a map's tree to a partial function on keys, the allocation ledger.
-/
namespace Cstl.Tree
open Color Tree

/-- in-order keys strictly increasing: at most one entry per key -/
def StrictSorted (t : Tree) : Prop := t.inorder.Pairwise (fun a b => a.key < b.key)

theorem StrictSorted.sorted {t : Tree} (h : StrictSorted t) : Sorted t :=
  List.Pairwise.imp (fun hab => Int.le_of_lt hab) h

theorem StrictSorted.keys_nodup {t : Tree} (h : StrictSorted t) : (t.inorder.map (·.key)).Nodup := by
  unfold List.Nodup
  rw [List.pairwise_map]
  exact List.Pairwise.imp (fun hab => Int.ne_of_lt hab) h

theorem strictSorted_of {t : Tree} (hs : Sorted t) (hn : (t.inorder.map (·.key)).Nodup) : StrictSorted t := by
  unfold List.Nodup at hn
  rw [List.pairwise_map] at hn
  exact List.Pairwise.imp (fun ⟨h1, h2⟩ => by omega) (List.Pairwise.and hs hn)

/-- the stored pointers and the node of an entry -/
def triple (e : Elem) : Nat × Nat × Nat := (e.kp, e.val, e.id)

/-- the map a tree represents: key ↦ (stored key pointer, stored value pointer, node) -/
def absMap (t : Tree) (k : Int) : Option (Nat × Nat × Nat) :=
  (t.inorder.find? (fun e => e.key == k)).map triple

theorem absMap_eq_none {t : Tree} {k : Int} : absMap t k = none ↔ ∀ e ∈ t.inorder, e.key ≠ k := by
  simp [absMap, List.find?_eq_none]

theorem find?_unique {l : List Elem} {k : Int} {e : Elem} (hp : l.Pairwise (fun a b => a.key < b.key))
    (he : e ∈ l) (hk : e.key = k) : l.find? (fun e => e.key == k) = some e := by
  induction l with
  | nil => simp at he
  | cons a l ih =>
    rw [List.pairwise_cons] at hp
    simp only [List.mem_cons] at he
    rcases he with rfl | he
    · simp [hk]
    · have := hp.1 e he
      have hne : ¬ a.key = k := by omega
      simp [hne, ih hp.2 he]

theorem absMap_eq_some {t : Tree} (hs : StrictSorted t) {k : Int} {it : Nat × Nat × Nat} :
    absMap t k = some it ↔ ∃ e ∈ t.inorder, e.key = k ∧ triple e = it := by
  constructor
  · intro h
    simp only [absMap, Option.map_eq_some_iff] at h
    obtain ⟨e, he, rfl⟩ := h
    have := List.find?_some he
    exact ⟨e, List.mem_of_find?_eq_some he, by simpa using this, rfl⟩
  · rintro ⟨e, he, hk, rfl⟩
    simp [absMap, find?_unique hs he hk]

theorem absMap_perm_cons {t t' : Tree} {x : Elem} (hs : StrictSorted t) (hs' : StrictSorted t')
    (hp : t'.inorder.Perm (x :: t.inorder)) (k : Int) :
    absMap t' k = if k = x.key then some (triple x) else absMap t k := by
  by_cases hk : k = x.key
  · rw [if_pos hk]
    exact (absMap_eq_some hs').2 ⟨x, hp.mem_iff.2 List.mem_cons_self, hk.symm, rfl⟩
  · rw [if_neg hk]
    cases hold : absMap t k with
    | none =>
      refine absMap_eq_none.2 fun e he => ?_
      rcases List.mem_cons.1 (hp.mem_iff.1 he) with rfl | he
      · exact fun h' => hk h'.symm
      · exact absMap_eq_none.1 hold e he
    | some it =>
      obtain ⟨e, he, hek, het⟩ := (absMap_eq_some hs).1 hold
      exact (absMap_eq_some hs').2 ⟨e, hp.mem_iff.2 (List.mem_cons_of_mem _ he), hek, het⟩

/-- on a one-entry-per-key tree the descent of `find` yields the entry the abstraction names -/
theorem find_eq_absMap {t : Tree} (hs : StrictSorted t) (k : Int) :
    ((find k t).1).map triple = absMap t k := by
  cases hf : (find k t).1 with
  | none =>
    have := find_none hs.sorted hf
    simp [absMap_eq_none.2 this]
  | some e =>
    obtain ⟨hm, hk⟩ := find_some hf
    simp [(absMap_eq_some hs).2 ⟨e, hm, hk, rfl⟩]

theorem find_fst_of_absMap_some {t : Tree} (hs : StrictSorted t) {k : Int} {it : Nat × Nat × Nat}
    (ha : absMap t k = some it) : ∃ e, (find k t).1 = some e ∧ triple e = it := by
  have := find_eq_absMap hs k
  rw [ha] at this
  cases hf : (find k t).1 with
  | none => simp [hf] at this
  | some e =>
    simp [hf] at this
    exact ⟨e, rfl, this⟩

theorem find_fst_of_absMap_none {t : Tree} (hs : StrictSorted t) {k : Int}
    (ha : absMap t k = none) : (find k t).1 = none := by
  have := find_eq_absMap hs k
  rw [ha] at this
  cases hf : (find k t).1 with
  | none => rfl
  | some e => simp [hf] at this

theorem triple_nodup {l : List Elem} (h : (l.map (·.id)).Nodup) : (l.map triple).Nodup := by
  have : l.map (·.id) = (l.map triple).map (fun it => it.2.2) := by simp [triple, Function.comp_def]
  rw [this] at h
  exact List.Pairwise.of_map (fun it => it.2.2) (fun a b hab heq => hab (by rw [heq])) h

/-- replay a log on the set of live blocks; `none` = an allocation of a block
that is live already or a free of a block that is not live -/
def ledger : List Nat → List MEv → Option (List Nat)
  | live, [] => some live
  | live, .alloc i :: rest => if i ∈ live then none else ledger (i :: live) rest
  | live, .free i :: rest => if i ∈ live then ledger (live.erase i) rest else none
  | live, .allocFail :: rest => ledger live rest
  | live, .cb _ _ :: rest => ledger live rest

/-- the log `clear` produces for the entries `es` -/
def clearLog (withCb : Bool) (es : List Elem) : List MEv :=
  es.flatMap fun e => if withCb then [MEv.cb e.kp e.val, MEv.free e.id] else [MEv.free e.id]

theorem ledger_clearLog (withCb : Bool) : ∀ (es : List Elem) (live : List Nat),
    live.Perm (es.map (·.id)) → (es.map (·.id)).Nodup → ledger live (clearLog withCb es) = some [] := by
  intro es
  induction es with
  | nil =>
    intro live hp _
    have : live = [] := by simpa using hp
    subst this
    rfl
  | cons e es ih =>
    intro live hp hnd
    simp only [List.map_cons, List.nodup_cons] at hnd
    have hmem : e.id ∈ live := hp.mem_iff.2 (by simp)
    have hp' : (live.erase e.id).Perm (es.map (·.id)) := by
      have := hp.erase e.id
      simpa using this
    have := ih (live.erase e.id) hp' hnd.2
    cases withCb <;> simpa [clearLog, ledger, hmem] using this

end Cstl.Tree
