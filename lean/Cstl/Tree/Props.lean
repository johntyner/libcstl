/-
Property theorems of the tree area (bintree.c, rbtree.c, map.c).

  PropsC01.lean  C01: ordered trees hold exactly the inserted-minus-erased multiset, in order
                 (binary tree and red-black tree; traversal; stop rule; histories)
                 (C15, tree part: clear_spec, clear_reinit; clearTrace_* are in Events.lean)
  PropsC02.lean  C02: red-black rules after every insert and erase; height bound; histories
  PropsSwap.lean C01/C02: histories over two trees with swap (pair of multisets; rules for both trees)
  PropsC08.lean  C08: the map keeps exactly one entry per key; allocation ledger; histories
                 (C15, map part: mapClear_spec)

Which run theorem is whose: `bt_run_refines` / `rb_run_refines` (PropsC01) the two trees against the
multiset; `run_inv`, `run_no_segv`, `run_height_bound` (PropsC02) the red-black tree;
`run_refines` (PropsC08) the MAP; `*_pair_run_*` (PropsSwap) two trees with swap.
-/
import Cstl.Tree.PropsC02
import Cstl.Tree.PropsC01
import Cstl.Tree.PropsC08
import Cstl.Tree.PropsSwap
