import Cstl.Tree.Inv
import Cstl.Tree.Lemmas
import Cstl.Tree.Safe
/-
C02 — red-black trees satisfy the red-black rules after every insert and erase.

`Inv t` (Inv.lean) is the header's wording.  The work is in Bal.lean / Inv.lean; here the property
theorems and the step lemma `rbStep_inv` the histories rest on.
-/
namespace Cstl.Tree
open Color Tree

/-- insert never dereferences NULL on a red-black tree and re-establishes the rules -/
theorem rbInsert_inv (x : Elem) {t : Tree} (h : Inv t) : ∃ t', rbInsert x t = some t' ∧ Inv t' := by
  obtain ⟨n, hb⟩ := (inv_iff_bal t).1 h
  obtain ⟨t', m, ht', hb'⟩ := finishIns_ok (ins_ok x hb)
  exact ⟨t', ht', (inv_iff_bal t').2 ⟨m, hb'⟩⟩

/-- the same for an insert whose descent starts at any node of the tree -/
theorem rbInsertAt_inv (x : Elem) {t : Tree} {hint : Nat} (h : Inv t) (hm : hint ∈ t.ids) :
    ∃ t', rbInsertAt hint x t = some (some t') ∧ Inv t' := by
  obtain ⟨n, hb⟩ := (inv_iff_bal t).1 h
  obtain ⟨res, hres⟩ := insAt_isSome x hm
  obtain ⟨t', m, ht', hb'⟩ := finishIns_ok (insAt_ok hint x hb res hres)
  exact ⟨t', by simp [rbInsertAt, hres, ht'], (inv_iff_bal t').2 ⟨m, hb'⟩⟩

/-- erase never reads the colour of a missing sibling (`sibling_exists`) and
re-establishes the rules -/
theorem rbErase_inv (k : Int) {t : Tree} (h : Inv t) :
    ∃ t' r, rbErase k t = some (t', r) ∧ Inv t' := by
  obtain ⟨n, hb⟩ := (inv_iff_bal t).1 h
  unfold rbErase
  cases hf : (find k t).1 with
  | none => exact ⟨t, none, rfl, h⟩
  | some e =>
    obtain ⟨res, hres, hok⟩ := del_ok k hb
    cases hok with
    | @full t' _ c' _ hb' hc =>
      have := hc rfl
      subst this
      exact ⟨t', some e, by simp [hres], (inv_iff_bal t').2 ⟨_, hb'⟩⟩
    | @short t' m hb' =>
      exact ⟨t'.blacken, some e, by simp [hres], (inv_iff_bal _).2 ⟨_, hb'.blacken_black⟩⟩

/-- the sibling whose colour the fix-up of the C code reads is never NULL on a red-black tree: the
model, which stops (`none`) where the code would read through NULL, does not stop -/
theorem sibling_exists (k : Int) {t : Tree} (h : Inv t) : rbErase k t ≠ none := by
  obtain ⟨t', r, ht, _⟩ := rbErase_inv k h
  simp [ht]

/-- `n` is the black height -/
theorem Inv.black_height {t : Tree} (h : Inv t) : ∃ n, 2 ^ n ≤ t.size + 1 ∧ t.height ≤ 2 * n := by
  obtain ⟨n, hb⟩ := (inv_iff_bal t).1 h
  exact ⟨n, hb.size_ge, by simpa using hb.height_le⟩

/-- `height` = nodes on the longest root-to-leaf path (what cstl_rbtree_height
reports as max), `size` = number of elements -/
theorem height_bound {t : Tree} (h : Inv t) : 2 ^ ((t.height + 1) / 2) ≤ t.size + 1 := by
  obtain ⟨n, h1, h2⟩ := h.black_height
  exact Nat.le_trans (Nat.pow_le_pow_right (by omega) (by omega)) h1

/-- the same bound in the form `height ≤ 2·log2(size+1)` -/
theorem height_log_bound {t : Tree} (h : Inv t) : 2 ^ t.height ≤ (t.size + 1) ^ 2 := by
  obtain ⟨n, h1, h2⟩ := h.black_height
  calc 2 ^ t.height ≤ 2 ^ (2 * n) := Nat.pow_le_pow_right (by omega) h2
    _ = (2 ^ n) ^ 2 := by rw [Nat.mul_comm, Nat.pow_mul]
    _ ≤ (t.size + 1) ^ 2 := Nat.pow_le_pow_left h1 2

theorem inv_nil : Inv nil := (inv_iff_bal nil).2 ⟨0, Bal.nil⟩

/-- one operation of a history: no NULL dereference, rules kept -/
theorem rbStep_inv {s : TS} (h : Inv s.t) (op : Op) :
    rbStep s op ≠ .error .segv ∧ ∀ s' o, rbStep s op = .ok (s', o) → Inv s'.t := by
  cases op with
  | ins x =>
    obtain ⟨t', ht', hi⟩ := rbInsert_inv x h
    simp only [rbStep, ht']
    split
    · exact Safe.badOp
    · exact Safe.ok hi
  | insHint x =>
    simp only [rbStep]
    split
    · exact Safe.badOp
    · cases hp : (find x.key s.t).2 with
      | none =>
        obtain ⟨t', ht', hi⟩ := rbInsert_inv x h
        simp only [ht']
        exact Safe.ok hi
      | some p =>
        obtain ⟨t', ht', hi⟩ := rbInsertAt_inv x h (find_par_id_mem hp)
        simp only [ht']
        exact Safe.ok hi
  | find k => exact Safe.ok h
  | erase k =>
    obtain ⟨t', r, ht', hi⟩ := rbErase_inv k h
    simp only [rbStep, ht']
    cases r with
    | none => exact Safe.ok h
    | some e => exact Safe.ok hi
  | foreach fwd visit => exact Safe.ok h
  | clear => exact Safe.ok inv_nil

/-- every state reachable by any history of inserts (hinted or not), finds,
erases, traversals and clears satisfies the red-black rules -/
theorem run_inv (ops : List Op) : ∀ s outs, rbRun ops = .ok (s, outs) → Inv s.t :=
  (runFrom_inv (P := fun s => Inv s.t) rbStep_inv ops {} inv_nil).2

/-- and no such history makes the code dereference NULL -/
theorem run_no_segv (ops : List Op) : rbRun ops ≠ .error .segv :=
  (runFrom_inv (P := fun s => Inv s.t) rbStep_inv ops {} inv_nil).1

/-- consequently the height bound holds in every reachable state -/
theorem run_height_bound (ops : List Op) : ∀ s outs, rbRun ops = .ok (s, outs) →
    2 ^ s.t.height ≤ (s.t.size + 1) ^ 2 :=
  fun s outs h => height_log_bound (run_inv ops s outs h)

private def e (k : Int) (i : Nat) : Elem := { key := k, id := i }

/-- a five-element tree with a red node below a black root satisfies the rules -/
example : Inv (node black (node red (node black nil (e 0 4) nil) (e 1 2) (node black nil (e 1 5) nil))
    (e 2 1) (node black nil (e 3 3) nil)) := by
  refine (inv_iff_bal _).2 ⟨2, ?_⟩
  exact Bal.black (Bal.red (Bal.black Bal.nil Bal.nil) (Bal.black Bal.nil Bal.nil)) (Bal.black Bal.nil Bal.nil)

/-- a history with duplicates, a hinted insert and erases runs to the end -/
example : ∃ s outs, rbRun [.ins (e 1 1), .ins (e 1 2), .insHint (e 0 3), .ins (e 2 4), .erase 1,
    .ins (e 1 5), .erase 0, .erase 7] = .ok (s, outs) ∧ s.t.size = 3 := by
  refine ⟨_, _, rfl, ?_⟩
  decide

/-- the rules are not trivially true: a red root, a red-red pair, unequal black heights -/
example : ¬ Inv (node red nil (e 0 1) nil) := by
  intro h; simpa [Inv, RootBlack] using h.1
example : ¬ Inv (node black (node red (node red nil (e 0 3) nil) (e 1 2) nil) (e 2 1) nil) := by
  intro h; have := h.2.1; simp [NoRedRed, Tree.isRed] at this
example : ¬ Inv (node black (node black nil (e 0 2) nil) (e 1 1) nil) := by
  intro h
  obtain ⟨n, hn⟩ := h.2.2
  have h1 := hn 2 (by simp [blackCounts])
  have h2 := hn 1 (by simp [blackCounts])
  omega

end Cstl.Tree
