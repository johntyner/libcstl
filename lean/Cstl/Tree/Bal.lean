import Cstl.Tree.Model
/-
Balance invariant of the red-black model (helper lemmas for C02).

`Bal t c n`: `t` has no red node with a red child, every path from its root to
a missing child crosses `n` black nodes, and its root has colour `c` (a missing
tree counts as black).
-/
namespace Cstl.Tree
open Color Tree

inductive Bal : Tree → Color → Nat → Prop where
  | nil : Bal nil black 0
  | red {l r : Tree} {e : Elem} {n : Nat} :
      Bal l black n → Bal r black n → Bal (node red l e r) red n
  | black {l r : Tree} {e : Elem} {n : Nat} {c₁ c₂ : Color} :
      Bal l c₁ n → Bal r c₂ n → Bal (node black l e r) black (n + 1)

theorem Bal.isBlack_of_black {t : Tree} {n : Nat} (h : Bal t Color.black n) : t.isBlack = true := by
  cases h <;> rfl

theorem Bal.isRed_of_black {t : Tree} {n : Nat} (h : Bal t Color.black n) : t.isRed = false := by
  cases h <;> rfl

theorem Bal.isRed_of_red {t : Tree} {n : Nat} (h : Bal t Color.red n) : t.isRed = true := by
  cases h; rfl

theorem Bal.blacken_red {t : Tree} {n : Nat} (h : Bal t Color.red n) : Bal t.blacken Color.black (n + 1) := by
  cases h with
  | red hl hr => exact Bal.black hl hr

theorem Bal.blacken_black {t : Tree} {n : Nat} (h : Bal t Color.black n) : Bal t.blacken Color.black n := by
  cases h with
  | nil => exact Bal.nil
  | black hl hr => exact Bal.black hl hr

/-- what `ins` hands to the parent of a subtree that satisfied `Bal _ c n` -/
inductive InsOK : InsRes → Color → Nat → Prop where
  | ok {t : Tree} {c : Color} {n : Nat} : Bal t c n → InsOK (.ok t) c n
  | newRed {l r : Tree} {x : Elem} {n : Nat} :
      Bal l black n → Bal r black n → InsOK (.newRed l x r) black n
  | rrL {a b pr : Tree} {x p : Elem} {n : Nat} :
      Bal a black n → Bal b black n → Bal pr black n → InsOK (.redRedL a x b p pr) red n
  | rrR {pl b c' : Tree} {x p : Elem} {n : Nat} :
      Bal pl black n → Bal b black n → Bal c' black n → InsOK (.redRedR pl p b x c') red n

/-- black height of a node of colour `c` over children of black height `n` -/
def bump : Color → Nat → Nat
  | black, n => n + 1
  | red, n => n

theorem Bal.node_inv {c c' : Color} {l r : Tree} {e : Elem} {n : Nat} (h : Bal (node c l e r) c' n) :
    c' = c ∧ ∃ m cl cr, n = bump c m ∧ Bal l cl m ∧ Bal r cr m ∧
      (c = Color.red → cl = Color.black ∧ cr = Color.black) := by
  cases h with
  | red hl hr => exact ⟨rfl, _, _, _, rfl, hl, hr, fun _ => ⟨rfl, rfl⟩⟩
  | black hl hr => exact ⟨rfl, _, _, _, rfl, hl, hr, by simp⟩

theorem balInsL_ok {res : InsRes} {c cl cr : Color} {m : Nat} {e : Elem} {r : Tree}
    (h : InsOK res cl m) (hr : Bal r cr m) (hcol : c = red → cl = black ∧ cr = black) :
    InsOK (balInsL c res e r) c (bump c m) := by
  cases c with
  | red =>
    obtain ⟨rfl, rfl⟩ := hcol rfl
    cases h with
    | ok ht => exact InsOK.ok (Bal.red ht hr)
    | newRed ha hb => exact InsOK.rrL ha hb hr
  | black =>
    cases h with
    | ok ht => exact InsOK.ok (Bal.black ht hr)
    | newRed ha hb => exact InsOK.ok (Bal.black (Bal.red ha hb) hr)
    | rrL ha hb hpr =>
      cases hr with
      | nil => exact InsOK.ok (Bal.black (Bal.red ha hb) (Bal.red hpr Bal.nil))
      | red h1 h2 =>
        exact InsOK.newRed (Bal.black (Bal.red ha hb) hpr) (Bal.black h1 h2)
      | black h1 h2 =>
        exact InsOK.ok (Bal.black (Bal.red ha hb) (Bal.red hpr (Bal.black h1 h2)))
    | rrR hpl hb hc =>
      cases hr with
      | nil => exact InsOK.ok (Bal.black (Bal.red hpl hb) (Bal.red hc Bal.nil))
      | red h1 h2 =>
        exact InsOK.newRed (Bal.black hpl (Bal.red hb hc)) (Bal.black h1 h2)
      | black h1 h2 =>
        exact InsOK.ok (Bal.black (Bal.red hpl hb) (Bal.red hc (Bal.black h1 h2)))

theorem balInsR_ok {res : InsRes} {c cl cr : Color} {m : Nat} {e : Elem} {l : Tree}
    (hl : Bal l cl m) (h : InsOK res cr m) (hcol : c = red → cl = black ∧ cr = black) :
    InsOK (balInsR c l e res) c (bump c m) := by
  cases c with
  | red =>
    obtain ⟨rfl, rfl⟩ := hcol rfl
    cases h with
    | ok ht => exact InsOK.ok (Bal.red hl ht)
    | newRed ha hb => exact InsOK.rrR hl ha hb
  | black =>
    cases h with
    | ok ht => exact InsOK.ok (Bal.black hl ht)
    | newRed ha hb => exact InsOK.ok (Bal.black hl (Bal.red ha hb))
    | rrL ha hb hpr =>
      cases hl with
      | nil => exact InsOK.ok (Bal.black (Bal.red Bal.nil ha) (Bal.red hb hpr))
      | red h1 h2 =>
        exact InsOK.newRed (Bal.black h1 h2) (Bal.black (Bal.red ha hb) hpr)
      | black h1 h2 =>
        exact InsOK.ok (Bal.black (Bal.red (Bal.black h1 h2) ha) (Bal.red hb hpr))
    | rrR hpl hb hc =>
      cases hl with
      | nil => exact InsOK.ok (Bal.black (Bal.red Bal.nil hpl) (Bal.red hb hc))
      | red h1 h2 =>
        exact InsOK.newRed (Bal.black h1 h2) (Bal.black hpl (Bal.red hb hc))
      | black h1 h2 =>
        exact InsOK.ok (Bal.black (Bal.red (Bal.black h1 h2) hpl) (Bal.red hb hc))

theorem ins_ok (x : Elem) : ∀ {t : Tree} {c : Color} {n : Nat}, Bal t c n → InsOK (ins x t) c n
  | nil, _, _, .nil => .newRed .nil .nil
  | node c l e r, _, _, h => by
    obtain ⟨rfl, m, cl, cr, rfl, hl, hr, hc⟩ := h.node_inv
    simp only [ins]
    split
    · exact balInsL_ok (ins_ok x hl) hr hc
    · exact balInsR_ok hl (ins_ok x hr) hc

theorem insAt_ok (hint : Nat) (x : Elem) : ∀ {t : Tree} {c : Color} {n : Nat}, Bal t c n →
    ∀ res, insAt hint x t = some res → InsOK res c n
  | nil, _, _, _, _, hres => by cases hres
  | node c l e r, _, _, h, res, hres => by
    obtain ⟨rfl, m, cl, cr, rfl, hl, hr, hc⟩ := h.node_inv
    simp only [insAt] at hres
    split at hres
    · cases hres; exact ins_ok x h
    · split at hres
      · cases hres; exact balInsL_ok (insAt_ok hint x hl _ ‹_›) hr hc
      · split at hres
        · cases hres; exact balInsR_ok hl (insAt_ok hint x hr _ ‹_›) hc
        · cases hres

theorem finishIns_ok {res : InsRes} {n : Nat} (h : InsOK res black n) :
    ∃ t' m, finishIns res = some t' ∧ Bal t' black m := by
  cases h with
  | ok ht => exact ⟨_, _, rfl, ht.blacken_black⟩
  | newRed ha hb => exact ⟨_, _, rfl, Bal.black ha hb⟩

/-- what `del` hands to the parent of a subtree that satisfied `Bal _ c n` -/
inductive DelOK : Tree × Bool → Color → Nat → Prop where
  | full {t : Tree} {c c' : Color} {n : Nat} :
      Bal t c' n → (c = black → c' = black) → DelOK (t, false) c n
  | short {t : Tree} {n : Nat} : Bal t black n → DelOK (t, true) black (n + 1)

theorem DelOK.node {c cl cr : Color} {l r : Tree} {e : Elem} {n : Nat} (hl : Bal l cl n) (hr : Bal r cr n)
    (hc : c = red → cl = black ∧ cr = black) : DelOK (node c l e r, false) c (bump c n) := by
  cases c with
  | red =>
    obtain ⟨rfl, rfl⟩ := hc rfl
    exact .full (.red hl hr) nofun
  | black => exact .full (.black hl hr) fun _ => rfl

/-- both nephews black: the sibling was painted red, a black parent passes the deficit on -/
theorem DelOK.recolour {c : Color} {t : Tree} {m : Nat} (h : Bal t black (m + 1)) :
    DelOK (t, c == black) c (bump c (m + 1)) := by
  cases c with
  | red => exact .full h nofun
  | black => exact .short h

theorem fixBL_ok {c : Color} {l r : Tree} {e : Elem} {m : Nat}
    (hl : Bal l black m) (hr : Bal r black (m + 1)) :
    ∃ res, fixBL c l e r = some res ∧ DelOK res c (bump c (m + 1)) := by
  cases hr with
  | @black wl wr we _ c₁ c₂ hwl hwr =>
    cases hwr with
    | red h1 h2 => exact ⟨_, rfl, .node (.black hl hwl) (.black h1 h2) fun _ => ⟨rfl, rfl⟩⟩
    | nil =>
      cases hwl with
      | red h1 h2 => exact ⟨_, rfl, .node (.black hl h1) (.black h2 .nil) fun _ => ⟨rfl, rfl⟩⟩
      | nil => exact ⟨_, rfl, .recolour (.black hl (.red .nil .nil))⟩
    | black h3 h4 =>
      cases hwl with
      | red h1 h2 =>
        exact ⟨_, rfl, .node (.black hl h1) (.black h2 (.black h3 h4)) fun _ => ⟨rfl, rfl⟩⟩
      | black h1 h2 => exact ⟨_, rfl, .recolour (.black hl (.red (.black h1 h2) (.black h3 h4)))⟩

theorem fixBR_ok {c : Color} {l r : Tree} {e : Elem} {m : Nat}
    (hl : Bal l black (m + 1)) (hr : Bal r black m) :
    ∃ res, fixBR c l e r = some res ∧ DelOK res c (bump c (m + 1)) := by
  cases hl with
  | @black wl wr we _ c₁ c₂ hwl hwr =>
    cases hwl with
    | red h1 h2 => exact ⟨_, rfl, .node (.black h1 h2) (.black hwr hr) fun _ => ⟨rfl, rfl⟩⟩
    | nil =>
      cases hwr with
      | red h1 h2 => exact ⟨_, rfl, .node (.black .nil h1) (.black h2 hr) fun _ => ⟨rfl, rfl⟩⟩
      | nil => exact ⟨_, rfl, .recolour (.black (.red .nil .nil) hr)⟩
    | black h3 h4 =>
      cases hwr with
      | red h1 h2 =>
        exact ⟨_, rfl, .node (.black (.black h3 h4) h1) (.black h2 hr) fun _ => ⟨rfl, rfl⟩⟩
      | black h1 h2 => exact ⟨_, rfl, .recolour (.black (.red (.black h3 h4) (.black h1 h2)) hr)⟩

/-- the sibling of a short side exists (`fixL … = some res`: the model stops where the code would read a missing
sibling) and the fix-up restores balance -/
theorem fixL_ok {c cr : Color} {l r : Tree} {e : Elem} {m : Nat}
    (hl : Bal l black m) (hr : Bal r cr (m + 1)) (hc : c = red → cr = black) :
    ∃ res, fixL c l e r = some res ∧ DelOK res c (bump c (m + 1)) := by
  cases hr with
  | @red wl wr we _ h1 h2 =>
    have hcb : c = black := by
      cases c with
      | red => exact absurd (hc rfl) (by simp)
      | black => rfl
    subst hcb
    obtain ⟨res, hres, hok⟩ := fixBL_ok (c := red) (e := e) hl h1
    cases hok with
    | @full t _ c' _ hb _ =>
      refine ⟨(node black t we wr, false), by simp [fixL, hres], ?_⟩
      exact DelOK.full (Bal.black hb h2) (by simp)
  | @black wl wr we _ c₁ c₂ h1 h2 =>
    have := fixBL_ok (c := c) (e := e) hl (Bal.black (e := we) h1 h2)
    simpa [fixL] using this

theorem fixR_ok {c cl : Color} {l r : Tree} {e : Elem} {m : Nat}
    (hl : Bal l cl (m + 1)) (hr : Bal r black m) (hc : c = red → cl = black) :
    ∃ res, fixR c l e r = some res ∧ DelOK res c (bump c (m + 1)) := by
  cases hl with
  | @red wl wr we _ h1 h2 =>
    have hcb : c = black := by
      cases c with
      | red => exact absurd (hc rfl) (by simp)
      | black => rfl
    subst hcb
    obtain ⟨res, hres, hok⟩ := fixBR_ok (c := red) (e := e) h2 hr
    cases hok with
    | @full t _ c' _ hb _ =>
      refine ⟨(node black wl we t, false), by simp [fixR, hres], ?_⟩
      exact DelOK.full (Bal.black h1 hb) (by simp)
  | @black wl wr we _ c₁ c₂ h1 h2 =>
    have := fixBR_ok (c := c) (e := e) (Bal.black (e := we) h1 h2) hr
    simpa [fixR] using this

theorem removeOne_ok {c cx : Color} {x : Tree} (hx : Bal x cx 0) :
    DelOK (removeOne c x) c (bump c 0) := by
  cases c with
  | red => exact DelOK.full hx (by simp)
  | black =>
    cases hx with
    | nil => exact DelOK.short Bal.nil
    | red h1 h2 => exact DelOK.full (Bal.black h1 h2) (by simp)

theorem afterL_ok {c cl cr : Color} {res : Tree × Bool} {e : Elem} {r : Tree} {n : Nat}
    (h : DelOK res cl n) (hr : Bal r cr n) (hc : c = red → cl = black ∧ cr = black) :
    ∃ res', afterL c e r res = some res' ∧ DelOK res' c (bump c n) := by
  cases h with
  | full ht hcc => exact ⟨_, rfl, .node ht hr fun h => ⟨hcc (hc h).1, (hc h).2⟩⟩
  | short ht => exact fixL_ok ht hr (fun h => (hc h).2)

theorem afterR_ok {c cl cr : Color} {res : Tree × Bool} {e : Elem} {l : Tree} {n : Nat}
    (hl : Bal l cl n) (h : DelOK res cr n) (hc : c = red → cl = black ∧ cr = black) :
    ∃ res', afterR c l e res = some res' ∧ DelOK res' c (bump c n) := by
  cases h with
  | full ht hcc => exact ⟨_, rfl, .node hl ht fun h => ⟨(hc h).1, hcc (hc h).2⟩⟩
  | short ht => exact fixR_ok hl ht (fun h => (hc h).1)

theorem popMin_ok : ∀ (l : Tree) {c c' : Color} {e : Elem} {r : Tree} {n : Nat},
    Bal (node c l e r) c' n →
    ∃ m res, popMin c e r l = some (m, res) ∧ DelOK res c n := by
  intro l
  induction l with
  | nil =>
    intro c c' e r n h
    obtain ⟨_, m, cl, cr, hn, hl, hr, hc⟩ := h.node_inv
    cases hl
    subst hn
    exact ⟨_, _, rfl, removeOne_ok hr⟩
  | node lc ll le lr ihl _ =>
    intro c c' e r n h
    obtain ⟨_, m, cl, cr, hn, hl, hr, hc⟩ := h.node_inv
    subst hn
    obtain ⟨hcl, _⟩ := hl.node_inv
    subst hcl
    obtain ⟨mn, res, hres, hok⟩ := ihl hl
    obtain ⟨res', hres', hok'⟩ := afterL_ok (e := e) hok hr hc
    exact ⟨mn, res', by simp [popMin, hres, hres'], hok'⟩

theorem delRoot_ok {c c' : Color} {l r : Tree} {e : Elem} {n : Nat} (h : Bal (node c l e r) c' n) :
    ∃ res, delRoot c l e r = some res ∧ DelOK res c n := by
  obtain ⟨_, m, cl, cr, hn, hl, hr, hc⟩ := h.node_inv
  subst hn
  cases l with
  | nil =>
    cases hl
    exact ⟨_, rfl, removeOne_ok hr⟩
  | node lc ll le lr =>
    cases r with
    | nil =>
      cases hr
      exact ⟨_, rfl, removeOne_ok hl⟩
    | node rc rl re rr =>
      obtain ⟨hcr, _⟩ := hr.node_inv
      subst hcr
      obtain ⟨mn, res, hres, hok⟩ := popMin_ok rl hr
      obtain ⟨res', hres', hok'⟩ := afterR_ok (e := mn) hl hok hc
      exact ⟨res', by simp [delRoot, hres, hres'], hok'⟩

theorem del_ok (k : Int) {t : Tree} {c : Color} {n : Nat} (h : Bal t c n) :
    ∃ res, del k t = some res ∧ DelOK res c n := by
  induction t generalizing c n with
  | nil =>
    cases h
    exact ⟨_, rfl, DelOK.full Bal.nil (by simp)⟩
  | node tc l e r ihl ihr =>
    obtain ⟨hc', m, cl, cr, hn, hl, hr, hc⟩ := h.node_inv
    subst hc'
    simp only [del]
    split
    · exact delRoot_ok h
    · subst hn
      split
      · obtain ⟨res, hres, hok⟩ := ihl hl
        obtain ⟨res', hres', hok'⟩ := afterL_ok (e := e) hok hr hc
        exact ⟨res', by simp [hres, hres'], hok'⟩
      · obtain ⟨res, hres, hok⟩ := ihr hr
        obtain ⟨res', hres', hok'⟩ := afterR_ok (e := e) hl hok hc
        exact ⟨res', by simp [hres, hres'], hok'⟩

theorem Bal.size_ge {t : Tree} {c : Color} {n : Nat} (h : Bal t c n) : 2 ^ n ≤ t.size + 1 := by
  induction h with
  | nil => simp [Tree.size]
  | red _ _ ihl ihr => simp only [Tree.size]; omega
  | black _ _ ihl ihr => simp only [Tree.size, Nat.pow_succ]; omega

theorem Bal.height_le {t : Tree} {c : Color} {n : Nat} (h : Bal t c n) :
    t.height ≤ 2 * n + (if c = Color.red then 1 else 0) := by
  induction h with
  | nil => simp [Tree.height]
  | red _ _ ihl ihr => simp only [Tree.height] at *; simp at *; omega
  | @black _ _ _ _ c₁ c₂ _ _ ihl ihr =>
    -- a child is at most one (red) node higher than twice its black height
    have h1 : ∀ c : Color, (if c = Color.red then 1 else 0) ≤ 1 := fun c => by split <;> omega
    have := h1 c₁
    have := h1 c₂
    simp only [Tree.height]
    omega

end Cstl.Tree
