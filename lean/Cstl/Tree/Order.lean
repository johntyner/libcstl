import Cstl.Tree.Lemmas
/-
In-order sequence of the binary-tree and red-black operations (helper lemmas
for C01 / C08): every operation changes `inorder` exactly like the
corresponding list operation; rotations and recolouring do not change it.
-/
namespace Cstl.Tree
open Color Tree

/-- in-order keys are non-decreasing -/
def Sorted (t : Tree) : Prop := t.inorder.Pairwise (fun a b => a.key ≤ b.key)

theorem btIns_inorder (x : Elem) (t : Tree) :
    ∃ l₁ l₂, t.inorder = l₁ ++ l₂ ∧ (btIns x t).inorder = l₁ ++ x :: l₂ := by
  induction t with
  | nil => exact ⟨[], [], rfl, rfl⟩
  | node c l e r ihl ihr =>
    simp only [btIns]
    split
    · obtain ⟨a, b, h1, h2⟩ := ihl
      exact ⟨a, b ++ e :: r.inorder, by simp [h1], by simp [h2]⟩
    · obtain ⟨a, b, h1, h2⟩ := ihr
      exact ⟨l.inorder ++ e :: a, b, by simp [h1], by simp [h2]⟩

theorem btIns_perm (x : Elem) (t : Tree) : (btIns x t).inorder.Perm (x :: t.inorder) := by
  obtain ⟨a, b, h1, h2⟩ := btIns_inorder x t
  rw [h1, h2]
  exact List.perm_middle

theorem mem_btIns {x a : Elem} {t : Tree} : a ∈ (btIns x t).inorder ↔ a = x ∨ a ∈ t.inorder := by
  rw [(btIns_perm x t).mem_iff]; simp

/-- the search-tree reading of `Sorted` (left-against-right follows by transitivity) -/
theorem sorted_node {c : Color} {l r : Tree} {e : Elem} :
    Sorted (node c l e r) ↔
      Sorted l ∧ Sorted r ∧ (∀ a ∈ l.inorder, a.key ≤ e.key) ∧ (∀ b ∈ r.inorder, e.key ≤ b.key) := by
  simp only [Sorted, inorder_node, List.pairwise_append, List.pairwise_cons, List.mem_cons]
  constructor
  · rintro ⟨hl, ⟨her, hr⟩, hlr⟩
    exact ⟨hl, hr, fun a ha => hlr a ha e (.inl rfl), her⟩
  · rintro ⟨hl, hr, hle, her⟩
    refine ⟨hl, ⟨her, hr⟩, fun a ha b hb => ?_⟩
    rcases hb with rfl | hb
    · exact hle a ha
    · exact Int.le_trans (hle a ha) (her b hb)

theorem Sorted.congr {t t' : Tree} (h : t'.inorder = t.inorder) (hs : Sorted t) : Sorted t' := by
  unfold Sorted; rw [h]; exact hs

theorem btIns_sorted (x : Elem) {t : Tree} (h : Sorted t) : Sorted (btIns x t) := by
  induction t with
  | nil => simp [Sorted, btIns]
  | node c l e r ihl ihr =>
    obtain ⟨hl, hr, hle, her⟩ := sorted_node.1 h
    simp only [btIns]
    split
    · next hlt =>
      refine sorted_node.2 ⟨ihl hl, hr, fun a ha => ?_, her⟩
      rcases mem_btIns.1 ha with rfl | ha
      · exact Int.le_of_lt hlt
      · exact hle a ha
    · next hge =>
      refine sorted_node.2 ⟨hl, ihr hr, hle, fun b hb => ?_⟩
      rcases mem_btIns.1 hb with rfl | hb
      · exact Int.not_lt.1 hge
      · exact her b hb

theorem findAux_some {k : Int} {t : Tree} {e : Elem} : ∀ {p : Option Elem},
    (findAux k p t).1 = some e → e ∈ t.inorder ∧ e.key = k := by
  induction t with
  | nil => intro p h; simp [findAux] at h
  | node c l e' r ihl ihr =>
    intro p h
    simp only [findAux] at h
    split at h
    · rename_i hk
      simp at h; subst h
      exact ⟨by simp, hk.symm⟩
    · split at h
      · obtain ⟨h1, h2⟩ := ihl h; exact ⟨by simp [h1], h2⟩
      · obtain ⟨h1, h2⟩ := ihr h; exact ⟨by simp [h1], h2⟩

theorem findAux_none {k : Int} {t : Tree} (hs : Sorted t) : ∀ {p : Option Elem},
    (findAux k p t).1 = none → ∀ e ∈ t.inorder, e.key ≠ k := by
  induction t with
  | nil => intro p _ e he; simp at he
  | node c l e' r ihl ihr =>
    intro p h e he
    obtain ⟨hl, hr, hle, her⟩ := sorted_node.1 hs
    simp only [findAux] at h
    simp only [inorder_node, List.mem_append, List.mem_cons] at he
    split at h
    · cases h
    · split at h
      · -- `k < e'.key`: `k` is not at the root or to its right
        rcases he with he | rfl | he
        · exact ihl hl h e he
        · omega
        · have := her e he; omega
      · rcases he with he | rfl | he
        · have := hle e he; omega
        · omega
        · exact ihr hr h e he

theorem find_some {k : Int} {t : Tree} {e : Elem} (h : (find k t).1 = some e) : e ∈ t.inorder ∧ e.key = k :=
  findAux_some h

theorem find_none {k : Int} {t : Tree} (hs : Sorted t) (h : (find k t).1 = none) : ∀ e ∈ t.inorder, e.key ≠ k :=
  findAux_none hs h

theorem btPopMin_none {t : Tree} : btPopMin t = none ↔ t = nil := by
  cases t with
  | nil => simp [btPopMin]
  | node c l e r =>
    simp only [btPopMin]
    split <;> simp

theorem btPopMin_some {t t' : Tree} {m : Elem} (h : btPopMin t = some (m, t')) : t.inorder = m :: t'.inorder := by
  induction t generalizing m t' with
  | nil => simp [btPopMin] at h
  | node c l e r ihl _ =>
    simp only [btPopMin] at h
    split at h
    · rename_i hn
      have := btPopMin_none.1 hn
      subst this
      obtain ⟨rfl, rfl⟩ := h
      simp
    · rename_i m' l' hs
      obtain ⟨rfl, rfl⟩ := h
      simp [ihl hs]

theorem btEraseRoot_inorder (c : Color) (l : Tree) (e : Elem) (r : Tree) :
    (btEraseRoot c l e r).inorder = l.inorder ++ r.inorder := by
  unfold btEraseRoot
  split
  · simp
  · split
    · rename_i hn
      have := btPopMin_none.1 hn
      subst this
      simp
    · rename_i m r' hs
      simp [btPopMin_some hs]

theorem btDel_inorder {k : Int} {t : Tree} {e : Elem} : ∀ {p : Option Elem}, (findAux k p t).1 = some e →
    ∃ l₁ l₂, t.inorder = l₁ ++ e :: l₂ ∧ (btDel k t).inorder = l₁ ++ l₂ := by
  induction t with
  | nil => intro p h; simp [findAux] at h
  | node c l e' r ihl ihr =>
    intro p h
    simp only [findAux] at h
    simp only [btDel]
    split at h
    · simp at h; subst h
      exact ⟨l.inorder, r.inorder, rfl, by simp [btEraseRoot_inorder, *]⟩
    · split at h
      · obtain ⟨a, b, h1, h2⟩ := ihl h
        exact ⟨a, b ++ e' :: r.inorder, by simp [h1], by simp [*]⟩
      · obtain ⟨a, b, h1, h2⟩ := ihr h
        exact ⟨l.inorder ++ e' :: a, b, by simp [h1], by simp [*]⟩

theorem btErase_snd (k : Int) (t : Tree) : (btErase k t).2 = (find k t).1 := by
  unfold btErase; split <;> simp [*]

theorem btErase_fst_of_none {k : Int} {t : Tree} (h : (btErase k t).2 = none) : (btErase k t).1 = t := by
  rw [btErase_snd] at h; simp [btErase, h]

@[simp] theorem InsRes.tree_ok (t : Tree) : (InsRes.ok t).tree = t := rfl

theorem balInsL_inorder (c : Color) (res : InsRes) (e : Elem) (r : Tree) :
    (balInsL c res e r).tree.inorder = res.tree.inorder ++ e :: r.inorder := by
  cases res with
  | ok t => simp [balInsL, InsRes.tree]
  | newRed a x b => cases c <;> simp [balInsL, InsRes.tree]
  | redRedL a x b p pr =>
    simp only [balInsL]
    split <;> simp [InsRes.tree]
  | redRedR pl p b x c' =>
    simp only [balInsL]
    split <;> simp [InsRes.tree]

theorem balInsR_inorder (c : Color) (l : Tree) (e : Elem) (res : InsRes) :
    (balInsR c l e res).tree.inorder = l.inorder ++ e :: res.tree.inorder := by
  cases res with
  | ok t => simp [balInsR, InsRes.tree]
  | newRed a x b => cases c <;> simp [balInsR, InsRes.tree]
  | redRedL a x b p pr =>
    simp only [balInsR]
    split <;> simp [InsRes.tree]
  | redRedR pl p b x c' =>
    simp only [balInsR]
    split <;> simp [InsRes.tree]

theorem ins_inorder (x : Elem) (t : Tree) : (ins x t).tree.inorder = (btIns x t).inorder := by
  induction t with
  | nil => simp [ins, btIns, InsRes.tree]
  | node c l e r ihl ihr =>
    simp only [ins, btIns]
    split
    · simp [balInsL_inorder, ihl]
    · simp [balInsR_inorder, ihr]

theorem finishIns_inorder {res : InsRes} {t' : Tree} (h : finishIns res = some t') :
    t'.inorder = res.tree.inorder := by
  cases res with
  | ok t => simp [finishIns] at h; subst h; simp
  | newRed a x b => simp [finishIns] at h; subst h; simp [InsRes.tree]
  | redRedL a x b p pr => simp [finishIns] at h
  | redRedR pl p b x c' => simp [finishIns] at h

theorem rbInsert_inorder {x : Elem} {t t' : Tree} (h : rbInsert x t = some t') :
    t'.inorder = (btIns x t).inorder := by
  rw [finishIns_inorder h, ins_inorder]

/-- a hint taken from `find` makes the hinted insert the plain insert -/
theorem btInsAt_findAux (x : Elem) {t : Tree} (hnd : t.ids.Nodup) : ∀ p₀ : Option Elem,
    (findAux x.key p₀ t).2 = p₀ ∨
    ∃ q, (findAux x.key p₀ t).2 = some q ∧ btInsAt q.id x t = some (btIns x t) := by
  induction t with
  | nil => intro p₀; simp [findAux]
  | node c l e r ihl ihr =>
    intro p₀
    simp only [ids_node, List.nodup_append, List.nodup_cons, List.mem_cons] at hnd
    obtain ⟨hnl, ⟨her, hnr⟩, hdis⟩ := hnd
    simp only [findAux]
    split
    · simp
    · split
      · rename_i hlt
        right
        rcases ihl hnl (some e) with h | ⟨q, hq, hi⟩
        · exact ⟨e, h, by simp [btInsAt]⟩
        · refine ⟨q, hq, ?_⟩
          simp only [btInsAt]
          split
          · rfl
          · simp [hi, btIns, hlt]
      · rename_i hge
        right
        rcases ihr hnr (some e) with h | ⟨q, hq, hi⟩
        · exact ⟨e, h, by simp [btInsAt]⟩
        · refine ⟨q, hq, ?_⟩
          have hqr : q.id ∈ r.ids := btInsAt_some_mem hi
          have hql : q.id ∉ l.ids := fun hm => hdis _ hm _ (Or.inr hqr) rfl
          simp only [btInsAt]
          split
          · rfl
          · simp [btInsAt_eq_none.2 hql, hi, btIns, hge]

theorem insAt_findAux (x : Elem) {t : Tree} (hnd : t.ids.Nodup) : ∀ p₀ : Option Elem,
    (findAux x.key p₀ t).2 = p₀ ∨
    ∃ q, (findAux x.key p₀ t).2 = some q ∧ insAt q.id x t = some (ins x t) := by
  induction t with
  | nil => intro p₀; simp [findAux]
  | node c l e r ihl ihr =>
    intro p₀
    simp only [ids_node, List.nodup_append, List.nodup_cons, List.mem_cons] at hnd
    obtain ⟨hnl, ⟨her, hnr⟩, hdis⟩ := hnd
    simp only [findAux]
    split
    · simp
    · split
      · rename_i hlt
        right
        rcases ihl hnl (some e) with h | ⟨q, hq, hi⟩
        · exact ⟨e, h, by simp [insAt]⟩
        · refine ⟨q, hq, ?_⟩
          simp only [insAt]
          split
          · rfl
          · simp [hi, ins, hlt]
      · rename_i hge
        right
        rcases ihr hnr (some e) with h | ⟨q, hq, hi⟩
        · exact ⟨e, h, by simp [insAt]⟩
        · refine ⟨q, hq, ?_⟩
          have hqr : q.id ∈ r.ids := insAt_some_mem hi
          have hql : q.id ∉ l.ids := fun hm => hdis _ hm _ (Or.inr hqr) rfl
          simp only [insAt]
          split
          · rfl
          · simp [insAt_eq_none.2 hql, hi, ins, hge]

end Cstl.Tree
