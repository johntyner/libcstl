import Cstl.Tree.PropsC01
/-
Histories over TWO trees with `swap` (C01 / C02, the swap part).

`cstl_bintree_swap` exchanges the two headers bytewise (TreeL.Tie3.swap_tie:
the translated C function is `(a, b) ↦ (b, a)`, and `swap_trees`: the trees
they root trade places); `cstl_rbtree_swap` additionally exchanges the node
offset.  At the level of the functional model a tree object is a value, so a
swap is the exchange of the pair.  The harness does exactly this
(harness/tree.c: `swap`, and `alt` = address the other object).  The driver
(Main.lean) keeps the two objects in its state and exchanges them inline for
`swap` / `alt`; it does not call `pairRun`, which exists for the theorems below.
-/
namespace Cstl.Tree
open Color Tree

inductive POp where
  | on (op : Op)
  /-- `cstl_bintree_swap` / `cstl_rbtree_swap`: the two objects trade contents -/
  | swap

/-- run a two-tree history; the outputs are those of the `on` operations -/
def pairRun (step : TS → Op → Except Stop (TS × Out)) :
    TS × TS → List POp → Except Stop ((TS × TS) × List Out)
  | s, [] => .ok (s, [])
  | s, .swap :: ops => pairRun step (s.2, s.1) ops
  | s, .on op :: ops =>
    match step s.1 op with
    | .error e => .error e
    | .ok (s1, o) =>
      match pairRun step (s1, s.2) ops with
      | .error e => .error e
      | .ok (s', os) => .ok (s', o :: os)

/-- specification: a pair of multisets; `swap` exchanges them, an operation acts on the first -/
inductive PSpecRun : List Elem × List Elem → List POp → List Out → List Elem × List Elem → Prop where
  | nil {h : List Elem × List Elem} : PSpecRun h [] [] h
  | swap {h h' : List Elem × List Elem} {ops : List POp} {os : List Out} :
      PSpecRun (h.2, h.1) ops os h' → PSpecRun h (.swap :: ops) os h'
  | on {h h' : List Elem × List Elem} {h1 : List Elem} {op : Op} {o : Out} {ops : List POp} {os : List Out} :
      SpecStep h.1 op o h1 → PSpecRun (h1, h.2) ops os h' → PSpecRun h (.on op :: ops) (o :: os) h'

theorem pairRun_on_safe {step : TS → Op → Except Stop (TS × Out)} {s : TS × TS} {op : Op} {ops : List POp}
    {Q : TS × TS → List Out → Prop}
    (h : Safe (step s.1 op) fun s1 o => Safe (pairRun step (s1, s.2) ops) fun s' os => Q s' (o :: os)) :
    Safe (pairRun step s (.on op :: ops)) Q := by
  rw [pairRun]
  split
  · next he => exact .error fun hs => h.1 (hs ▸ he)
  · next he =>
    have h' := h.2 _ _ he
    split
    · next hr => exact .error fun hs => h'.1 (hs ▸ hr)
    · next hr => exact .ok (h'.2 _ _ hr)

/-- generic lifting: a relation `P` between a tree and the multiset it holds that every single
operation maintains (and under which it never dereferences NULL) is maintained for both trees
by every two-tree history -/
theorem pairRun_refines {step : TS → Op → Except Stop (TS × Out)} {P : TS → List Elem → Prop}
    (hstep : ∀ {s held}, P s held → ∀ op,
      Safe (step s op) fun s' o => ∃ held', SpecStep held op o held' ∧ P s' held') :
    ∀ (ops : List POp) (s : TS × TS) (h : List Elem × List Elem), P s.1 h.1 → P s.2 h.2 →
      Safe (pairRun step s ops) fun s' outs => ∃ h', PSpecRun h ops outs h' ∧ P s'.1 h'.1 ∧ P s'.2 h'.2
  | [], _, h, p1, p2 => .ok ⟨h, .nil, p1, p2⟩
  | .swap :: ops, s, h, p1, p2 =>
    (pairRun_refines hstep ops (s.2, s.1) (h.2, h.1) p2 p1).mono fun _ _ ⟨h', hr, q⟩ => ⟨h', .swap hr, q⟩
  | .on op :: ops, s, h, p1, p2 =>
    pairRun_on_safe ((hstep p1 op).mono fun s1 _ ⟨h1, hsp, q1⟩ =>
      (pairRun_refines hstep ops (s1, s.2) (h1, h.2) q1 p2).mono fun _ _ ⟨h', hr, q⟩ => ⟨h', .on hsp hr, q⟩)

/-- **two binary trees with swap**: every history refines a pair of multisets -/
theorem bt_pair_run_refines (ops : List POp) :
    pairRun btStep ({}, {}) ops ≠ .error .segv ∧
    ∀ s outs, pairRun btStep ({}, {}) ops = .ok (s, outs) →
      ∃ h, PSpecRun ([], []) ops outs h ∧ Good s.1 h.1 ∧ Good s.2 h.2 :=
  pairRun_refines (P := Good) btStep_refines ops ({}, {}) ([], []) good_init good_init

/-- **two red-black trees with swap**: every history refines a pair of multisets and both trees
satisfy the red-black rules afterwards -/
theorem rb_pair_run_refines (ops : List POp) :
    pairRun rbStep ({}, {}) ops ≠ .error .segv ∧
    ∀ s outs, pairRun rbStep ({}, {}) ops = .ok (s, outs) →
      ∃ h, PSpecRun ([], []) ops outs h ∧ (Good s.1 h.1 ∧ Inv s.1.t) ∧ (Good s.2 h.2 ∧ Inv s.2.t) :=
  pairRun_refines (P := fun s held => Good s held ∧ Inv s.t) rbStep_refines_inv
    ops ({}, {}) ([], []) ⟨good_init, inv_nil⟩ ⟨good_init, inv_nil⟩

/-- consequently the red-black rules hold for both trees after every history with swaps -/
theorem rb_pair_run_inv (ops : List POp) (s : TS × TS) (outs : List Out)
    (h : pairRun rbStep ({}, {}) ops = .ok (s, outs)) : Inv s.1.t ∧ Inv s.2.t := by
  obtain ⟨_, _, q1, q2⟩ := (rb_pair_run_refines ops).2 s outs h
  exact ⟨q1.2, q2.2⟩

private def e (k : Int) (i : Nat) : Elem := { key := k, id := i }

example :
    (match pairRun rbStep ({}, {})
        [.on (.ins (e 5 1)), .on (.ins (e 3 2)), .swap, .on (.ins (e 8 3)), .swap, .on (.erase 5)] with
     | .ok (s, _) => (s.1.t.inorder.map (·.id), s.2.t.inorder.map (·.id))
     | .error _ => ([], [])) = ([2], [3]) := by decide

end Cstl.Tree
