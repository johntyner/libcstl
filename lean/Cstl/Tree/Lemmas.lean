import Cstl.Tree.Model
/-
Basic facts about the functional tree: in-order sequence, identities, the parent `find` reports, the
hinted inserts (what `find` finds is in Order.lean).
-/
namespace Cstl.Tree
open Color Tree

@[simp] theorem inorder_nil : Tree.nil.inorder = [] := rfl
@[simp] theorem inorder_node (c : Color) (l : Tree) (e : Elem) (r : Tree) :
    (node c l e r).inorder = l.inorder ++ e :: r.inorder := rfl

@[simp] theorem ids_nil : Tree.nil.ids = [] := rfl
@[simp] theorem ids_node (c : Color) (l : Tree) (e : Elem) (r : Tree) :
    (node c l e r).ids = l.ids ++ e.id :: r.ids := by simp [Tree.ids]

theorem mem_ids {t : Tree} {h : Nat} : h ∈ t.ids ↔ ∃ e ∈ t.inorder, e.id = h := by
  simp [Tree.ids]

theorem nodup_ids_node {c : Color} {l r : Tree} {e : Elem} (h : (node c l e r).ids.Nodup) :
    l.ids.Nodup ∧ r.ids.Nodup ∧ e.id ∉ l.ids ∧ e.id ∉ r.ids ∧ ∀ z ∈ l.ids, z ∉ r.ids := by
  rw [ids_node] at h
  obtain ⟨hl, hr, hd⟩ := List.nodup_append.mp h
  obtain ⟨her, hr⟩ := List.nodup_cons.mp hr
  exact ⟨hl, hr, fun hc => hd _ hc _ List.mem_cons_self rfl, her,
    fun z h1 h2 => hd z h1 z (List.mem_cons_of_mem _ h2) rfl⟩

theorem size_eq_length (t : Tree) : t.size = t.inorder.length := by
  induction t with
  | nil => rfl
  | node c l e r ihl ihr => simp [Tree.size, ihl, ihr]; omega

theorem size_of_perm_cons {t t' : Tree} {x : Elem} (hp : t'.inorder.Perm (x :: t.inorder)) : t'.size = t.size + 1 := by
  rw [size_eq_length, size_eq_length, hp.length_eq, List.length_cons]

theorem ids_perm {l : List Elem} {t : Tree} (hp : l.Perm t.inorder) : (l.map (·.id)).Perm t.ids := hp.map _

theorem ids_perm_cons {t t' : Tree} {x : Elem} (hp : t'.inorder.Perm (x :: t.inorder)) : t'.ids.Perm (x.id :: t.ids) :=
  hp.map _

theorem keys_perm_cons {t t' : Tree} {x : Elem} (hp : t'.inorder.Perm (x :: t.inorder)) :
    (t'.inorder.map (·.key)).Perm (x.key :: t.inorder.map (·.key)) := by
  simpa using hp.map (·.key)

@[simp] theorem inorder_blacken (t : Tree) : t.blacken.inorder = t.inorder := by
  cases t <;> rfl

@[simp] theorem ids_blacken (t : Tree) : t.blacken.ids = t.ids := by cases t <;> rfl

@[simp] theorem size_blacken (t : Tree) : t.blacken.size = t.size := by
  cases t <;> rfl

@[simp] theorem height_blacken (t : Tree) : t.blacken.height = t.height := by
  cases t <;> rfl

theorem findAux_par (k : Int) (t : Tree) : ∀ p : Option Elem,
    (findAux k p t).2 = p ∨ ∃ q, (findAux k p t).2 = some q ∧ q ∈ t.inorder := by
  induction t with
  | nil => intro p; simp [findAux]
  | node c l e r ihl ihr =>
    intro p
    simp only [findAux]
    split
    · simp
    · split
      · rcases ihl (some e) with h | ⟨q, hq, hm⟩
        · exact Or.inr ⟨e, h, by simp⟩
        · exact Or.inr ⟨q, hq, by simp [hm]⟩
      · rcases ihr (some e) with h | ⟨q, hq, hm⟩
        · exact Or.inr ⟨e, h, by simp⟩
        · exact Or.inr ⟨q, hq, by simp [hm]⟩

theorem find_par_mem {k : Int} {t : Tree} {p : Elem} (h : (find k t).2 = some p) : p ∈ t.inorder := by
  rcases findAux_par k t none with h' | ⟨q, hq, hm⟩
  · simp [find] at h; simp [h] at h'
  · simp [find] at h; rw [h] at hq; cases hq; exact hm

theorem find_par_id_mem {key : Int} {t : Tree} {p : Elem} (h : (find key t).2 = some p) : p.id ∈ t.ids :=
  mem_ids.2 ⟨p, find_par_mem h, rfl⟩

theorem findAux_fst (k : Int) (t : Tree) : ∀ p q : Option Elem, (findAux k p t).1 = (findAux k q t).1 := by
  induction t with
  | nil => intro p q; rfl
  | node c l e r ihl ihr =>
    intro p q
    simp only [findAux]
    split
    · rfl
    · split
      · exact ihl _ _
      · exact ihr _ _

theorem insAt_eq_none {h : Nat} {x : Elem} : ∀ {t : Tree}, insAt h x t = none ↔ h ∉ t.ids
  | nil => by simp [insAt]
  | node c l e r => by
    have ihl := insAt_eq_none (h := h) (x := x) (t := l)
    have ihr := insAt_eq_none (h := h) (x := x) (t := r)
    simp only [insAt, ids_node, List.mem_append, List.mem_cons, not_or, ← ihl, ← ihr]
    by_cases he : e.id = h
    · simp [he]
    · cases insAt h x l <;> cases insAt h x r <;> simp [he, Ne.symm he]

theorem btInsAt_eq_none {h : Nat} {x : Elem} : ∀ {t : Tree}, btInsAt h x t = none ↔ h ∉ t.ids
  | nil => by simp [btInsAt]
  | node c l e r => by
    have ihl := btInsAt_eq_none (h := h) (x := x) (t := l)
    have ihr := btInsAt_eq_none (h := h) (x := x) (t := r)
    simp only [btInsAt, ids_node, List.mem_append, List.mem_cons, not_or, ← ihl, ← ihr]
    by_cases he : e.id = h
    · simp [he]
    · cases btInsAt h x l <;> cases btInsAt h x r <;> simp [he, Ne.symm he]

theorem insAt_isSome {h : Nat} (x : Elem) {t : Tree} (hm : h ∈ t.ids) : ∃ res, insAt h x t = some res :=
  Option.ne_none_iff_exists'.1 fun hn => insAt_eq_none.1 hn hm

theorem btInsAt_isSome {h : Nat} (x : Elem) {t : Tree} (hm : h ∈ t.ids) : ∃ t', btInsAt h x t = some t' :=
  Option.ne_none_iff_exists'.1 fun hn => btInsAt_eq_none.1 hn hm

theorem btInsAt_some_mem {h : Nat} {x : Elem} {t t' : Tree} (hs : btInsAt h x t = some t') : h ∈ t.ids :=
  Classical.byContradiction fun hn => nomatch (btInsAt_eq_none.2 hn).symm.trans hs

theorem insAt_some_mem {h : Nat} {x : Elem} {t : Tree} {res : InsRes} (hs : insAt h x t = some res) : h ∈ t.ids :=
  Classical.byContradiction fun hn => nomatch (insAt_eq_none.2 hn).symm.trans hs

theorem not_mem_ids_of_perm_cons {t t' : Tree} {x : Elem} {z : Nat} (hp : t'.inorder.Perm (x :: t.inorder))
    (hzx : z ≠ x.id) (hzt : z ∉ t.ids) : z ∉ t'.ids := by
  intro hc
  obtain ⟨e, he, hid⟩ := mem_ids.1 hc
  have := hp.mem_iff.mp he
  rcases List.mem_cons.mp this with h1 | h1
  · exact hzx (by rw [← hid, h1])
  · exact hzt (mem_ids.2 ⟨e, h1, hid⟩)

theorem not_mem_ids_of_perm_erase {t t' : Tree} {x : Elem} {z : Nat} (hp : t.inorder.Perm (x :: t'.inorder))
    (hzt : z ∉ t.ids) : z ∉ t'.ids := by
  intro hc
  obtain ⟨e, he, hid⟩ := mem_ids.1 hc
  exact hzt (mem_ids.2 ⟨e, hp.mem_iff.mpr (List.mem_cons_of_mem _ he), hid⟩)

end Cstl.Tree
