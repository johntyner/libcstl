import Cstl.Tree.OrderDel
import Cstl.Tree.Events
import Cstl.Tree.History
import Cstl.Tree.PropsC02
/-
C01 — ordered trees hold exactly the inserted-minus-erased multiset, in order.

The red-black histories need `rbStep_inv` of PropsC02.lean, hence the import.
`t.inorder` is the sequence of elements a forward traversal presents; the
multiset of held elements is a list up to `List.Perm`.
-/
namespace Cstl.Tree
open Color Tree

/-- insert adds exactly the new element, keeps the order, and size follows -/
theorem btInsert_spec (x : Elem) (t : Tree) :
    (btIns x t).inorder.Perm (x :: t.inorder) ∧ (Sorted t → Sorted (btIns x t)) ∧
    (btIns x t).size = t.size + 1 :=
  ⟨btIns_perm x t, btIns_sorted x, size_of_perm_cons (btIns_perm x t)⟩

/-- a hint taken from `find` is equivalent to no hint (also among equal keys) -/
theorem btInsertAt_find_eq (x : Elem) {t : Tree} {p : Elem} (hnd : t.ids.Nodup)
    (hp : (find x.key t).2 = some p) : btInsAt p.id x t = some (btIns x t) := by
  rcases btInsAt_findAux x hnd none with h | ⟨q, hq, hi⟩
  · simp [find] at hp; rw [hp] at h; cases h
  · simp only [find] at hp; rw [hp] at hq; cases hq; exact hi

/-- find returns a held element comparing equal to the probe … -/
theorem find_found {k : Int} {t : Tree} {e : Elem} (h : (find k t).1 = some e) :
    e ∈ t.inorder ∧ e.key = k := find_some h

/-- … if and only if one is held -/
theorem find_iff {k : Int} {t : Tree} (hs : Sorted t) :
    (∃ e, (find k t).1 = some e) ↔ ∃ e ∈ t.inorder, e.key = k := by
  constructor
  · rintro ⟨e, he⟩
    exact ⟨e, find_some he⟩
  · rintro ⟨e, he, hk⟩
    cases hf : (find k t).1 with
    | some e' => exact ⟨e', rfl⟩
    | none => exact absurd hk (find_none hs hf e he)

theorem btErase_sublist (k : Int) (t : Tree) : (btErase k t).1.inorder.Sublist t.inorder := by
  unfold btErase
  split
  · exact .refl _
  · next e hf =>
    obtain ⟨a, b, h1, h2⟩ := btDel_inorder (p := none) hf
    rw [h1, h2]
    exact (List.sublist_cons_self e b).append_left a

theorem rbErase_sublist {k : Int} {t t' : Tree} {r : Option Elem} (h : rbErase k t = some (t', r)) :
    t'.inorder.Sublist t.inorder :=
  (rbErase_inorder h).1 ▸ btErase_sublist k t

/-- erase unlinks and returns exactly one held element comparing equal to the probe -/
theorem btErase_some {k : Int} {t t' : Tree} {e : Elem} (h : btErase k t = (t', some e)) :
    e ∈ t.inorder ∧ e.key = k ∧ t.inorder.Perm (e :: t'.inorder) ∧ (Sorted t → Sorted t') ∧
    t'.size + 1 = t.size := by
  have hsub : t'.inorder.Sublist t.inorder := by have := btErase_sublist k t; rwa [h] at this
  unfold btErase at h
  split at h
  · cases h
  · rename_i e' hf
    cases h
    obtain ⟨hm, hk⟩ := find_some hf
    obtain ⟨a, b, h1, h2⟩ := btDel_inorder (p := none) hf
    have hp : t.inorder.Perm (e :: (btDel k t).inorder) := by rw [h1, h2]; exact List.perm_middle
    exact ⟨hm, hk, hp, fun hs => hs.sublist hsub, (size_of_perm_cons hp).symm⟩

/-- erase of a key nobody holds returns NULL and changes nothing -/
theorem btErase_none {k : Int} {t : Tree} (hs : Sorted t) (h : (btErase k t).2 = none) :
    (∀ e ∈ t.inorder, e.key ≠ k) ∧ (btErase k t).1 = t :=
  ⟨find_none hs ((btErase_snd k t).symm.trans h), btErase_fst_of_none h⟩

theorem rbInsert_spec {x : Elem} {t t' : Tree} (h : rbInsert x t = some t') :
    t'.inorder.Perm (x :: t.inorder) ∧ (Sorted t → Sorted t') ∧ t'.size = t.size + 1 := by
  have hi := rbInsert_inorder h
  obtain ⟨h1, h2, _⟩ := btInsert_spec x t
  refine ⟨hi ▸ h1, ?_, size_of_perm_cons (hi ▸ h1)⟩
  exact fun hs => (h2 hs).congr hi

theorem rbInsertAt_find_eq (x : Elem) {t : Tree} {p : Elem} (hnd : t.ids.Nodup)
    (hp : (find x.key t).2 = some p) : rbInsertAt p.id x t = some (rbInsert x t) := by
  rcases insAt_findAux x hnd none with h | ⟨q, hq, hi⟩
  · simp [find] at hp; rw [hp] at h; cases h
  · simp only [find] at hp; rw [hp] at hq; cases hq
    simp [rbInsertAt, rbInsert, hi]

theorem rbErase_some {k : Int} {t t' : Tree} {e : Elem} (h : rbErase k t = some (t', some e)) :
    e ∈ t.inorder ∧ e.key = k ∧ t.inorder.Perm (e :: t'.inorder) ∧ (Sorted t → Sorted t') ∧
    t'.size + 1 = t.size := by
  obtain ⟨hi, hr⟩ := rbErase_inorder h
  have hb : btErase k t = ((btErase k t).1, some e) := by rw [hr]
  obtain ⟨h1, h2, h3, h4, _⟩ := btErase_some hb
  refine ⟨h1, h2, hi ▸ h3, ?_, (size_of_perm_cons (hi ▸ h3)).symm⟩
  exact fun hs => (h4 hs).congr hi

theorem rbErase_none {k : Int} {t t' : Tree} (hs : Sorted t) (h : rbErase k t = some (t', none)) :
    (∀ e ∈ t.inorder, e.key ≠ k) ∧ t' = t :=
  ⟨find_none hs (rbErase_snd h).symm, rbErase_fst_of_none h⟩

theorem rbErase_not_mem_ids {k : Int} {t t' : Tree} {r : Option Elem} {z : Nat} (h : rbErase k t = some (t', r))
    (hz : z ∉ t.ids) : z ∉ t'.ids := by
  cases r with
  | none => rwa [rbErase_fst_of_none h]
  | some e => exact not_mem_ids_of_perm_erase (rbErase_some h).2.2.1 hz

/-- result of the `i`-th visit of the complete visit list `full` (0 beyond its end) -/
def visitAt (visit : Nat → Elem → Ord → Int) (full : List Ev) (i : Nat) : Int :=
  match full[i]? with
  | some ev => visit i ev.1 ev.2
  | none => 0

/-- traversal stops at, and returns, the first non-zero visit result -/
def StopRule (visit : Nat → Elem → Ord → Int) (full : List Ev) (res : Int) (evs : List Ev) : Prop :=
  (res = 0 ∧ evs = full ∧ ∀ i, i < full.length → visitAt visit full i = 0) ∨
  (∃ k, k < full.length ∧ (∀ i, i < k → visitAt visit full i = 0) ∧ visitAt visit full k ≠ 0 ∧
    res = visitAt visit full k ∧ evs = full.take (k + 1))

theorem visitAt_append_left (visit : Nat → Elem → Ord → Int) (pre rest : List Ev) (ev : Ev) :
    visitAt visit (pre ++ ev :: rest) pre.length = visit pre.length ev.1 ev.2 := by
  simp [visitAt]

/-- the guarded visits of `rest`, made after the visits `pre` which all returned zero, obey the stop rule
of the whole list -/
theorem runVisits_stopRule (visit : Nat → Elem → Ord → Int) : ∀ (rest pre : List Ev),
    (∀ i, i < pre.length → visitAt visit (pre ++ rest) i = 0) →
    StopRule visit (pre ++ rest) (runVisits visit rest (0, pre)).1 (runVisits visit rest (0, pre)).2
  | [], pre, hz => .inl ⟨rfl, by simp [runVisits], by simpa using hz⟩
  | ev :: rest, pre, hz => by
    have hv := visitAt_append_left visit pre rest ev
    by_cases h0 : visit pre.length ev.1 ev.2 = 0
    · -- the visit is made and returns zero: it joins `pre`
      have := runVisits_stopRule visit rest (pre ++ [ev]) fun i hi => by
        rw [List.append_assoc]
        rcases Nat.lt_succ_iff_lt_or_eq.1 (by simpa using hi) with hi | rfl
        · exact hz i hi
        · exact hv.trans h0
      simpa [runVisits, doVisit, h0] using this
    · -- it returns non-zero: position `pre.length` is where the traversal stops
      have ht : (pre ++ ev :: rest).take (pre.length + 1) = pre ++ [ev] := by
        rw [List.append_cons]; exact List.take_left' (by simp)
      refine .inr ⟨pre.length, by simp, hz, hv ▸ h0, ?_, ?_⟩ <;>
        simp [runVisits, doVisit, runVisits_done _ _ _ h0, hv, ht]

theorem foreach_stop (fwd : Bool) (visit : Nat → Elem → Ord → Int) (t : Tree) :
    StopRule visit (events fwd t) (foreach fwd visit t).1 (foreach fwd visit t).2 := by
  rw [foreach, walk_eq_runVisits]
  exact runVisits_stopRule visit (events fwd t) [] nofun

/-- what the property says about a complete traversal `full` of a tree holding `held` -/
structure VisitsOK (fwd : Bool) (held : List Elem) (full : List Ev) : Prop where
  /-- every held element is presented exactly once, as a MID or a LEAF visit -/
  presented : ((full.filter isML).map (·.1)).Perm held
  /-- in non-decreasing (forward) / non-increasing (reverse) comparison order -/
  ordered : ((full.filter isML).map (·.1)).Pairwise
      (fun a b => if fwd then a.key ≤ b.key else b.key ≤ a.key)
  /-- non-leaf elements have one PRE and one POST visit, leaf elements none -/
  counts : ∀ x, full.count (x, Ord.pre) = full.count (x, Ord.mid) ∧
      full.count (x, Ord.post) = full.count (x, Ord.mid)
  /-- the PRE visit comes before, the POST visit after the MID visit -/
  bracket : ∀ x A B, full = A ++ (x, Ord.mid) :: B → (x, Ord.pre) ∈ A ∧ (x, Ord.post) ∈ B

/-- both directions, for every ordered tree (duplicates included) -/
theorem foreach_events (fwd : Bool) {t : Tree} (hs : Sorted t) : VisitsOK fwd t.inorder (events fwd t) := by
  cases fwd with
  | true =>
    refine ⟨?_, ?_, events_count true t, events_bracket true t⟩
    · rw [events_midleaf]
    · rw [events_midleaf]; simpa [Sorted] using hs
  | false =>
    refine ⟨?_, ?_, events_count false t, events_bracket false t⟩
    · rw [events_midleaf_rev]; exact List.reverse_perm _
    · rw [events_midleaf_rev, List.pairwise_reverse]; simpa [Sorted] using hs

/-- with distinct held elements each one has exactly one MID-or-LEAF visit -/
theorem foreach_once (fwd : Bool) {t : Tree} (hnd : t.inorder.Nodup) {x : Elem} (hx : x ∈ t.inorder) :
    (((events fwd t).filter isML).map (·.1)).count x = 1 := by
  have : (((events fwd t).filter isML).map (·.1)).Perm t.inorder := by
    cases fwd with
    | true => rw [events_midleaf]
    | false => rw [events_midleaf_rev]; exact List.reverse_perm _
  rw [this.count_eq]
  rw [hnd.count]; simp [hx]

/-- clear hands every held element to the callback exactly once (the container afterwards:
`clear_reinit`) -/
theorem clear_spec (t : Tree) : (clearOrder t).Perm t.inorder :=
  match t with
  | nil => .refl _
  | node c l e r => by
    rw [clearOrder_node, inorder_node, List.append_assoc]
    exact ((clear_spec l).append ((clear_spec r).append_right _)).trans
      (List.perm_append_comm.append_left _)

/-- after clear the container is in its initial state (so every theorem about
histories from the initial state applies to the reused container) -/
theorem clear_reinit (s : TS) :
    btStep s .clear = .ok ({}, .cleared (clearOrder s.t)) ∧ rbStep s .clear = .ok ({}, .cleared (clearOrder s.t)) :=
  ⟨rfl, rfl⟩

/-- abstract specification: the state is the multiset of held elements; which of
several equal elements is found / erased is not determined -/
inductive SpecStep : List Elem → Op → Out → List Elem → Prop where
  | ins {held : List Elem} {x : Elem} : x.id ∉ held.map (·.id) → SpecStep held (.ins x) .done (x :: held)
  | insHint {held : List Elem} {x : Elem} : x.id ∉ held.map (·.id) → SpecStep held (.insHint x) .done (x :: held)
  | findSome {held : List Elem} {k : Int} {e : Elem} : e ∈ held → e.key = k →
      SpecStep held (.find k) (.found (some e)) held
  | findNone {held : List Elem} {k : Int} : (∀ e ∈ held, e.key ≠ k) → SpecStep held (.find k) (.found none) held
  | eraseSome {held : List Elem} {k : Int} {e : Elem} : e ∈ held → e.key = k →
      SpecStep held (.erase k) (.erased (some e)) (held.erase e)
  | eraseNone {held : List Elem} {k : Int} : (∀ e ∈ held, e.key ≠ k) → SpecStep held (.erase k) (.erased none) held
  | foreach {held : List Elem} {fwd : Bool} {visit : Nat → Elem → Ord → Int} {res : Int} {evs full : List Ev} :
      VisitsOK fwd held full → StopRule visit full res evs →
      SpecStep held (.foreach fwd visit) (.visited res evs) held
  | clear {held cbs : List Elem} : cbs.Perm held → SpecStep held .clear (.cleared cbs) []

inductive SpecRun : List Elem → List Op → List Out → List Elem → Prop where
  | nil {held : List Elem} : SpecRun held [] [] held
  | cons {held held' held'' : List Elem} {op : Op} {o : Out} {ops : List Op} {os : List Out} :
      SpecStep held op o held' → SpecRun held' ops os held'' → SpecRun held (op :: ops) (o :: os) held''

/-- how a tree state represents the multiset `held` -/
structure Good (s : TS) (held : List Elem) : Prop where
  perm : s.t.inorder.Perm held
  sorted : Sorted s.t
  size : s.size = held.length
  distinct : (held.map (·.id)).Nodup

theorem Good.ids_nodup {s : TS} {held : List Elem} (g : Good s held) : s.t.ids.Nodup := by
  exact (g.perm.map (·.id)).nodup_iff.2 g.distinct

theorem Good.not_mem {s : TS} {held : List Elem} (g : Good s held) {x : Elem} (h : x.id ∉ s.t.ids) :
    x.id ∉ held.map (·.id) := fun hm => h ((g.perm.map (·.id)).mem_iff.2 hm)

theorem VisitsOK.of_perm {fwd : Bool} {a b : List Elem} {full : List Ev} (h : VisitsOK fwd a full) (p : a.Perm b) :
    VisitsOK fwd b full := ⟨h.presented.trans p, h.ordered, h.counts, h.bracket⟩

theorem good_insert {s : TS} {held : List Elem} (g : Good s held) {x : Elem} {t' : Tree}
    (hx : x.id ∉ s.t.ids) (hp : t'.inorder.Perm (x :: s.t.inorder)) (hs : Sorted t') :
    Good { t := t', size := s.size + 1 } (x :: held) :=
  { perm := hp.trans (g.perm.cons x)
    sorted := hs
    size := by simp [g.size]
    distinct := by simpa using ⟨by simpa using g.not_mem hx, g.distinct⟩ }

theorem good_erase {s : TS} {held : List Elem} (g : Good s held) {e : Elem} {t' : Tree}
    (hp : s.t.inorder.Perm (e :: t'.inorder)) (hs : Sorted t') (hm : e ∈ s.t.inorder) :
    Good { t := t', size := s.size - 1 } (held.erase e) := by
  have he : e ∈ held := g.perm.mem_iff.1 hm
  refine ⟨?_, hs, ?_, ?_⟩
  · have := (hp.symm.trans g.perm).erase e
    simpa using this
  · simp [g.size, List.length_erase_of_mem he]
  · exact g.distinct.sublist ((List.erase_sublist).map _)

theorem good_init : Good {} [] := ⟨by simp, by simp [Sorted], rfl, by simp⟩

theorem btStep_insHint {s : TS} (hnd : s.t.ids.Nodup) (x : Elem) : btStep s (.insHint x) = btStep s (.ins x) := by
  simp only [btStep]
  cases hp : (find x.key s.t).2 with
  | none => rfl
  | some p => simp only [btInsertAt_find_eq x hnd hp]

theorem rbStep_insHint {s : TS} (hnd : s.t.ids.Nodup) (x : Elem) : rbStep s (.insHint x) = rbStep s (.ins x) := by
  simp only [rbStep]
  cases hp : (find x.key s.t).2 with
  | none => rfl
  | some p =>
    simp only [rbInsertAt_find_eq x hnd hp]
    cases rbInsert x s.t <;> rfl

/-- one operation on the binary tree: never a NULL dereference, and the step refines the specification -/
theorem btStep_refines {s : TS} {held : List Elem} (g : Good s held) (op : Op) :
    btStep s op ≠ .error .segv ∧
    ∀ s' o, btStep s op = .ok (s', o) → ∃ held', SpecStep held op o held' ∧ Good s' held' := by
  cases op with
  | ins x =>
    simp only [btStep]
    split
    · exact Safe.badOp
    · rename_i hx
      obtain ⟨h1, h2, _⟩ := btInsert_spec x s.t
      exact Safe.ok ⟨_, .ins (g.not_mem hx), good_insert g hx h1 (h2 g.sorted)⟩
  | insHint x =>
    rw [btStep_insHint g.ids_nodup]
    simp only [btStep]
    split
    · exact Safe.badOp
    · rename_i hx
      obtain ⟨h1, h2, _⟩ := btInsert_spec x s.t
      exact Safe.ok ⟨_, .insHint (g.not_mem hx), good_insert g hx h1 (h2 g.sorted)⟩
  | find k =>
    simp only [btStep]
    cases hf : (find k s.t).1 with
    | some e =>
      obtain ⟨hm, hk⟩ := find_some hf
      exact Safe.ok ⟨_, .findSome (g.perm.mem_iff.1 hm) hk, g⟩
    | none =>
      exact Safe.ok ⟨_, .findNone fun e he => find_none g.sorted hf e (g.perm.mem_iff.2 he), g⟩
  | erase k =>
    simp only [btStep]
    cases he : btErase k s.t with
    | mk t' r =>
      cases r with
      | some e =>
        obtain ⟨hm, hk, hp, hs, _⟩ := btErase_some he
        exact Safe.ok ⟨_, .eraseSome (g.perm.mem_iff.1 hm) hk, good_erase g hp (hs g.sorted) hm⟩
      | none =>
        have := btErase_none g.sorted (by rw [he])
        exact Safe.ok ⟨_, .eraseNone fun e hm => this.1 e (g.perm.mem_iff.2 hm), g⟩
  | foreach fwd visit =>
    exact Safe.ok ⟨_, .foreach ((foreach_events fwd g.sorted).of_perm g.perm) (foreach_stop fwd visit s.t), g⟩
  | clear =>
    exact Safe.ok ⟨_, .clear ((clear_spec s.t).trans g.perm), good_init⟩

theorem Good.congr {s s' : TS} {held : List Elem} (g : Good s held)
    (ht : s'.t.inorder = s.t.inorder) (hn : s'.size = s.size) : Good s' held :=
  ⟨ht ▸ g.perm, g.sorted.congr ht, hn ▸ g.size, g.distinct⟩

/-- rotations and recolouring are invisible in the in-order sequence -/
theorem rbStep_btStep {s s' : TS} (hnd : s.t.ids.Nodup) {op : Op} {o : Out}
    (h : rbStep s op = .ok (s', o)) :
    ∃ s'', btStep s op = .ok (s'', o) ∧ s'.t.inorder = s''.t.inorder ∧ s'.size = s''.size := by
  have hins : ∀ x, rbStep s (.ins x) = .ok (s', o) →
      ∃ s'', btStep s (.ins x) = .ok (s'', o) ∧ s'.t.inorder = s''.t.inorder ∧ s'.size = s''.size := by
    intro x h
    simp only [rbStep, btStep] at h ⊢
    split
    · rw [if_pos ‹_›] at h; cases h
    · rename_i hx
      simp only [hx, if_false] at h
      split at h
      · rename_i t' ht
        cases h
        exact ⟨_, rfl, rbInsert_inorder ht, rfl⟩
      · cases h
  cases op with
  | ins x => exact hins x h
  | insHint x =>
    rw [btStep_insHint hnd]
    exact hins x (rbStep_insHint hnd x ▸ h)
  | find k => cases h; exact ⟨_, rfl, rfl, rfl⟩
  | erase k =>
    simp only [rbStep, btStep] at h ⊢
    -- the plain erase returns what the red-black erase returns
    have hb : ∀ {t' r}, rbErase k s.t = some (t', r) → btErase k s.t = ((btErase k s.t).1, r) :=
      fun he => by rw [(rbErase_inorder he).2]
    split at h
    · cases h
    · rename_i t' e he
      cases h
      rw [hb he]
      exact ⟨_, rfl, (rbErase_inorder he).1, rfl⟩
    · rename_i t' he
      cases h
      rw [hb he]
      exact ⟨_, rfl, rfl, rfl⟩
  | foreach fwd visit => cases h; exact ⟨_, rfl, rfl, rfl⟩
  | clear => cases h; exact ⟨_, rfl, rfl, rfl⟩

/-- the same for the red-black tree, given the red-black rules (C02) -/
theorem rbStep_refines {s : TS} {held : List Elem} (g : Good s held) (hi : Inv s.t) (op : Op) :
    rbStep s op ≠ .error .segv ∧
    ∀ s' o, rbStep s op = .ok (s', o) → ∃ held', SpecStep held op o held' ∧ Good s' held' := by
  refine ⟨(rbStep_inv hi op).1, fun s' o h => ?_⟩
  obtain ⟨s'', hb, ht, hn⟩ := rbStep_btStep g.ids_nodup h
  obtain ⟨held', hsp, g'⟩ := (btStep_refines g op).2 s'' o hb
  exact ⟨held', hsp, g'.congr ht hn⟩

theorem runFrom_refines {step : TS → Op → Except Stop (TS × Out)} {P : TS → List Elem → Prop}
    (hstep : ∀ {s held}, P s held → ∀ op,
      Safe (step s op) fun s' o => ∃ held', SpecStep held op o held' ∧ P s' held') :
    ∀ (ops : List Op) (s : TS) (held : List Elem), P s held →
      Safe (runFrom step s ops) fun s' outs => ∃ held', SpecRun held ops outs held' ∧ P s' held'
  | [], _, held, h => .ok ⟨held, .nil, h⟩
  | op :: ops, _, _, h => runFrom_cons_safe ((hstep h op).mono fun s1 _ ⟨held1, hs1, g1⟩ =>
      (runFrom_refines hstep ops s1 held1 g1).mono fun _ _ ⟨held2, hs2, g2⟩ => ⟨held2, .cons hs1 hs2, g2⟩)

theorem rbStep_refines_inv {s : TS} {held : List Elem} (g : Good s held ∧ Inv s.t) (op : Op) :
    Safe (rbStep s op) fun s' o => ∃ held', SpecStep held op o held' ∧ Good s' held' ∧ Inv s'.t :=
  ⟨(rbStep_inv g.2 op).1, fun s' o hs =>
    let ⟨held', hsp, g'⟩ := (rbStep_refines g.1 g.2 op).2 s' o hs
    ⟨held', hsp, g', (rbStep_inv g.2 op).2 s' o hs⟩⟩

/-- every history on a binary tree (inserts of elements not currently held,
hinted or not; finds; erases; traversals in both directions with any visit
function; clears) runs without a NULL dereference, its outputs are those the
multiset specification allows, and the final tree holds exactly the specified
multiset, in order, with the right size -/
theorem bt_run_refines (ops : List Op) :
    btRun ops ≠ .error .segv ∧
    ∀ s outs, btRun ops = .ok (s, outs) → ∃ held, SpecRun [] ops outs held ∧ Good s held :=
  runFrom_refines btStep_refines ops {} [] good_init

/-- the same for the red-black tree -/
theorem rb_run_refines (ops : List Op) :
    rbRun ops ≠ .error .segv ∧
    ∀ s outs, rbRun ops = .ok (s, outs) → ∃ held, SpecRun [] ops outs held ∧ Good s held :=
  have := runFrom_refines (P := fun s held => Good s held ∧ Inv s.t) rbStep_refines_inv ops {} []
    ⟨good_init, inv_nil⟩
  ⟨this.1, fun s outs h => let ⟨held, hr, g, _⟩ := this.2 s outs h; ⟨held, hr, g⟩⟩

/-- a history stops with `badOp` only when the caller inserts an element that
the specification says is currently held -/
theorem bt_badOp_only_if_held {s : TS} {held : List Elem} (g : Good s held) {op : Op}
    (h : btStep s op = .error .badOp) : ∃ x, (op = .ins x ∨ op = .insHint x) ∧ x.id ∈ held.map (·.id) := by
  cases op with
  | ins x =>
    simp only [btStep] at h
    split at h
    · rename_i hx
      exact ⟨x, Or.inl rfl, (g.perm.map (·.id)).mem_iff.1 hx⟩
    · cases h
  | insHint x =>
    simp only [btStep] at h
    split at h
    · rename_i hx
      exact ⟨x, Or.inr rfl, (g.perm.map (·.id)).mem_iff.1 hx⟩
    · split at h
      · cases h
      · split at h <;> cases h
  | find k => simp [btStep] at h
  | erase k =>
    simp only [btStep] at h
    split at h <;> cases h
  | foreach fwd visit => simp [btStep] at h
  | clear => simp [btStep] at h

private def e (k : Int) (i : Nat) : Elem := { key := k, id := i }

/-- a tree with duplicate keys can be ordered -/
example : Sorted (node black (node black nil (e 1 2) nil) (e 1 1) (node black (node black nil (e 1 4) nil) (e 2 3) nil)) := by
  simp [Sorted, e]

/-- a history with duplicate keys, a hinted insert, erases (two-child root included),
a stopped traversal and a clear runs through and ends empty -/
example : ∃ s outs, btRun [.ins (e 1 1), .ins (e 0 2), .ins (e 2 3), .insHint (e 1 4), .erase 1, .find 1,
    .foreach true (fun i _ _ => if i = 2 then 7 else 0), .erase 5, .clear] = .ok (s, outs) ∧ s.size = 0 :=
  ⟨_, _, rfl, rfl⟩

example : ∃ s outs, rbRun [.ins (e 1 1), .ins (e 0 2), .ins (e 2 3), .insHint (e 1 4), .erase 1, .find 1,
    .foreach false (fun i _ _ => if i = 2 then 7 else 0), .erase 5] = .ok (s, outs) ∧ s.size = 3 :=
  ⟨_, _, rfl, rfl⟩

/-- the stop rule distinguishes: a traversal that ignored a non-zero result would not satisfy it -/
example : ¬ StopRule (fun i _ _ => if i = 0 then 7 else 0) [(e 1 1, Ord.leaf), (e 2 2, Ord.leaf)] 0
    [(e 1 1, Ord.leaf), (e 2 2, Ord.leaf)] := by
  intro h
  rcases h with ⟨_, _, hz⟩ | ⟨k, _, _, hnz, hr, _⟩
  · have := hz 0 (by simp); simp [visitAt] at this
  · exact hnz hr.symm

end Cstl.Tree
