import Cstl.Tree.Order
/-
Red-black erase: the fix-up (rotations, recolouring) leaves the in-order
sequence alone, so `del` removes exactly what the plain `btDel` removes.
-/
namespace Cstl.Tree
open Color Tree

theorem fixBL_inorder {c : Color} {l r : Tree} {e : Elem} {res : Tree × Bool}
    (h : fixBL c l e r = some res) : res.1.inorder = l.inorder ++ e :: r.inorder := by
  unfold fixBL at h
  split at h
  · cases h
  · split at h
    · cases h; simp
    · split at h
      · cases h; simp
      · cases h; simp

theorem fixBR_inorder {c : Color} {l r : Tree} {e : Elem} {res : Tree × Bool}
    (h : fixBR c l e r = some res) : res.1.inorder = l.inorder ++ e :: r.inorder := by
  unfold fixBR at h
  split at h
  · cases h
  · split at h
    · cases h; simp
    · split at h
      · cases h; simp
      · cases h; simp

theorem fixL_inorder {c : Color} {l r : Tree} {e : Elem} {res : Tree × Bool}
    (h : fixL c l e r = some res) : res.1.inorder = l.inorder ++ e :: r.inorder := by
  unfold fixL at h
  split at h
  · split at h
    · rename_i p' s hp
      cases h
      simp [fixBL_inorder hp]
    · cases h
  · exact fixBL_inorder h

theorem fixR_inorder {c : Color} {l r : Tree} {e : Elem} {res : Tree × Bool}
    (h : fixR c l e r = some res) : res.1.inorder = l.inorder ++ e :: r.inorder := by
  unfold fixR at h
  split at h
  · split at h
    · rename_i p' s hp
      cases h
      simp [fixBR_inorder hp]
    · cases h
  · exact fixBR_inorder h

theorem removeOne_inorder (c : Color) (x : Tree) : (removeOne c x).1.inorder = x.inorder := by
  unfold removeOne
  cases c with
  | red => rfl
  | black => simp only []; split <;> simp

theorem afterL_inorder {c : Color} {e : Elem} {r : Tree} {res res' : Tree × Bool}
    (h : afterL c e r res = some res') : res'.1.inorder = res.1.inorder ++ e :: r.inorder := by
  obtain ⟨l', s⟩ := res
  cases s with
  | true => exact fixL_inorder h
  | false => simp [afterL] at h; subst h; simp

theorem afterR_inorder {c : Color} {e : Elem} {l : Tree} {res res' : Tree × Bool}
    (h : afterR c l e res = some res') : res'.1.inorder = l.inorder ++ e :: res.1.inorder := by
  obtain ⟨r', s⟩ := res
  cases s with
  | true => exact fixR_inorder h
  | false => simp [afterR] at h; subst h; simp

theorem popMin_inorder : ∀ (l : Tree) {c : Color} {e : Elem} {r : Tree} {m : Elem} {res : Tree × Bool},
    popMin c e r l = some (m, res) → m :: res.1.inorder = l.inorder ++ e :: r.inorder := by
  intro l
  induction l with
  | nil =>
    intro c e r m res h
    simp [popMin] at h
    obtain ⟨rfl, rfl⟩ := h
    simp [removeOne_inorder]
  | node lc ll le lr ihl _ =>
    intro c e r m res h
    simp only [popMin] at h
    split at h
    · cases h
    · rename_i m' res1 hp
      split at h
      · cases h
      · rename_i res2 ha
        cases h
        have h1 := ihl hp
        have h2 := afterL_inorder ha
        rw [h2]
        rw [← List.cons_append, h1]
        simp

theorem delRoot_inorder {c : Color} {l r : Tree} {e : Elem} {res : Tree × Bool}
    (h : delRoot c l e r = some res) : res.1.inorder = l.inorder ++ r.inorder := by
  unfold delRoot at h
  split at h
  · cases h; simp [removeOne_inorder]
  · split at h
    · cases h; simp [removeOne_inorder]
    · split at h
      · cases h
      · rename_i m res1 hp
        have h1 := popMin_inorder _ hp
        have h2 := afterR_inorder h
        rw [h2, h1]
        simp

theorem del_inorder (k : Int) {t : Tree} : ∀ {res : Tree × Bool},
    del k t = some res → res.1.inorder = (btDel k t).inorder := by
  induction t with
  | nil => intro res h; simp [del] at h; subst h; rfl
  | node c l e r ihl ihr =>
    intro res h
    simp only [del] at h
    simp only [btDel]
    split at h
    · rename_i hk
      simp only [hk, if_true]
      rw [delRoot_inorder h, btEraseRoot_inorder]
    · rename_i hk
      simp only [hk, if_false]
      split at h
      · rename_i hlt
        split at h
        · cases h
        · rename_i res1 hd
          rw [afterL_inorder h, ihl hd]
          simp [hlt]
      · rename_i hge
        split at h
        · cases h
        · rename_i res1 hd
          rw [afterR_inorder h, ihr hd]
          simp [hge]

theorem rbErase_snd {k : Int} {t t' : Tree} {r : Option Elem} (h : rbErase k t = some (t', r)) : r = (find k t).1 := by
  unfold rbErase at h
  split at h
  · cases h; simp [*]
  · split at h <;> cases h; simp [*]

theorem rbErase_fst_of_none {k : Int} {t t' : Tree} (h : rbErase k t = some (t', none)) : t' = t := by
  have hf := rbErase_snd h
  simp only [rbErase, ← hf, Option.some.injEq, Prod.mk.injEq] at h
  exact h.1.symm

/-- red-black erase and plain erase agree on the in-order sequence and on the
element they return -/
theorem rbErase_inorder {k : Int} {t t' : Tree} {r : Option Elem} (h : rbErase k t = some (t', r)) :
    t'.inorder = (btErase k t).1.inorder ∧ r = (btErase k t).2 := by
  unfold rbErase at h
  unfold btErase
  split at h
  · cases h
    simp
  · split at h
    · cases h
    · rename_i t1 s hd
      cases h
      have := del_inorder k hd
      constructor
      · split <;> simp [this]
      · trivial

end Cstl.Tree
