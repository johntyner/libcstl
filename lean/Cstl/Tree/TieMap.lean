import Cstl.Gen.MapC
import Cstl.Tree.MapSem
import Cstl.Tree.Model
/-
Translator ties for src/map.c (property C08).

`Cstl/Gen/MapC.lean` is regenerated from the clang AST of the current src/map.c by
tools/c2lean_map.py on every check run (tools/areas/sortmap_tie.py); the theorems below
(hand-written, fixed) state that the map layer of Cstl/Tree/Model.lean — `mapInsert`, `mapFind`,
`mapEraseNode`, `mapErase`, `mapClear`, the functions the C08 theorems are about — is that
translation: same new state, same return code, same iterator fields, same events appended to the
log, `none` (NULL dereference inside the tree code) in the same cases.  The rbtree calls, `malloc`,
`free` and the clear callback are primitives of the translation (Cstl/Tree/MapSem.lean).

Iterators are compared by their three C fields (`CIt.flat` / `flatIter`): the model writes the end
iterator as `none`, the C object is `{NULL, NULL, NULL}`.
-/
-- this text is also checked against a freshly generated translation, where a `simp` set written
-- for the committed one may have an argument too many
set_option linter.unusedSimpArgs false
namespace Cstl.Tree.TieMap
open Cstl.Tree Cstl.Tree.MapSem Cstl.Gen.MapC

theorem iterInit_some (i : CIt) (e : Elem) :
    c_cstl_map_iterator_init i (some e) = { node := some e, key := e.kp, val := e.val } := by
  simp [c_cstl_map_iterator_init, nodeKp, nodeVal]

theorem iterInit_none (i : CIt) : c_cstl_map_iterator_init i none = CIt.end_ := by
  simp [c_cstl_map_iterator_init]

/-- `cstl_map_node_alloc`: the oracle's answer, the event, and a node carrying key and value -/
theorem nodeAlloc_tie (ok : Bool) (c : CSt) (key : KeyP) (v : Nat) :
    c_cstl_map_node_alloc ok c key v =
      if ok then
        ({ m := { c.m with next := c.m.next + 1 }, log := c.log ++ [.alloc c.m.next] },
         some { key := key.k, id := c.m.next, kp := key.p, val := v })
      else ({ c with log := c.log ++ [.allocFail] }, none) := by
  cases ok <;> simp [c_cstl_map_node_alloc, mallocP, setKey, setVal]

/-- `__cstl_map_find`: the tree's `find` at the key's value; first the parent stored through `p` -/
theorem privFind_tie (c : CSt) (key : KeyP) :
    c_priv_cstl_map_find c key = ((find key.k c.m.t).2, (find key.k c.m.t).1) := by
  simp [c_priv_cstl_map_find, rbtFindP, setKeyS, nodeUninit]

theorem mapFind_tie (m : MapSt) (log : List MEv) (k : Int) (kp : Nat) (i0 : CIt) :
    (c_cstl_map_find ⟨m, log⟩ ⟨k, kp⟩ i0).flat = flatIter (mapFind m k) := by
  simp only [c_cstl_map_find, privFind_tie, mapFind]
  cases (find k m.t).1 with
  | none => simp [iterInit_none, CIt.end_, CIt.flat, flatIter]
  | some e => simp [iterInit_some, CIt.flat, flatIter, iterOf]

/-- `cstl_map_insert`: find (remembering the parent), only then malloc, hinted rbtree insert;
return codes 1 / -1 / 0; the iterator (when the caller passed one) -/
theorem mapInsert_tie (m : MapSt) (log : List MEv) (k : Int) (kp v : Nat) (ok : Bool) (i : Option CIt) :
    (c_cstl_map_insert ok ⟨m, log⟩ ⟨k, kp⟩ v i).map
        (fun r => (r.1.m, r.2.2, r.2.1.map CIt.flat, r.1.log))
      = (mapInsert m k kp v ok).map
        (fun r => (r.1, r.2.1, i.map (fun _ => flatIter r.2.2.1), log ++ r.2.2.2)) := by
  simp only [c_cstl_map_insert, privFind_tie, mapInsert]
  cases hf : find k m.t with
  | mk fnd par =>
    cases fnd with
    | some e =>
      cases i with
      | none => simp
      | some i0 => simp [iterInit_some, derefIt, CIt.flat, flatIter, iterOf]
    | none =>
      simp only [nodeAlloc_tie, if_true]
      cases ok with
      | false =>
        cases i with
        | none => simp
        | some i0 => simp [iterInit_none, derefIt, CIt.flat, flatIter, CIt.end_]
      | true =>
        simp only [if_true, rbtInsertP]
        cases par with
        | none =>
          cases hr : rbInsert { key := k, id := m.next, kp := kp, val := v } m.t with
          | none => simp [hr]
          | some t' =>
            cases i with
            | none => simp [hr]
            | some i0 => simp [hr, iterInit_some, derefIt, CIt.flat, flatIter, iterOf]
        | some p =>
          cases hr : rbInsertAt p.id { key := k, id := m.next, kp := kp, val := v } m.t with
          | none => simp [hr]
          | some o =>
            cases o with
            | none => simp [hr]
            | some t' =>
              cases i with
              | none => simp [hr]
              | some i0 => simp [hr, iterInit_some, derefIt, CIt.flat, flatIter, iterOf]

/-- `cstl_map_erase_iterator` is `mapEraseNode` with its events appended to the log -/
theorem mapEraseNode_tie (m : MapSt) (log : List MEv) (it : CIt) (e : Elem) (h : it.node = some e) :
    c_cstl_map_erase_iterator ⟨m, log⟩ it = (mapEraseNode m e).map fun r => ⟨r.1, log ++ r.2⟩ := by
  simp only [c_cstl_map_erase_iterator, h, rbtEraseP, mapEraseNode, c_cstl_map_node_free]
  cases rbErase e.key m.t <;> simp [freeP]

theorem mapErase_tie (m : MapSt) (log : List MEv) (k : Int) (kp : Nat) (i : Option CIt) :
    (c_cstl_map_erase ⟨m, log⟩ ⟨k, kp⟩ i).map
        (fun r => (r.1.m, r.2.2, r.2.1.map CIt.flat, r.1.log))
      = (mapErase m k).map
        (fun r => (r.1, r.2.1, i.map (fun _ => flatIter r.2.2.1), log ++ r.2.2.2)) := by
  simp only [c_cstl_map_erase, c_cstl_map_find, privFind_tie, mapErase]
  cases hf : (find k m.t).1 with
  | none =>
    cases i with
    | none => simp [iterInit_none, CIt.end_]
    | some i0 => simp [iterInit_none, CIt.end_, CIt.flat, flatIter]
  | some e =>
    simp only [iterInit_some, mapEraseNode_tie m log { node := some e, key := e.kp, val := e.val } e rfl]
    cases mapEraseNode m e <;> cases i <;> simp [CIt.flat, flatIter]

/-- `__cstl_map_node_clear`: the callback (if any) sees the stored pointers, then the node is freed -/
theorem nodeClear_tie (withCb : Bool) (c : CSt) (e : Elem) :
    c_priv_cstl_map_node_clear withCb c (some e)
      = { c with log := c.log ++ (if withCb then [MEv.cb e.kp e.val, MEv.free e.id] else [MEv.free e.id]) } := by
  cases withCb <;> simp [c_priv_cstl_map_node_clear, c_cstl_map_node_free, freeP, cbP, iterInit_some]

theorem clearFold (withCb : Bool) : ∀ (l : List Elem) (c : CSt),
    l.foldl (fun c e => c_priv_cstl_map_node_clear withCb c (some e)) c
      = { c with log := c.log ++ l.flatMap fun e =>
            if withCb then [MEv.cb e.kp e.val, MEv.free e.id] else [MEv.free e.id] } := by
  intro l
  induction l with
  | nil => intro c; simp
  | cons e l ih =>
    intro c
    rw [List.foldl_cons, ih, nodeClear_tie]
    simp [List.append_assoc]

/-- `cstl_map_clear`: the log of the model's `mapClear` is the step function run over the nodes in
the order in which `cstl_rbtree_clear` (a primitive here) hands them over -/
theorem mapClear_tie (m : MapSt) (withCb : Bool) :
    mapClear m withCb =
      ({ m with t := .nil, size := 0 },
       ((clearOrder m.t).foldl (fun c e => c_priv_cstl_map_node_clear withCb c (some e)) ⟨m, []⟩).log) := by
  simp [mapClear, clearFold]

/-- non-vacuity: inserting key 5 into the empty map through the translated C function -/
theorem translated_insert_example : (c_cstl_map_insert true ⟨{}, []⟩ ⟨5, 70⟩ 80 (some {})).map (fun r => (r.2.2, r.2.1.map CIt.flat, r.1.log, r.1.m.size))
    = some (0, some (70, 80, 1), [MEv.alloc 1], 1) := by decide

end Cstl.Tree.TieMap
