import Cstl.Hash.Lemmas
import Cstl.HashL.Model
namespace Cstl.HashL
open Cstl.Hash (Stop Tr R)

theorem bind_def {α β : Type} (m : LR α) (f : α → LR β) : (m >>= f) = LR.bind m f := rfl
theorem pure_def {α : Type} (a : α) : (pure a : LR α) = LR.pure a := rfl

@[simp] theorem pure_val {α : Type} (a : α) : (pure a : LR α).val = .ok a := rfl
@[simp] theorem pure_tr {α : Type} (a : α) : (pure a : LR α).tr = {} := rfl
@[simp] theorem stop_val {α : Type} (e : Stop) : (stop e : LR α).val = .error (.stop e) := rfl
@[simp] theorem stop_tr {α : Type} (e : Stop) : (stop e : LR α).tr = {} := rfl

theorem bind_ok {α β : Type} {m : LR α} {f : α → LR β} {a : α} (h : m.val = .ok a) :
    (m >>= f).val = (f a).val ∧ (m >>= f).tr = m.tr.append (f a).tr := by
  simp [bind_def, LR.bind, h]

theorem bind_err {α β : Type} {m : LR α} {f : α → LR β} {e : LStop} (h : m.val = .error e) :
    (m >>= f).val = .error e ∧ (m >>= f).tr = m.tr := by
  simp [bind_def, LR.bind, h]

theorem LR.ext' {α : Type} {a b : LR α} (h1 : a.tr = b.tr) (h2 : a.val = b.val) : a = b := by
  cases a; cases b; simp_all

@[simp] theorem pure_bind {α β : Type} (a : α) (f : α → LR β) : (pure a >>= f) = f a := by
  show ({ tr := Tr.append {} (f a).tr, val := (f a).val } : LR β) = f a
  rw [Hash.Tr.empty_append]

theorem bind_assoc {α β γ : Type} (m : LR α) (f : α → LR β) (g : β → LR γ) :
    (m >>= f >>= g) = (m >>= fun a => f a >>= g) := by
  show LR.bind (LR.bind m f) g = LR.bind m (fun a => LR.bind (f a) g)
  unfold LR.bind
  cases m.val with
  | error e => rfl
  | ok a =>
    simp only
    cases (f a).val with
    | error e => rfl
    | ok b => simp only [Hash.Tr.append_assoc]

theorem R_pure_bind {α β : Type} (a : α) (f : α → R β) : (pure a >>= f) = f a := Hash.R_pure_bind a f

theorem R_bind_assoc {α β γ : Type} (m : R α) (f : α → R β) (g : β → R γ) :
    (m >>= f >>= g) = (m >>= fun a => f a >>= g) := Hash.R_bind_assoc m f g

def LR.Ok {α : Type} (m : LR α) (Q : α → Prop) : Prop := ∀ a, m.val = .ok a → Q a

theorem LR.Ok.pure {α : Type} {a : α} {Q : α → Prop} (h : Q a) : (Pure.pure a : LR α).Ok Q :=
  fun _ ha => Except.ok.inj ha ▸ h

theorem LR.Ok.stop {α : Type} {Q : α → Prop} (e : Stop) : (stop e : LR α).Ok Q := fun _ h => by cases h
theorem LR.Ok.hang {α : Type} {Q : α → Prop} : (hang : LR α).Ok Q := fun _ h => by cases h
theorem LR.Ok.triv {α : Type} (m : LR α) : m.Ok (fun _ => True) := fun _ _ => trivial

theorem LR.Ok.bind {α β : Type} {m : LR α} {f : α → LR β} {P : α → Prop} {Q : β → Prop}
    (hm : m.Ok P) (hf' : ∀ a, P a → (f a).Ok Q) : (m >>= f).Ok Q := by
  intro b hb
  cases hv : m.val with
  | error e => rw [(bind_err hv).1] at hb; cases hb
  | ok a => rw [(bind_ok hv).1] at hb; exact hf' a (hm a hv) b hb

theorem LR.Ok.ite {α : Type} {c : Prop} [Decidable c] {a b : LR α} {Q : α → Prop} (ha : a.Ok Q) (hb : b.Ok Q) :
    (if c then a else b).Ok Q := by
  split
  · exact ha
  · exact hb

theorem chkN_bind {α : Type} (a : Nat) (k : LR α) :
    (chkN a >>= fun _ => k) = if a = 0 then stop .nullDeref else k := by
  unfold chkN
  by_cases h : a = 0
  · rw [if_pos h, if_pos h]; rfl
  · rw [if_neg h, if_neg h, pure_bind]

end Cstl.HashL
