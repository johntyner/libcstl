import Cstl.Gen.HashLC
import Cstl.HashL.Monad
/-
Translator tie for the hash chain functions: the definitions in
`Cstl/Gen/HashLC.lean` are regenerated from /repo's src/hash.c by
tools/c2lean_hash.py on every check run; the theorems below (hand-written,
fixed) state that the hand-written link-level model functions are exactly those
translations.  A change to one of these C functions that alters its
translation makes the corresponding equality fail.
-/
namespace Cstl.HashL.Tie
open Cstl.HashL Cstl.Gen.HashLC
open Cstl.Hash (HashId Stop Call AllocEv)

variable (hf : HashId → Nat → Nat → Nat)

theorem hang_bind {α β : Type} (f : α → LR β) : ((hang : LR α) >>= f) = hang := rfl
theorem stop_bind {α β : Type} (e : Stop) (f : α → LR β) : ((stop e : LR α) >>= f) = stop e := rfl

theorem getBucket_tie (s : LS) (k : Nat) (f : Option HashId) (m : Nat) :
    c_priv_cstl_hash_get_bucket hf s k f m = getBucket hf f k m := rfl

/-- the `HASH_LIST_FOREACH` loop of `cstl_clean_bucket`: it ends with `n = nn = NULL` -/
theorem relink_tie (bk : Nat) : ∀ (fuel : Nat) (s : LS) (n nn : Nat),
    c_cstl_clean_bucket_loop1 hf bk fuel s n nn = (relink hf fuel s nn >>= fun s' => pure (s', 0, 0))
  | 0, s, n, nn => by
    simp only [c_cstl_clean_bucket_loop1, relink]
    by_cases h : nn = 0
    · subst h; simp
    · simp [h, hang_bind]
  | fuel + 1, s, n, nn => by
    simp only [c_cstl_clean_bucket_loop1, relink]
    by_cases h : nn = 0
    · subst h; simp
    · simp only [h, ne_eq, not_false_eq_true, if_true, if_false, getBucket_tie, bind_assoc]
      congr 1
      funext j
      congr 1
      funext _
      exact relink_tie bk fuel _ _ _

/-- what a tie "up to the ghost counter" compares: result / stop kind, hash-call log, allocation events -/
def obs {α : Type} (m : LR α) : Except LStop α × List Call × List AllocEv := (m.val, m.tr.calls, m.tr.evs)

theorem obs_bind_congr {α β : Type} (m : LR α) {f g : α → LR β} (h : ∀ a, obs (f a) = obs (g a)) :
    obs (m >>= f) = obs (m >>= g) := by
  cases hv : m.val with
  | error e => simp [obs, (bind_err (f := f) hv).1, (bind_err (f := f) hv).2, (bind_err (f := g) hv).1, (bind_err (f := g) hv).2]
  | ok a =>
    have := h a
    simp only [obs, Prod.mk.injEq] at this
    simp [obs, (bind_ok (f := f) hv).1, (bind_ok (f := f) hv).2, (bind_ok (f := g) hv).1, (bind_ok (f := g) hv).2,
      this.1, this.2.1, this.2.2]

theorem obs_tick {α : Type} (k : LR α) : obs (tickReloc >>= fun _ => k) = obs k := by
  have hv : (tickReloc : LR Unit).val = .ok () := rfl
  have h := bind_ok (f := fun _ => k) hv
  unfold obs
  rw [h.1, h.2]
  simp [tickReloc]

/-- `cstl_clean_bucket`: the translation is the model without its ghost relocation counter -/
theorem cleanBucket_tie (fuel : Nat) (s : LS) (bk : Nat) :
    obs (c_cstl_clean_bucket hf fuel s bk) = obs (cleanBucket hf fuel s bk) := by
  unfold c_cstl_clean_bucket cleanBucket
  refine obs_bind_congr _ (fun _ => ?_)
  by_cases h : s.t.cst ≠ s.t.bcst bk
  · rw [if_pos h, if_pos h]
    simp only [relink_tie, bind_assoc, pure_bind]
    refine obs_bind_congr _ (fun s2 => ?_)
    exact (obs_tick _).symm
  · rw [if_neg h, if_neg h]

/-- the loop of `cstl_hash_bucket_foreach`, entered with `res = 0` -/
theorem bucketForeach_loop_tie {π : Type} (visit : LS → π → Nat → LR (LS × π × Int)) :
    ∀ (fuel : Nat) (s : LS) (p : π) (n nn : Nat),
      (c_cstl_hash_bucket_foreach_loop1 visit fuel s p n nn 0 >>= fun l => pure (l.1, l.2.1, l.2.2.2.2)) =
        bucketForeach visit fuel s p nn
  | 0, s, p, n, nn => by
    simp only [c_cstl_hash_bucket_foreach_loop1, bucketForeach]
    by_cases h : nn = 0
    · subst h; simp
    · simp [h, hang_bind]
  | fuel + 1, s, p, n, nn => by
    simp only [c_cstl_hash_bucket_foreach_loop1, bucketForeach]
    by_cases h : nn = 0
    · subst h; simp
    · simp only [h, ne_eq, not_false_eq_true, if_true, if_false, bind_assoc]
      congr 1
      funext r
      by_cases hr : r.2.2 = 0
      · simp only [hr, not_true_eq_false, if_false]
        exact bucketForeach_loop_tie visit fuel _ _ _ _
      · simp [hr]

theorem bucketForeach_tie {π : Type} (visit : LS → π → Nat → LR (LS × π × Int)) (fuel : Nat) (s : LS) (n : Nat) (p : π) :
    c_cstl_hash_bucket_foreach visit fuel s n p = bucketForeach visit fuel s p n := by
  unfold c_cstl_hash_bucket_foreach
  exact bucketForeach_loop_tie visit fuel s p n n

theorem eraseVisit_tie (s : LS) (p : EraseP) (e : Nat) : c_cstl_hash_erase_visit s p e = eraseVisit s p e := by
  unfold c_cstl_hash_erase_visit eraseVisit
  split <;> rfl

/-- `cstl_hash_erase` after the keyed lookup: the walk with `cstl_hash_erase_visit`,
the splice through the pointer-to-pointer, the count -/
theorem eraseTail_tie (fuel : Nat) (s : LS) (bk e : Nat) : c_cstl_hash_erase fuel s bk e = eraseTail fuel s bk e := by
  have hv : c_cstl_hash_erase_visit = eraseVisit := by
    funext s p e; exact eraseVisit_tie s p e
  unfold c_cstl_hash_erase eraseTail
  simp only [hv, bucketForeach_tie, chkN_bind]

/-- `cstl_hash_insert` after the keyed lookup: key field, chain-head insertion, count -/
theorem insertTail_tie (s : LS) (bk k e : Nat) : c_cstl_hash_insert s bk k e = insertTail s bk k e := rfl

end Cstl.HashL.Tie
