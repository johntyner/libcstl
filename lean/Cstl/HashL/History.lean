import Cstl.HashL.Run
import Cstl.HashL.Enum
import Cstl.HashL.Geometry
import Cstl.Hash.History
import Cstl.Hash.Progress
/-
Histories at link level: two tables (so that swap is covered) over ONE memory
of `next` / `key` fields, driven by the operation lists of
`Cstl/Hash/Run.lean` (the definitions are in `Cstl/HashL/Run.lean`).  Every chain loop gets the table's element count
(`s.t.size`, what `cstl_hash_size` returns) as fuel.
-/
namespace Cstl.HashL
open Cstl.SList (upd upd_other)
open Cstl.Hash (HashId HT nodes Sys Op KOp)

variable (hf : HashId → Nat → Nat → Nat)

/-- the link-level system represents the system of the functional model: each
table is represented over the shared memory, the `key` fields are the key
memory of the functional model -/
structure RepSys (ls : LSys) (sys : Sys) : Prop where
  ra : Rep (ls.sel false) sys.a
  rb : Rep (ls.sel true) sys.b
  key : ls.keyOf = sys.key

theorem RepSys.sel {ls : LSys} {sys : Sys} (rs : RepSys ls sys) (tb : Bool) : Rep (ls.sel tb) (sys.sel tb) := by
  cases tb
  · exact rs.ra
  · exact rs.rb

theorem init_rep : Rep { nxt := fun _ => 0, keyOf := fun _ => 0, t := LT.init } HT.init := by
  refine ⟨rfl, rfl, rfl, rfl, rfl, rfl, rfl, rfl, ?_, ?_, ?_, ?_⟩ <;> intros <;> simp_all [HT.init]

theorem LSys.init_rep : RepSys LSys.init Sys.init := ⟨HashL.init_rep, HashL.init_rep, rfl⟩

theorem disj_sel {sys : Sys} (si : Hash.SysInv hf sys) (tb : Bool) {a : Nat} (h1 : Owns (sys.sel tb) a)
    (h2 : Owns (sys.sel (!tb)) a) : False := by
  obtain ⟨n, hn, rfl⟩ := owns_iff.mp h1
  obtain ⟨m, hm, e⟩ := owns_iff.mp h2
  cases tb
  · exact si.disj n hn m hm e.symm
  · exact si.disj m hm n hn e

/-- installing the result of an operation on table `tb` that wrote only `next`
fields of that table's nodes (and possibly the fields of a node `e` that is in
neither table) -/
theorem RepSys.put {ls : LSys} {sys : Sys} (rs : RepSys ls sys) (tb : Bool) {s' : LS} {t' : HT} {key' : Nat → Nat}
    (r' : Rep s' t') (hk : s'.keyOf = key')
    (hframe : ∀ a, Owns (sys.sel (!tb)) a → s'.nxt a = ls.nxt a ∧ s'.keyOf a = ls.keyOf a) :
    RepSys (ls.put tb s') { sys.put tb t' with key := key' } := by
  cases tb
  · refine ⟨r', ?_, hk⟩
    exact Rep.frame rs.rb hframe
  · refine ⟨?_, r', hk⟩
    exact Rep.frame rs.ra hframe

theorem RepSys.put_step {ls : LSys} {sys : Sys} (rs : RepSys ls sys) (si : Hash.SysInv hf sys) (tb : Bool)
    {s' : LS} {t' : HT} (st : Step (ls.sel tb) (sys.sel tb) s' t') : RepSys (ls.put tb s') (sys.put tb t') := by
  have := rs.put tb (key' := sys.key) st.rep (by rw [st.key]; exact rs.key) (fun a ha =>
    ⟨st.frame a (fun h => disj_sel hf si tb h ha), by rw [st.key]; rfl⟩)
  cases tb <;> exact this

theorem RepSys.put_inserted {ls : LSys} {sys : Sys} (rs : RepSys ls sys) (si : Hash.SysInv hf sys) (tb : Bool)
    {k e : Nat} {s' : LS} {t' : HT} (hother : ¬ Owns (sys.sel (!tb)) e)
    (ins : Inserted (ls.sel tb) (sys.sel tb) k e s' t') :
    RepSys (ls.put tb s') { sys.put tb t' with key := upd sys.key e k } := by
  refine rs.put tb ins.rep (by rw [ins.key, ← rs.key]; rfl) fun a ha => ?_
  have hae : a ≠ e := fun h => hother (h ▸ ha)
  exact ⟨ins.frame a hae (fun h => disj_sel hf si tb h ha), by rw [ins.key]; exact upd_other _ _ _ _ hae⟩

theorem fuel_ok {ls : LSys} {sys : Sys} (rs : RepSys ls sys) (si : Hash.SysInv hf sys) (tb : Bool) :
    (nodes (sys.sel tb)).length ≤ (ls.sel tb).fuel := by
  unfold LS.fuel
  rw [(rs.sel tb).size, (si.sel hf tb).size_eq]
  exact Nat.le_refl _

/-- **one operation of a history**: from a state representing `sys` (which
satisfies the system invariant), inside the documented domain, the link-level
operation simulates the operation of the functional model and the result
represents its result -/
theorem lstep_sim {ls : LSys} {sys : Sys} (rs : RepSys ls sys) (si : Hash.SysInv hf sys) (op : Op)
    (hv : Hash.Valid sys op) (hnz : NonNull op) :
    Sim (fun x y => RepSys x.1 y.1 ∧ x.2 = y.2) (lstep hf ls op) (Hash.step hf sys op) := by
  cases op with
  | insert tb k e =>
    have hno : ∀ tb', ¬ Owns (sys.sel tb') e := fun tb' h => by
      obtain ⟨n, hn, he⟩ := owns_iff.mp h
      cases tb'
      · exact hv.2.1 n hn he
      · exact hv.2.2 n hn he
    refine Sim.bind (insert_refines hf (rs.sel tb) (fuel_ok hf rs si tb) k e hnz (hno tb)) ?_
    intro s' t' ins _
    exact Sim.pure ⟨rs.put_inserted hf si tb (hno _) ins, rfl⟩
  | find tb k acc =>
    refine Sim.bind (find_refines hf (rs.sel tb) (fuel_ok hf rs si tb) k acc) ?_
    rintro ⟨s', r1, o1⟩ ⟨t', r2, o2⟩ ⟨st, he⟩ _
    simp only at st he
    cases he
    exact Sim.pure ⟨rs.put_step hf si tb st, rfl⟩
  | erase tb e =>
    have hk : sys.key e = (ls.sel tb).keyOf e := by rw [← rs.key]; rfl
    show Sim _ _ (Hash.erase hf (sys.sel tb) (sys.key e) e >>= _)
    rw [hk]
    refine Sim.bind (erase_refines hf (rs.sel tb) (fuel_ok hf rs si tb) e) ?_
    intro s' t' st _
    exact Sim.pure ⟨rs.put_step hf si tb st, rfl⟩
  | resize tb n f oracle =>
    refine Sim.bind (resize_refines hf (rs.sel tb) (fuel_ok hf rs si tb) oracle n f) ?_
    intro s' t' st _
    exact Sim.pure ⟨rs.put_step hf si tb st, rfl⟩
  | rehash tb =>
    refine Sim.bind (rehash_refines hf (rs.sel tb) (fuel_ok hf rs si tb)) ?_
    intro s' t' st _
    exact Sim.pure ⟨rs.put_step hf si tb st, rfl⟩
  | shrink tb oracle =>
    refine Sim.bind (shrink_refines hf (rs.sel tb) (fuel_ok hf rs si tb) oracle) ?_
    intro s' t' st _
    exact Sim.pure ⟨rs.put_step hf si tb st, rfl⟩
  | swap => exact Sim.pure ⟨⟨rs.rb, rs.ra, rs.key⟩, rfl⟩
  | foreach tb visit =>
    refine Sim.bind (foreach_refines hf (rs.sel tb) (si.sel hf tb) (fuel_ok hf rs si tb) visit) ?_
    rintro ⟨s', r1, o1⟩ ⟨t', r2, o2⟩ ⟨st, he⟩ _
    simp only at st he
    cases he
    exact Sim.pure ⟨rs.put_step hf si tb st, rfl⟩
  | foreachConst tb visit =>
    refine Sim.bind (foreachConst_refines hf (rs.sel tb) (fuel_ok hf rs si tb) visit) ?_
    rintro x y rfl _
    exact Sim.pure ⟨rs, rfl⟩
  | clear tb withCb =>
    refine Sim.bind (clear_refines hf (rs.sel tb) (fuel_ok hf rs si tb) withCb) ?_
    rintro ⟨s', o1⟩ ⟨t', o2⟩ ⟨st, he⟩ _
    simp only at st he
    cases he
    exact Sim.pure ⟨rs.put_step hf si tb st, rfl⟩

/-- **History theorem (refinement)**: along every history inside the documented
domain, started in a link-level state that represents `sys`, the link-level
run makes the same hash calls, relocations and allocation requests as the run
of the functional model, stops exactly when and how it stops, never runs out of
fuel, returns the same answers, and ends in a state that represents its final
state. -/
theorem lrun_sim : ∀ (ops : List Op) (ls : LSys) (sys : Sys), RepSys ls sys → Hash.SysInv hf sys →
    Hash.ValidFrom hf sys ops → NonNullAll ops →
    Sim (fun x y => RepSys x.1 y.1 ∧ x.2 = y.2) (lrun hf ls ops) (Hash.run hf sys ops)
  | [], ls, sys, rs, _, _, _ => Sim.pure ⟨rs, rfl⟩
  | op :: ops, ls, sys, rs, si, hv, hnz => by
    show Sim _ (lstep hf ls op >>= fun r => lrun hf r.1 ops >>= fun r' => pure (r'.1, r.2 :: r'.2))
      (Hash.step hf sys op >>= fun r => Hash.run hf r.1 ops >>= fun r' => pure (r'.1, r.2 :: r'.2))
    refine Sim.bind (lstep_sim hf rs si op hv.1 (hnz op (by simp))) ?_
    rintro ⟨ls1, o1⟩ ⟨sys1, o2⟩ ⟨rs1, he⟩ hval
    simp only at rs1 he
    subst he
    have si1 : Hash.SysInv hf sys1 := ((Hash.step_refines hf si op hv.1).of_ok hval).1.1
    have hv1 : Hash.ValidFrom hf sys1 ops := hv.2 sys1 o1 hval
    refine Sim.bind (lrun_sim ops ls1 sys1 rs1 si1 hv1 (fun o ho => hnz o (by simp [ho]))) ?_
    rintro ⟨ls2, os1⟩ ⟨sys2, os2⟩ ⟨rs2, he2⟩ _
    simp only at rs2 he2
    subst he2
    exact Sim.pure ⟨rs2, rfl⟩

/-- what the link level asks beside `Hash.KValid`: a non-NULL element (and freshness once more, in the
spelling the `Rep` lemmas use: `owns_iff`); the key given to `erase` is what the element's key field holds -/
def LKValid (s : LS) (t : HT) : KOp → Prop
  | .insert _ e => e ≠ 0 ∧ ¬ Owns t e
  | .find _ _ => True
  | .erase k e => s.keyOf e = k

theorem lkstep_sim {s : LS} {t : HT} (r : Rep s t) {fuel : Nat} (hfuel : (nodes t).length ≤ fuel) (op : KOp)
    (hv : LKValid s t op) :
    Sim (fun s' t' => Rep s' t' ∧ (nodes t').length ≤ (nodes t).length + 1) (lkstep hf fuel s op) (Hash.kstep hf t op) := by
  cases op with
  | insert k e =>
    exact (insert_refines hf r hfuel k e hv.1 hv.2).mono (fun _ _ h _ => ⟨h.rep, h.len⟩)
  | find k acc =>
    refine Sim.bind (find_refines hf r hfuel k acc) ?_
    rintro ⟨s', r1, o1⟩ ⟨t', r2, o2⟩ ⟨st, _⟩ _
    exact Sim.pure ⟨st.rep, Nat.le_trans st.len (Nat.le_succ _)⟩
  | erase k e =>
    have hk : s.keyOf e = k := hv
    show Sim _ (erase hf fuel s e) (Hash.erase hf t k e)
    rw [← hk]
    exact (erase_refines hf r hfuel e).mono (fun _ _ h _ => ⟨h.rep, Nat.le_trans h.len (Nat.le_succ _)⟩)

def LKValidFrom (fuel : Nat) (s : LS) (t : HT) : List KOp → Prop
  | [] => True
  | op :: ops => LKValid s t op ∧
      ∀ s' t', (lkstep hf fuel s op).val = .ok s' → (Hash.kstep hf t op).val = .ok t' → LKValidFrom fuel s' t' ops

theorem lkrun_sim (fuel : Nat) : ∀ (ops : List KOp) (s : LS) (t : HT), Rep s t → (nodes t).length + ops.length ≤ fuel →
    LKValidFrom hf fuel s t ops → Sim (fun s' t' => Rep s' t') (lkrun hf fuel s ops) (Hash.krun hf t ops)
  | [], s, t, r, _, _ => Sim.pure r
  | op :: ops, s, t, r, hfuel, hv => by
    show Sim _ (lkstep hf fuel s op >>= fun s' => lkrun hf fuel s' ops)
      (Hash.kstep hf t op >>= fun t' => Hash.krun hf t' ops)
    have hf1 : (nodes t).length ≤ fuel := by simp at hfuel; omega
    refine Sim.bind_val (lkstep_sim hf r hf1 op hv.1) ?_
    intro s' t' ⟨r', hlen⟩ hl ha
    exact lkrun_sim fuel ops s' t' r' (by simp at hfuel; omega) (hv.2 s' t' hl ha)

end Cstl.HashL
