import Cstl.SList.Model
import Cstl.Hash.Model
/-
LINK-LEVEL model of src/hash.c (area `hashl`).

`Cstl/Hash/Model.lean` keeps every bucket's chain as an abstract `List Node`.
In the C code a chain is a singly linked list through the `next` field of the
`struct cstl_hash_node` embedded in the elements, the bucket array is an array
of `{ n; cst }`, `cstl_clean_bucket` detaches a chain and relinks every node at
the head of its bucket under the pending geometry, `cstl_hash_find` walks the
links offering nodes to a callback, `cstl_hash_erase` unlinks by pointer
identity with a pointer-to-pointer walk.  This file models exactly that:

* memories `nxt : Nat → Nat` (node address → `next`, 0 = NULL) and
  `keyOf : Nat → Nat` (node address → `key`), shared by all tables;
* per table (`LT`): `head i` = `bucket.at[i].n`, `bcst i` = `bucket.at[i].cst`,
  `cap` = `bucket.capacity` (`bucket.at == NULL` iff `cap = 0`), and the scalar
  members of `struct cstl_hash`;
* one update (`setNxt`/`setKey`/`setHead`/`setBcst`/…) per C assignment, in
  the order of the C code; chain loops carry fuel (`hang` = did not finish —
  a cyclic chain); every access to `bucket.at[i]` is bounds-checked (`chk`:
  `oob` outside the array, `nullDeref` when there is no array);
* the hash functions are ONE uninterpreted `hf`; `__cstl_hash_get_bucket`
  stops with `abort` on an out-of-range result;
* `realloc` of the bucket array stays abstract (oracle, as in the existing
  model); the operations report the same trace `Tr` (hash-call log, relocated
  buckets, allocation events) as the existing model.

`Cstl/HashL/Clean.lean`, `Ops.lean`, `Geometry.lean` and `Enum.lean` prove that every
operation here refines the operation of `Cstl/Hash/Model.lean` under the abstraction
relation `Rep`; `History.lean` has the histories (`lstep_sim`, `lrun_sim`, `lkrun_sim`), `Props.lean` their
`history_*` corollaries and what follows for C04 / C19 / C17.

Core Lean only (the driver `m_hashl` links this file).
-/
namespace Cstl.HashL
open Cstl.SList (Mem upd)
open Cstl.Hash (HashId Stop Tr Call AllocEv Node mulId pickHash)

/-- a link-level operation stops like the existing model's, or does not finish -/
inductive LStop where
  | stop (e : Stop)
  | hang          -- a chain loop ran out of fuel (cyclic chain)
deriving DecidableEq, Repr, Inhabited

/-- result of a link-level operation: same trace as `Cstl.Hash.R` -/
structure LR (α : Type) where
  tr : Tr
  val : Except LStop α

namespace LR
def pure {α : Type} (a : α) : LR α := { tr := {}, val := .ok a }
def bind {α β : Type} (m : LR α) (f : α → LR β) : LR β :=
  match m.val with
  | .ok a => { tr := m.tr.append (f a).tr, val := (f a).val }
  | .error e => { tr := m.tr, val := .error e }
end LR

instance : Monad LR where
  pure := LR.pure
  bind := LR.bind

def stop {α : Type} (e : Stop) : LR α := { tr := {}, val := .error (.stop e) }
def hang {α : Type} : LR α := { tr := {}, val := .error .hang }
def logCall (c : Call) : LR Unit := { tr := { calls := [c] }, val := .ok () }
def tickReloc : LR Unit := { tr := { reloc := 1 }, val := .ok () }
def logEv (e : AllocEv) : LR Unit := { tr := { evs := [e] }, val := .ok () }

def updB (f : Nat → Bool) (a : Nat) (v : Bool) : Nat → Bool := fun x => if x = a then v else f x

/-- `struct cstl_hash` with its bucket array (the `off` member is constant and not modelled) -/
structure LT where
  head : Nat → Nat             -- bucket.at[i].n
  bcst : Nat → Bool            -- bucket.at[i].cst
  cap : Nat                    -- bucket.capacity; bucket.at == NULL iff 0
  count : Nat                  -- bucket.count
  hash : Option HashId         -- bucket.hash
  cst : Bool                   -- bucket.cst
  rhHash : Option HashId       -- bucket.rh.hash
  rhCount : Nat                -- bucket.rh.count
  clean : Nat                  -- bucket.rh.clean
  size : Nat                   -- count

/-- `cstl_hash_init` -/
def LT.init : LT :=
  { head := fun _ => 0, bcst := fun _ => false, cap := 0, count := 0, hash := none, cst := false,
    rhHash := none, rhCount := 0, clean := 0, size := 0 }

/-- the memory of the elements' hash nodes and one table -/
structure LS where
  nxt : Mem                    -- n->next
  keyOf : Mem                  -- n->key
  t : LT

namespace LS
def setNxt (s : LS) (a v : Nat) : LS := { s with nxt := upd s.nxt a v }
def setKey (s : LS) (a v : Nat) : LS := { s with keyOf := upd s.keyOf a v }
def setHead (s : LS) (i v : Nat) : LS := { s with t := { s.t with head := upd s.t.head i v } }
def setBcst (s : LS) (i : Nat) (v : Bool) : LS := { s with t := { s.t with bcst := updB s.t.bcst i v } }
def setClean (s : LS) (v : Nat) : LS := { s with t := { s.t with clean := v } }
def setSize (s : LS) (v : Nat) : LS := { s with t := { s.t with size := v } }
/-- the node at address `n` as the existing model sees it -/
def nodeOf (s : LS) (n : Nat) : Node := { key := s.keyOf n, id := n }
end LS

/-- an access to `bucket.at[i]` -/
def chk (t : LT) (i : Nat) : LR Unit :=
  if i < t.cap then pure () else if t.cap = 0 then stop .nullDeref else stop .oob

/-- a dereference of a node pointer that was loaded from memory -/
def chkN (a : Nat) : LR Unit := if a = 0 then stop .nullDeref else pure ()

section
variable (hf : HashId → Nat → Nat → Nat)

/-- a call through a `cstl_hash_func_t *` -/
def callHash (f : Option HashId) (k m : Nat) : LR Nat :=
  match f with
  | none => stop .nullDeref
  | some fn => do
    logCall { fn := fn, key := k, m := m }
    pure (hf fn k m)

/-- `__cstl_hash_get_bucket(h, k, hash, count)`: the bucket index, after the range check -/
def getBucket (f : Option HashId) (k m : Nat) : LR Nat := do
  let i ← callHash hf f k m
  if i ≥ m then stop .abort else pure i

/-- the loop of `cstl_clean_bucket`: `HASH_LIST_FOREACH(n, n, nn) { _bk = …; HASH_LIST_INSERT(_bk->n, n); }` -/
def relink : Nat → LS → Nat → LR LS
  | 0, s, n => if n = 0 then pure s else hang
  | fuel + 1, s, n =>
    if n = 0 then pure s
    else do
      let nn := s.nxt n
      let j ← getBucket hf s.t.rhHash (s.keyOf n) s.t.rhCount
      chk s.t j
      let s1 := s.setNxt n (s.t.head j)        -- n->next = _bk->n
      let s2 := s1.setHead j n                 -- _bk->n = n
      relink fuel s2 nn

/-- `cstl_clean_bucket(h, &h->bucket.at[i])` -/
def cleanBucket (fuel : Nat) (s : LS) (i : Nat) : LR LS := do
  chk s.t i
  if s.t.cst ≠ s.t.bcst i then do
    let n := s.t.head i                        -- n = bk->n
    let s1 := s.setHead i 0                    -- bk->n = NULL
    let s2 ← relink hf fuel s1 n
    tickReloc
    chk s2.t i
    pure (s2.setBcst i s2.t.cst)               -- bk->cst = h->bucket.cst
  else pure s

/-- first loop of `__cstl_hash_rehash`; `d = count - clean` -/
def skipClean : LS → Nat → LR LS
  | s, 0 => pure s
  | s, d + 1 =>
    if s.t.clean < s.t.count then do
      chk s.t s.t.clean
      if s.t.bcst s.t.clean = s.t.cst then skipClean (s.setClean (s.t.clean + 1)) d else pure s
    else pure s

/-- second loop of `__cstl_hash_rehash`; `n = none` is `SIZE_MAX`; `d = count - clean` -/
def sweep (fuel : Nat) : LS → Option Nat → Nat → LR LS
  | s, _, 0 => pure s
  | s, n, d + 1 =>
    if s.t.clean < s.t.count ∧ n ≠ some 0 then do
      let s' ← cleanBucket hf fuel s s.t.clean
      sweep fuel (s'.setClean (s'.t.clean + 1)) (n.map (· - 1)) d
    else pure s

/-- `__cstl_hash_rehash(h, n)` -/
def rehashN (fuel : Nat) (s : LS) (n : Option Nat) : LR LS := do
  let s1 ← skipClean s (s.t.count - s.t.clean)
  let s2 ← sweep hf fuel s1 n (s1.t.count - s1.t.clean)
  if s2.t.count ≤ s2.t.clean then
    pure { s2 with t := { s2.t with count := s2.t.rhCount, hash := s2.t.rhHash, rhHash := none } }
  else pure s2

/-- `cstl_hash_rehash` -/
def rehash (fuel : Nat) (s : LS) : LR LS :=
  if s.t.rhHash.isSome then rehashN hf fuel s none else pure s

/-- `cstl_hash_get_bucket(h, k)`: (state, bucket index) -/
def keyed (fuel : Nat) (s : LS) (k : Nat) : LR (LS × Nat) := do
  let i ← getBucket hf s.t.hash k s.t.count
  if s.t.rhHash.isSome then do
    let j ← getBucket hf s.t.rhHash k s.t.rhCount
    let s1 ← cleanBucket hf fuel s i
    let s2 ← cleanBucket hf fuel s1 j
    let s3 ← rehashN hf fuel s2 (some 1)
    pure (s3, j)
  else pure (s, i)

/-- the part of `cstl_hash_insert(h, k, e)` after the keyed lookup returned `&h->bucket.at[bk]` -/
def insertTail (s : LS) (bk k e : Nat) : LR LS := do
  let s1 := s.setKey e k                       -- hn->key = k
  chk s1.t bk
  let s2 := s1.setNxt e (s1.t.head bk)         -- hn->next = bk->n
  let s3 := s2.setHead bk e                    -- bk->n = hn
  pure (s3.setSize (s3.t.size + 1))            -- h->count++

/-- `cstl_hash_insert(h, k, e)` -/
def insert (fuel : Nat) (s : LS) (k e : Nat) : LR LS := do
  let r ← keyed hf fuel s k
  insertTail r.1 r.2 k e

/-- `cstl_hash_bucket_foreach(h, n, visit, p)`: the successor is read before the
visit; the visit function gets the memory, its private data and the node and
returns them with its result.  Result: (memory, private data, `res`). -/
def bucketForeach {π : Type} (visit : LS → π → Nat → LR (LS × π × Int)) : Nat → LS → π → Nat → LR (LS × π × Int)
  | 0, s, p, n => if n = 0 then pure (s, p, 0) else hang
  | fuel + 1, s, p, n =>
    if n = 0 then pure (s, p, 0)
    else do
      let nn := s.nxt n
      let r ← visit s p n
      if r.2.2 ≠ 0 then pure r else bucketForeach visit fuel r.1 r.2.1 nn

/-- `struct cstl_hash_find_priv` (`offers` is a ghost: the calls of the user's
visit function, latest first) -/
structure FindP where
  k : Nat
  visit : Option (Nat → Node → Bool)
  e : Nat
  offers : List Node

/-- `cstl_hash_find_visit` -/
def findVisit (s : LS) (p : FindP) (n : Nat) : LR (LS × FindP × Int) :=
  if s.keyOf n = p.k then
    match p.visit with
    | none => pure (s, { p with e := n }, 1)
    | some acc =>
      if acc p.offers.length (s.nodeOf n) then pure (s, { p with e := n, offers := s.nodeOf n :: p.offers }, 1)
      else pure (s, { p with offers := s.nodeOf n :: p.offers }, 0)
  else pure (s, p, 0)

/-- `cstl_hash_find(h, k, visit, p)`: (state, found, offers in order) -/
def find (fuel : Nat) (s : LS) (k : Nat) (accept : Option (Nat → Node → Bool)) :
    LR (LS × Option Node × List Node) := do
  let r ← keyed hf fuel s k
  chk r.1.t r.2
  let w ← bucketForeach findVisit fuel r.1 { k := k, visit := accept, e := 0, offers := [] } (r.1.t.head r.2)
  pure (w.1, (if w.2.1.e = 0 then none else some (w.1.nodeOf w.2.1.e)), w.2.1.offers.reverse)

/-- a `struct cstl_hash_node **`: the address of a bucket's `n` or of a node's `next` -/
inductive Loc where
  | head (i : Nat)
  | next (n : Nat)
deriving DecidableEq, Repr, Inhabited

def LS.rdLoc (s : LS) : Loc → Nat
  | .head i => s.t.head i
  | .next n => s.nxt n

def LS.wrLoc (s : LS) : Loc → Nat → LS
  | .head i, v => s.setHead i v
  | .next n, v => s.setNxt n v

/-- `struct cstl_hash_erase_priv` -/
structure EraseP where
  n : Loc
  e : Nat

/-- `cstl_hash_erase_visit`: `hep->n = &(*hep->n)->next` -/
def eraseVisit (s : LS) (p : EraseP) (e : Nat) : LR (LS × EraseP × Int) :=
  if p.e = e then pure (s, p, 1)
  else pure (s, { p with n := .next (s.rdLoc p.n) }, 0)

/-- the part of `cstl_hash_erase(h, e)` after the keyed lookup returned `&h->bucket.at[bk]` -/
def eraseTail (fuel : Nat) (s : LS) (bk e : Nat) : LR LS := do
  chk s.t bk
  let w ← bucketForeach eraseVisit fuel s { n := .head bk, e := e } (s.t.head bk)
  if w.2.2 ≠ 0 then
    if w.1.rdLoc w.2.1.n = 0 then stop .nullDeref
    else
      let s2 := w.1.wrLoc w.2.1.n (w.1.nxt (w.1.rdLoc w.2.1.n))     -- *hep.n = (*hep.n)->next
      pure (s2.setSize (s2.t.size - 1))                              -- h->count--
  else pure w.1

/-- `cstl_hash_erase(h, e)` -/
def erase (fuel : Nat) (s : LS) (e : Nat) : LR LS := do
  let r ← keyed hf fuel s (s.keyOf e)
  eraseTail fuel r.1 r.2 e

/-- what a successful `realloc` to `sz` buckets does to the array (cf. `Cstl.Hash.resizeArr`) -/
def LS.realloc (s : LS) (sz : Nat) : LS :=
  { s with t := { s.t with
      cap := sz,
      head := fun i => if i < s.t.cap then s.t.head i else 0,
      bcst := fun i => if i < s.t.cap then s.t.bcst i else false } }

/-- `__cstl_hash_set_capacity(h, sz)` -/
def setCapacity (oracle : Nat → Bool) (s : LS) (sz : Nat) : LR LS :=
  if (2 ^ 64 - 1) / 16 < sz then pure s
  else if sz = 0 then stop .oob
  else do
    let bytes := (16 * sz) % 2 ^ 64
    let ok := oracle bytes
    logEv (.realloc bytes ok)
    if ok then pure (s.realloc sz) else pure s

/-- the bucket-initialisation loop of `cstl_hash_resize` -/
def initBuckets : LS → Nat → Nat → LR LS
  | s, _, 0 => pure s
  | s, lo, d + 1 => do
    chk s.t lo
    let s1 := s.setHead lo 0                   -- at[i].n = NULL
    let s2 := s1.setBcst lo s1.t.cst           -- at[i].cst = h->bucket.cst
    initBuckets s2 (lo + 1) d

/-- the part of `cstl_hash_resize` after the pending rehash has been forced -/
def resizeTail (s2 : LS) (n : Nat) (f : Option HashId) : LR LS := do
  let s3 : LS := { s2 with t := { s2.t with cst := !s2.t.cst } }
  let s4 ← initBuckets s3 s3.t.count (n - s3.t.count)
  let g := pickHash f s4.t.hash
  let s5 : LS := { s4 with t := { s4.t with rhHash := some g, rhCount := n, clean := 0 } }
  if s5.t.hash = none then
    pure { s5 with t := { s5.t with hash := some g, count := n, rhHash := none } }
  else pure s5

def ensureCapacity (oracle : Nat → Bool) (s : LS) (n : Nat) : LR LS :=
  if s.t.cap < n then setCapacity oracle s n else pure s

def LT.effCount (t : LT) : Nat := if t.rhHash.isSome then t.rhCount else t.count
def LT.effHash (t : LT) : Option HashId := if t.rhHash.isSome then t.rhHash else t.hash

/-- `cstl_hash_resize(h, n, f)` -/
def resize (fuel : Nat) (oracle : Nat → Bool) (s : LS) (n : Nat) (f : Option HashId) : LR LS :=
  if n = 0 then pure s
  else do
    let s1 ← ensureCapacity oracle s n
    if s1.t.cap ≠ 0 ∧ n ≤ s1.t.cap ∧ (n ≠ s1.t.effCount ∨ (f ≠ none ∧ f ≠ s1.t.effHash)) then do
      let s2 ← rehash hf fuel s1
      resizeTail s2 n f
    else pure s1

/-- `cstl_hash_shrink_to_fit` -/
def shrink (fuel : Nat) (oracle : Nat → Bool) (s : LS) : LR LS :=
  if s.t.effCount < s.t.cap then do
    let s1 ← rehash hf fuel s
    setCapacity oracle s1 s1.t.count
  else pure s

/-- private data of an enumeration: number of callbacks made, elements handed
to the callback (latest first) -/
structure WalkP where
  idx : Nat
  seen : List Node

/-- the visit function `cstl_hash_foreach` is given: the user's callback returns
(result, erase-me); with erase-me it calls `cstl_hash_erase` on the element it
is visiting before it returns -/
def userVisit (fuel : Nat) (visit : Nat → Node → Int × Bool) (s : LS) (p : WalkP) (n : Nat) :
    LR (LS × WalkP × Int) := do
  let s' ← (if (visit p.idx (s.nodeOf n)).2 then erase hf fuel s n else pure s)
  pure (s', { idx := p.idx + 1, seen := s.nodeOf n :: p.seen }, (visit p.idx (s.nodeOf n)).1)

/-- upper bound of the bucket walk of `__cstl_hash_foreach` -/
def LT.bound (t : LT) : Nat :=
  if t.rhHash.isSome ∧ t.count < t.rhCount then t.rhCount else t.count

/-- the `for` loop of `__cstl_hash_foreach`; `count` was computed before the loop -/
def tableWalk (fuel : Nat) (visit : Nat → Node → Int × Bool) (count : Nat) :
    LS → WalkP → Int → Nat → Nat → LR (LS × WalkP × Int)
  | s, p, res, _, 0 => pure (s, p, res)
  | s, p, res, i, d + 1 =>
    if i < count ∧ res = 0 then do
      chk s.t i
      let r ← bucketForeach (userVisit hf fuel visit) fuel s p (s.t.head i)
      tableWalk fuel visit count r.1 r.2.1 r.2.2 (i + 1) d
    else pure (s, p, res)

/-- `__cstl_hash_foreach` -/
def hforeach (fuel : Nat) (s : LS) (visit : Nat → Node → Int × Bool) : LR (LS × WalkP × Int) :=
  tableWalk hf fuel visit s.t.bound s { idx := 0, seen := [] } 0 0 s.t.bound

/-- `cstl_hash_foreach`: (state, result, visited elements in order) -/
def foreach (fuel : Nat) (s : LS) (visit : Nat → Node → Int × Bool) : LR (LS × Int × List Node) := do
  let s1 ← rehash hf fuel s
  let w ← hforeach hf fuel s1 visit
  pure (w.1, w.2.2, w.2.1.seen.reverse)

/-- `cstl_hash_foreach_const` -/
def foreachConst (fuel : Nat) (s : LS) (visit : Nat → Node → Int) : LR (Int × List Node) := do
  let w ← hforeach hf fuel s (fun i n => (visit i n, false))
  pure (w.2.2, w.2.1.seen.reverse)

/-- `cstl_hash_clear(h, clr)` -/
def clear (fuel : Nat) (s : LS) (withCb : Bool) : LR (LS × List Node) := do
  let w ← (if withCb then hforeach hf fuel s (fun _ _ => (0, false))
           else pure (s, { idx := 0, seen := [] }, 0))
  let _ ← (if s.t.cap ≠ 0 then logEv .free else pure ())
  pure ({ w.1 with t := { w.1.t with cap := 0, count := 0, hash := none, rhHash := none, size := 0 } },
        w.2.1.seen.reverse)

end

/-! ### reading the table back from the links (what the driver dumps) -/

/-- follow `next` from `a` for at most `fuel` nodes -/
def walk (nxt : Mem) : Nat → Nat → List Nat
  | 0, _ => []
  | fuel + 1, a => if a = 0 then [] else a :: walk nxt fuel (nxt a)

/-- bucket `i` as the existing model sees it: the nodes reached from `head i`, the clean bit -/
def LS.readBucket (s : LS) (fuel i : Nat) : Cstl.Hash.Bucket :=
  { chain := (walk s.nxt fuel (s.t.head i)).map s.nodeOf, cst := s.t.bcst i }

/-- the table of the existing model that the link-level state spells out -/
def LS.read (s : LS) (fuel : Nat) : Cstl.Hash.HT :=
  { bk := Array.ofFn (n := s.t.cap) (fun i => s.readBucket fuel i.val),
    count := s.t.count, hash := s.t.hash, cst := s.t.cst, rhHash := s.t.rhHash, rhCount := s.t.rhCount,
    clean := s.t.clean, size := s.t.size }

end Cstl.HashL
