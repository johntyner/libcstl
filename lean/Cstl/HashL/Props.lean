import Cstl.HashL.History
import Cstl.Hash.Props
/-
Property theorems of the link-level hash model (area `hashl`): the pointer
code of src/hash.c as modelled in `Cstl/HashL/Model.lean` REFINES the functional
model `Cstl/Hash/Model.lean`, so that the theorems of C03 / C04 / C19 and the table
half of C17 hold for chains that are singly linked lists through `next`, a bucket array of
`{ n; cst }`, relinking in `cstl_clean_bucket`, the callback walk of
`cstl_hash_find` and the pointer-to-pointer walk of `cstl_hash_erase`.

`Sim rel l a` (Lemmas.lean): `l` and `a` have equal traces (hash-call log,
relocation count, allocation events); if `a` returns `b`, `l` returns some `x`
with `rel x b` — in particular `l` neither runs out of fuel (`hang`) nor
dereferences NULL nor leaves the bucket array; if `a` stops (`abort`), `l`
stops the same way.  `hf` is an arbitrary hash-function family throughout.
-/
namespace Cstl.HashL
open Cstl.SList (Mem)
open Cstl.Hash (HashId HT Bucket nodes Sys Op Out KOp)

variable (hf : HashId → Nat → Nat → Nat)

theorem walk_chain {nxt : Mem} : ∀ {xs : List Nat} {a : Nat} (fuel : Nat), Chain nxt a xs → xs.length ≤ fuel →
    walk nxt fuel a = xs
  | [], a, fuel, h, _ => by
    have : a = 0 := h
    subst this
    cases fuel <;> simp [walk]
  | x :: xs, a, 0, _, hl => by simp at hl
  | x :: xs, a, fuel + 1, h, hl => by
    obtain ⟨rfl, hx0, hc⟩ := h
    simp only [walk, if_neg hx0]
    rw [walk_chain fuel hc (by simp at hl; omega)]

/-- **The represented table can be read back from the links**: walking `next`
from every bucket head (with fuel for the number of elements) and pairing the
addresses with their `key` fields yields exactly `t` — chains in order, clean
bits, scalars.  This is what the driver `m_hashl` dumps. -/
theorem read_spec {s : LS} {t : HT} (r : Rep s t) {fuel : Nat} (hfuel : (nodes t).length ≤ fuel) :
    s.read fuel = t := by
  have hbk : (Array.ofFn (n := s.t.cap) fun i => s.readBucket fuel i.val) = t.bk := by
    apply Array.ext
    · simp [r.cap]
    · intro i h1 h2
      have hb : t.bk[i]? = some t.bk[i] := Array.getElem?_eq_getElem h2
      simp only [Array.getElem_ofFn]
      unfold LS.readBucket
      have hl : (ids t.bk[i].chain).length ≤ fuel := by
        rw [ids_length]; exact Nat.le_trans (chain_le_nodes hb) hfuel
      rw [walk_chain fuel (r.chain i _ hb) hl, r.chain_map hb, r.bits i _ hb]
  unfold LS.read
  rw [hbk, r.count, r.hash, r.cst, r.rhHash, r.rhCount, r.clean, r.size]

/-- a link-level state represents at most one table -/
theorem rep_functional {s : LS} {t t' : HT} (r : Rep s t) (r' : Rep s t') : t = t' := by
  exact (read_spec r (Nat.le_max_left (nodes t).length (nodes t').length)).symm.trans
    (read_spec r' (Nat.le_max_right (nodes t).length (nodes t').length))

/-- no node is linked into two chains, no chain visits a node twice, every
linked node is non-NULL: the identities of the represented table are distinct -/
theorem rep_nodup {s : LS} {t : HT} (r : Rep s t) :
    (∀ (i : Nat) (b : Bucket), t.bk[i]? = some b → (ids b.chain).Nodup ∧ ∀ a ∈ ids b.chain, a ≠ 0) ∧
    (∀ (i j : Nat) (b b' : Bucket), t.bk[i]? = some b → t.bk[j]? = some b' → i ≠ j →
        ∀ a ∈ ids b.chain, a ∉ ids b'.chain) :=
  ⟨fun i b hb => ⟨r.chain_nodup hb, fun a ha => (r.chain i b hb).nonzero a ha⟩,
   fun i j b b' hb hb' hij a ha ha' => hij (r.uniq i j b b' hb hb' a ha ha')⟩

theorem init_represents : RepSys LSys.init Sys.init := LSys.init_rep

/-! ## C03 — per-operation refinement: instances on a mid-rehash state -/

/-- a link-level state representing the pending example table of the hash area:
2 buckets + 2 added ones; #12 in bucket 0; #11 → #10 in bucket 1 -/
def Ex.sPending : LS :=
  { nxt := fun a => if a = 11 then 10 else 0,
    keyOf := fun a => if a = 12 then 2 else if a = 11 then 5 else if a = 10 then 1 else 0,
    t := { head := fun i => if i = 0 then 12 else if i = 1 then 11 else 0,
           bcst := fun i => decide (i < 2), cap := 4, count := 2, hash := some 1, cst := false,
           rhHash := some 2, rhCount := 4, clean := 0, size := 3 } }

theorem Ex.sPending_rep : Rep Ex.sPending Hash.Ex.tPending := by
  have hall : ∀ {P : Nat → Bucket → Prop}, P 0 ⟨[⟨2, 12⟩], true⟩ → P 1 ⟨[⟨5, 11⟩, ⟨1, 10⟩], true⟩ → P 2 ⟨[], false⟩ →
      P 3 ⟨[], false⟩ → ∀ (i : Nat) (b : Bucket), Hash.Ex.tPending.bk[i]? = some b → P i b := by
    intro P p0 p1 p2 p3 i b h
    match i, h with
    | 0, h => exact Option.some.inj h ▸ p0
    | 1, h => exact Option.some.inj h ▸ p1
    | 2, h => exact Option.some.inj h ▸ p2
    | 3, h => exact Option.some.inj h ▸ p3
    | n + 4, h => simp [Hash.Ex.tPending] at h
  -- a node's address tells its bucket: #12 is in bucket 0, the others in bucket 1
  have hwhere : ∀ (i : Nat) (b : Bucket), Hash.Ex.tPending.bk[i]? = some b → ∀ a ∈ ids b.chain,
      i = if a = 12 then 0 else 1 :=
    hall (by simp [ids]) (by simp [ids]) (by simp [ids]) (by simp [ids])
  refine ⟨rfl, rfl, rfl, rfl, rfl, rfl, rfl, rfl, ?_, ?_, ?_, ?_⟩
  · refine hall ?_ ?_ ?_ ?_ <;> simp [Ex.sPending, ids]
  · refine hall ?_ ?_ ?_ ?_ <;> simp [Ex.sPending]
  · refine hall ?_ ?_ ?_ ?_ <;> simp [Ex.sPending]
  · intro i j b b' h h' a ha ha'
    rw [hwhere i b h a ha, hwhere j b' h' a ha']

/-- mid-rehash instance: cleaning bucket 1 of the example relinks #11 and #10 -/
example : Sim (fun s' t' => Step Ex.sPending Hash.Ex.tPending s' t')
    (cleanBucket Hash.Ex.hf0 3 Ex.sPending 1) (Hash.cleanBucket Hash.Ex.hf0 Hash.Ex.tPending 1) :=
  cleanBucket_refines Hash.Ex.hf0 Ex.sPending_rep (by simp [nodes, Hash.Ex.tPending]) 1

/-- and the relinked chains can be read off the links: #10 went to bucket 0 in front of #12, #11 to bucket 2 -/
example : ∃ s', (cleanBucket Hash.Ex.hf0 3 Ex.sPending 1).val = .ok s' ∧
    walk s'.nxt 3 (s'.t.head 0) = [10, 12] ∧ walk s'.nxt 3 (s'.t.head 1) = [] ∧ walk s'.nxt 3 (s'.t.head 2) = [11] :=
  ⟨_, rfl, by decide, by decide, by decide⟩

example : Sim (fun x y => Step Ex.sPending Hash.Ex.tPending x.1 y.1 ∧ x.2 = y.2)
    (find Hash.Ex.hf0 3 Ex.sPending 5 (some (fun _ _ => false))) (Hash.find Hash.Ex.hf0 Hash.Ex.tPending 5 (some (fun _ _ => false))) :=
  find_refines Hash.Ex.hf0 Ex.sPending_rep (by simp [nodes, Hash.Ex.tPending]) 5 _

example : Sim (fun s' t' => Step Ex.sPending Hash.Ex.tPending s' t')
    (erase Hash.Ex.hf0 3 Ex.sPending 10) (Hash.erase Hash.Ex.hf0 Hash.Ex.tPending 1 10) :=
  erase_refines Hash.Ex.hf0 Ex.sPending_rep (by simp [nodes, Hash.Ex.tPending]) 10

example : Sim (fun s' t' => Inserted Ex.sPending Hash.Ex.tPending 7 13 s' t')
    (insert Hash.Ex.hf0 3 Ex.sPending 7 13) (Hash.insert Hash.Ex.hf0 Hash.Ex.tPending 7 13) :=
  insert_refines Hash.Ex.hf0 Ex.sPending_rep (by simp [nodes, Hash.Ex.tPending]) 7 13 (by decide)
    (by rw [owns_iff]; simp [nodes, Hash.Ex.tPending])

/-- a further resize while the first one is pending (forces the rehash: every chain is relinked) -/
example : Sim (fun s' t' => Step Ex.sPending Hash.Ex.tPending s' t')
    (resize Hash.Ex.hf0 3 Hash.Ex.yes Ex.sPending 3 none) (Hash.resize Hash.Ex.hf0 Hash.Ex.yes Hash.Ex.tPending 3 none) :=
  resize_refines Hash.Ex.hf0 Ex.sPending_rep (by simp [nodes, Hash.Ex.tPending]) Hash.Ex.yes 3 none

/-! ## C03 — histories -/

/-- **History theorem**: along every history of insert / find / erase / resize /
rehash / shrink / swap / foreach / foreach_const / clear on two tables from
their initial state, inside the documented domain and with non-NULL elements,
for every `hf`, allocation oracle and visit function: the link-level run
simulates the run of the functional model — same trace, same answers, it never
runs out of fuel — and ends in a state that represents its final state. -/
theorem history_refines (ops : List Op) (hv : Hash.ValidFrom hf Sys.init ops) (hnz : NonNullAll ops) :
    Sim (fun x y => RepSys x.1 y.1 ∧ x.2 = y.2) (lrun hf LSys.init ops) (Hash.run hf Sys.init ops) :=
  lrun_sim hf ops LSys.init Sys.init LSys.init_rep (Hash.Sys.init_inv hf) hv hnz

/-- hence C03 for the pointer code: the link-level run either stops with `abort`
(together with the functional model, same trace) or returns answers that are
those of the multiset specification, in a state representing a system that
satisfies the invariant -/
theorem history_exact (ops : List Op) (hv : Hash.ValidFrom hf Sys.init ops) (hnz : NonNullAll ops) :
    ((lrun hf LSys.init ops).val = .error (.stop .abort) ∧ (Hash.run hf Sys.init ops).val = .error .abort ∧
      (lrun hf LSys.init ops).tr = (Hash.run hf Sys.init ops).tr) ∨
    ∃ (ls : LSys) (outs : List Out) (sys : Sys), (lrun hf LSys.init ops).val = .ok (ls, outs) ∧
      RepSys ls sys ∧ Hash.SysInv hf sys ∧ Hash.SpecRun (Hash.absOf Sys.init) ops outs (Hash.absOf sys) := by
  rcases (history_refines hf ops hv hnz).transfer (Hash.run_exact hf ops hv) with h | ⟨x, b, hx, _, ⟨rs, he⟩, hp⟩
  · exact Or.inl h
  · refine Or.inr ⟨x.1, x.2, b.1, hx, rs, hp.1, ?_⟩
    rw [he]; exact hp.2

/-- in every state a history reaches, both tables can be read back from the
links and satisfy the invariant of the functional model -/
theorem history_inv (ops : List Op) (hv : Hash.ValidFrom hf Sys.init ops) (hnz : NonNullAll ops)
    {ls : LSys} {outs : List Out} (h : (lrun hf LSys.init ops).val = .ok (ls, outs)) :
    Hash.Inv hf ((ls.sel false).read (ls.sel false).fuel) ∧ Hash.Inv hf ((ls.sel true).read (ls.sel true).fuel) := by
  rcases history_exact hf ops hv hnz with ⟨h', _⟩ | ⟨ls', outs', sys, h', rs, si, _⟩
  · rw [h] at h'; cases h'
  · rw [h] at h'; cases h'
    rw [read_spec rs.ra (fuel_ok hf rs si false), read_spec rs.rb (fuel_ok hf rs si true)]
    exact ⟨si.ia, si.ib⟩

example : NonNullAll [.resize false 2 (some 1) Hash.Ex.yes, .insert false 1 10, .find false 1 none] := by
  intro op hop
  simp at hop
  rcases hop with rfl | rfl | rfl <;> simp [NonNull]

/-! ## C04 — enumeration and clear -/

/-- the pointer walk of `cstl_hash_foreach_const` with a callback that never
stops hands exactly the elements of the represented table to it -/
theorem foreachConst_link_all {s : LS} {t : HT} (r : Rep s t) (inv : Hash.Inv hf t) {fuel : Nat}
    (hfuel : (nodes t).length ≤ fuel) :
    (foreachConst hf fuel s (fun _ _ => 0)).val = .error (.stop .abort) ∨
    (foreachConst hf fuel s (fun _ _ => 0)).val = .ok (0, nodes t) := by
  rcases (foreachConst_refines hf r hfuel _).transfer (Hash.foreachConst_all hf inv) with h | ⟨x, b, hx, _, rfl, hp⟩
  · exact Or.inl h.1
  · refine Or.inr ?_
    rw [hx]
    have : x = (0, nodes t) := Prod.ext hp.2 hp.1
    rw [this]

/-- the pointer walk of `cstl_hash_clear` hands every element exactly once to
the callback and leaves a state representing an empty table without buckets -/
theorem clear_link_once {s : LS} {t : HT} (r : Rep s t) (inv : Hash.Inv hf t) {fuel : Nat}
    (hfuel : (nodes t).length ≤ fuel) (withCb : Bool) :
    (clear hf fuel s withCb).val = .error (.stop .abort) ∨
    ∃ (s' : LS) (t' : HT), (clear hf fuel s withCb).val = .ok (s', if withCb then nodes t else []) ∧
      Rep s' t' ∧ nodes t' = [] ∧ t'.bk = #[] ∧ s'.t.cap = 0 ∧ s'.t.size = 0 ∧ s'.t.hash = none := by
  rcases (clear_refines hf r hfuel withCb).transfer (Hash.clear_once hf withCb inv) with h | ⟨x, b, hx, _, ⟨st, he⟩, hseen, _, hnodes, hsize, hhash, _, hbk⟩
  · exact Or.inl h.1
  · refine Or.inr ⟨x.1, b.1, ?_, st.rep, hnodes, hbk, ?_, ?_, ?_⟩
    · rw [hx, ← hseen, ← he]
    · rw [st.rep.cap, hbk]; rfl
    · rw [st.rep.size]; exact hsize
    · rw [st.rep.hash]; exact hhash

example : (foreachConst Hash.Ex.hf0 3 Ex.sPending (fun _ _ => 0)).val = .error (.stop .abort) ∨
    (foreachConst Hash.Ex.hf0 3 Ex.sPending (fun _ _ => 0)).val = .ok (0, nodes Hash.Ex.tPending) :=
  foreachConst_link_all Hash.Ex.hf0 Ex.sPending_rep Hash.Ex.tPending_inv (by simp [nodes, Hash.Ex.tPending])

/-! ## C19 — incremental rehash at link level -/

/-- **cost and progress of one keyed operation of the pointer code** while a
rehash is pending: at most three chains are detached and relinked, no
allocation request is made, and either the rehash finishes (the header is
settled on the pending geometry) or the sweep index advances -/
theorem keyed_link_cost_and_progress {s : LS} {t : HT} (r : Rep s t) (inv : Hash.Inv hf t) (hr : t.hash.isSome)
    {fuel : Nat} (hfuel : (nodes t).length + 1 ≤ fuel) (op : KOp) (hv : Hash.KValid t op) (hlv : LKValid s t op)
    (hp : t.rhHash.isSome) :
    (lkstep hf fuel s op).val = .error (.stop .abort) ∨
    ∃ s', (lkstep hf fuel s op).val = .ok s' ∧ (lkstep hf fuel s op).tr.reloc ≤ 3 ∧ (lkstep hf fuel s op).tr.evs = [] ∧
      ((s'.t.rhHash = none ∧ s'.t.count = s.t.rhCount ∧ s'.t.hash = s.t.rhHash) ∨
       (s'.t.rhHash = s.t.rhHash ∧ s'.t.count = s.t.count ∧ s'.t.rhCount = s.t.rhCount ∧ s.t.clean + 1 ≤ s'.t.clean)) := by
  rcases (lkstep_sim hf r (Nat.le_of_succ_le hfuel) op hlv).transfer (Hash.keyed_cost_and_progress hf op inv hr hv hp) with
    h | ⟨x, b, hx, _, ⟨r', _⟩, h1, h2, h3⟩
  · exact Or.inl h.1
  · refine Or.inr ⟨x, hx, h1, h2, ?_⟩
    rw [r'.rhHash, r'.count, r'.hash, r'.rhCount, r'.clean, r.rhHash, r.rhCount, r.count, r.clean]
    exact h3

/-- **once the rehash has finished, every lookup of the pointer code consults
the hash function exactly once** -/
theorem settled_link_single_call {s : LS} {t : HT} (r : Rep s t) (inv : Hash.Inv hf t) (hr : t.hash.isSome)
    {fuel : Nat} (hfuel : (nodes t).length + 1 ≤ fuel) (op : KOp) (hv : Hash.KValid t op) (hlv : LKValid s t op)
    (hs : t.rhHash = none) :
    (lkstep hf fuel s op).val = .error (.stop .abort) ∨
    ∃ s' g, (lkstep hf fuel s op).val = .ok s' ∧ s.t.hash = some g ∧
      (lkstep hf fuel s op).tr.calls = [⟨g, op.key, s.t.count⟩] ∧ s'.t.rhHash = none ∧ (lkstep hf fuel s op).tr.reloc ≤ 3 := by
  rcases (lkstep_sim hf r (Nat.le_of_succ_le hfuel) op hlv).transfer (Hash.settled_single_call hf op inv hr hv hs) with
    h | ⟨x, b, hx, _, ⟨r', _⟩, g, h1, h2, h3, h4⟩
  · exact Or.inl h.1
  · refine Or.inr ⟨x, g, hx, ?_, ?_, ?_, h4⟩
    · rw [r.hash, ← (Hash.eff_settled hs).2]; exact h1
    · rw [r.count, h2, (Hash.eff_settled hs).1]
    · rw [r'.rhHash]; exact h3

example : (lkstep Hash.Ex.hf0 4 Ex.sPending (.insert 7 13)).val = .error (.stop .abort) ∨
    ∃ s', (lkstep Hash.Ex.hf0 4 Ex.sPending (.insert 7 13)).val = .ok s' ∧
      (lkstep Hash.Ex.hf0 4 Ex.sPending (.insert 7 13)).tr.reloc ≤ 3 ∧
      (lkstep Hash.Ex.hf0 4 Ex.sPending (.insert 7 13)).tr.evs = [] ∧
      ((s'.t.rhHash = none ∧ s'.t.count = Ex.sPending.t.rhCount ∧ s'.t.hash = Ex.sPending.t.rhHash) ∨
       (s'.t.rhHash = Ex.sPending.t.rhHash ∧ s'.t.count = Ex.sPending.t.count ∧
         s'.t.rhCount = Ex.sPending.t.rhCount ∧ Ex.sPending.t.clean + 1 ≤ s'.t.clean)) :=
  keyed_link_cost_and_progress Hash.Ex.hf0 Ex.sPending_rep Hash.Ex.tPending_inv rfl (by simp [nodes, Hash.Ex.tPending])
    (.insert 7 13) (by simp [Hash.KValid, nodes, Hash.Ex.tPending])
    ⟨by decide, by rw [owns_iff]; simp [nodes, Hash.Ex.tPending]⟩ rfl

/-- **the rehash finishes at link level**: any sequence of at least `count`
keyed operations of the pointer code (inserts, finds, erases, in any mix)
issued while a rehash is pending leaves the header settled on the pending
geometry (or stops with `abort` because `hf` left its range) -/
theorem rehash_finishes_link (ops : List KOp) {s : LS} {t : HT} (r : Rep s t) (inv : Hash.Inv hf t) (hr : t.hash.isSome)
    {fuel : Nat} (hfuel : (nodes t).length + ops.length ≤ fuel) (hv : Hash.KValidFrom hf t ops)
    (hlv : LKValidFrom hf fuel s t ops) (hp : t.rhHash.isSome) (hlen : t.count ≤ ops.length) :
    (lkrun hf fuel s ops).val = .error (.stop .abort) ∨
    ∃ s', (lkrun hf fuel s ops).val = .ok s' ∧ s'.t.rhHash = none ∧ s'.t.count = s.t.rhCount ∧
      s'.t.hash = s.t.rhHash := by
  rcases (lkrun_sim hf fuel ops s t r hfuel hlv).transfer (Hash.rehash_finishes hf ops inv hr hv hp hlen) with
    h | ⟨x, b, hx, _, r', _, h1, h2, h3⟩
  · exact Or.inl h.1
  · exact Or.inr ⟨x, hx, by rw [r'.rhHash]; exact h1, by rw [r'.count, r.rhCount]; exact h2,
      by rw [r'.hash, r.rhHash]; exact h3⟩

example : (lkrun Hash.Ex.hf0 5 Ex.sPending [.find 1 none, .find 9 none]).val = .error (.stop .abort) ∨
    ∃ s', (lkrun Hash.Ex.hf0 5 Ex.sPending [.find 1 none, .find 9 none]).val = .ok s' ∧ s'.t.rhHash = none ∧
      s'.t.count = Ex.sPending.t.rhCount ∧ s'.t.hash = Ex.sPending.t.rhHash :=
  rehash_finishes_link Hash.Ex.hf0 _ Ex.sPending_rep Hash.Ex.tPending_inv rfl (by simp [nodes, Hash.Ex.tPending])
    ⟨trivial, fun _ _ => ⟨trivial, fun _ _ => trivial⟩⟩ ⟨trivial, fun _ _ _ _ => ⟨trivial, fun _ _ _ _ => trivial⟩⟩ rfl
    (by simp [Hash.Ex.tPending])

/-- the trace of a link-level history is the trace of the functional model's
run: every statement about hash calls, relocated buckets and allocation
requests of histories (C19, C16) transfers verbatim -/
theorem history_trace (ops : List Op) (hv : Hash.ValidFrom hf Sys.init ops) (hnz : NonNullAll ops) :
    (lrun hf LSys.init ops).tr = (Hash.run hf Sys.init ops).tr :=
  (history_refines hf ops hv hnz).1

/-! ## C17 (table half) — fail-stop at link level -/

/-- **fail-stop for the pointer code**: along every history inside the
documented domain, for an arbitrary hash-function family, the link-level run
never indexes outside a bucket array, never dereferences NULL, never runs out
of fuel (no chain is cyclic), and stops with `abort` exactly when a consulted
hash result was out of range -/
theorem history_failstop (ops : List Op) (hv : Hash.ValidFrom hf Sys.init ops) (hnz : NonNullAll ops) :
    (lrun hf LSys.init ops).val ≠ .error .hang ∧
    (lrun hf LSys.init ops).val ≠ .error (.stop .oob) ∧
    (lrun hf LSys.init ops).val ≠ .error (.stop .nullDeref) ∧
    ((lrun hf LSys.init ops).val = .error (.stop .abort) ↔
      ∃ c ∈ (lrun hf LSys.init ops).tr.calls, c.m ≤ hf c.fn c.key c.m) := by
  obtain ⟨htr, hval⟩ := history_refines hf ops hv hnz
  have fs := Hash.run_failstop hf ops hv
  have h1 := fs.no_oob
  have h2 := fs.no_null
  rw [htr, ← fs.abort_iff]
  cases ha : (Hash.run hf Sys.init ops).val with
  | ok b =>
    rw [ha] at hval
    obtain ⟨x, hx, _⟩ := hval
    rw [hx]
    simp
  | error e =>
    rw [ha] at hval h1 h2
    rw [hval]
    cases e <;> simp_all

/-- with an in-range family the link-level run returns -/
theorem history_total_in_range (hr : Hash.InRange hf) (ops : List Op) (hv : Hash.ValidFrom hf Sys.init ops)
    (hnz : NonNullAll ops) :
    ∃ (ls : LSys) (outs : List Out) (sys : Sys), (lrun hf LSys.init ops).val = .ok (ls, outs) ∧
      RepSys ls sys ∧ Hash.SysInv hf sys ∧ Hash.SpecRun (Hash.absOf Sys.init) ops outs (Hash.absOf sys) := by
  obtain ⟨b, hb, _⟩ := Hash.run_total_in_range hf hr ops hv
  rcases history_exact hf ops hv hnz with ⟨_, h, _⟩ | h
  · rw [hb] at h; cases h
  · exact h

end Cstl.HashL
