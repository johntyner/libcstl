import Cstl.HashL.Clean
import Cstl.Hash.Geometry
namespace Cstl.HashL
open Cstl.SList (upd upd_other)
open Cstl.Hash (HashId HT nodes wr)

variable (hf : HashId → Nat → Nat → Nat)

theorem Step.realloc {s : LS} {t : HT} (r : Rep s t) (sz : Nat) :
    Step s t (s.realloc sz) { t with bk := Hash.resizeArr t.bk sz } := by
  refine ⟨⟨?_, r.count, r.hash, r.cst, r.rhHash, r.rhCount, r.clean, r.size, ?_, ?_, ?_, ?_⟩, ?_,
    Hash.nodes_resizeArr_len t sz, rfl, fun _ _ => rfl⟩
  · show sz = _; rw [Hash.size_resizeArr]
  · intro i b h
    show Chain s.nxt (if i < s.t.cap then s.t.head i else 0) _
    rcases Hash.resizeArr_get h with ⟨h1, h2⟩ | ⟨h1, rfl⟩
    · rw [r.cap, if_pos h1]; exact r.chain i b h2
    · rw [r.cap, if_neg (by omega)]; exact rfl
  · intro i b h
    show (if i < s.t.cap then s.t.bcst i else false) = _
    rcases Hash.resizeArr_get h with ⟨h1, h2⟩ | ⟨h1, rfl⟩
    · rw [r.cap, if_pos h1]; exact r.bits i b h2
    · rw [r.cap, if_neg (by omega)]; rfl
  · intro i b h n hn
    rcases Hash.resizeArr_get h with ⟨_, h2⟩ | ⟨_, rfl⟩
    · exact r.keys i b h2 n hn
    · simp at hn
  · intro i j b b' h h' a ha ha'
    rcases Hash.resizeArr_get h with ⟨_, h2⟩ | ⟨_, rfl⟩
    · rcases Hash.resizeArr_get h' with ⟨_, h2'⟩ | ⟨_, rfl⟩
      · exact r.uniq i j b b' h2 h2' a ha ha'
      · simp at ha'
    · simp at ha
  · rintro a ⟨i, b, h, ha⟩
    rcases Hash.resizeArr_get h with ⟨_, h2⟩ | ⟨_, rfl⟩
    · exact ⟨i, b, h2, ha⟩
    · simp at ha

/-- `__cstl_hash_set_capacity` (every allocation outcome) -/
theorem setCapacity_sim {s : LS} {t : HT} (r : Rep s t) (oracle : Nat → Bool) (sz : Nat) :
    Sim (fun s' t' => Step s t s' t') (setCapacity oracle s sz) (Hash.setCapacity oracle t sz) := by
  unfold setCapacity Hash.setCapacity
  refine Sim.ite Iff.rfl (fun _ => Sim.pure (Step.refl r)) (fun _ => ?_)
  refine Sim.ite Iff.rfl (fun _ => Sim.stop _) (fun _ => ?_)
  refine Sim.bind (Sim.logEv _) ?_
  intro _ _ _ _
  exact Sim.ite Iff.rfl (fun _ => Sim.pure (Step.realloc r sz)) (fun _ => Sim.pure (Step.refl r))

/-- the bucket-initialisation loop of `cstl_hash_resize` -/
theorem initBuckets_sim {s0 : LS} {t0 : HT} : ∀ (d : Nat) {s : LS} {t : HT} (lo : Nat), Step s0 t0 s t →
    Sim (fun s' t' => Step s0 t0 s' t') (initBuckets s lo d) (Hash.initBuckets t lo d)
  | 0, s, t, lo, h => Sim.pure h
  | d + 1, s, t, lo, h => by
    have r := h.rep
    rw [Hash.initBuckets_succ]
    unfold initBuckets
    refine Sim.bind (Sim.chk_rd r lo) ?_
    intro _ b hb _
    have r1 : Rep ((s.setHead lo 0).setBcst lo (s.setHead lo 0).t.cst) (wr t lo { chain := [], cst := t.cst }) := by
      refine r.update hb s.nxt s.keyOf (upd s.t.head lo 0) (updB s.t.bcst lo s.t.cst) [] t.cst ?_ ?_ (by simp) ?_ ?_
        (fun _ _ _ _ _ _ => ⟨rfl, rfl⟩) (by simp)
      · simp
      · simp [updB, r.cst]
      · intro j hj; exact upd_other _ _ _ _ hj
      · intro j hj; simp [updB, hj]
    refine initBuckets_sim d (lo + 1) (h.trans ⟨r1, fun a h => owns_wr_sub hb (by simp) h, ?_, rfl, fun _ _ => rfl⟩)
    have := nodes_wr_len (b' := { chain := [], cst := t.cst }) hb
    simp at this
    omega

/-- the part of `cstl_hash_resize` after the pending rehash has been forced -/
theorem resizeTail_sim {s : LS} {t : HT} (r : Rep s t) (n : Nat) (f : Option HashId) :
    Sim (fun s' t' => Step s t s' t') (resizeTail s n f) (Hash.resizeTail t n f) := by
  rw [Hash.resizeTail_unfold]
  unfold resizeTail
  have st0 : Step s t { s with t := { s.t with cst := !s.t.cst } } { t with cst := !t.cst } :=
    Step.scalars r (cst := congrArg (!·))
  show Sim _ (initBuckets { s with t := { s.t with cst := !s.t.cst } } s.t.count (n - s.t.count) >>= _) _
  rw [r.count]
  refine Sim.bind (initBuckets_sim _ _ st0) ?_
  intro s4 t4 st _
  refine Sim.ite (by show s4.t.hash = none ↔ _; rw [st.rep.hash]) (fun _ => Sim.pure ?_) (fun _ => Sim.pure ?_)
  · exact st.trans (Step.scalars st.rep (count := fun _ => rfl) (hash := congrArg (some <| Hash.pickHash f ·))
      (rhHash := fun _ => rfl) (rhCount := fun _ => rfl) (clean := fun _ => rfl))
  · exact st.trans (Step.scalars st.rep (rhHash := fun _ => congrArg (some <| Hash.pickHash f ·) st.rep.hash)
      (rhCount := fun _ => rfl) (clean := fun _ => rfl))

/-- **`cstl_hash_resize`**: grow, shrink, other function, also while an earlier
one is pending, every allocation outcome -/
theorem resize_refines {s : LS} {t : HT} (r : Rep s t) {fuel : Nat} (hfuel : (nodes t).length ≤ fuel)
    (oracle : Nat → Bool) (n : Nat) (f : Option HashId) :
    Sim (fun s' t' => Step s t s' t') (resize hf fuel oracle s n f) (Hash.resize hf oracle t n f) := by
  rw [Hash.resize_unfold]
  unfold resize
  refine Sim.ite Iff.rfl (fun _ => Sim.pure (Step.refl r)) (fun _ => ?_)
  have hens : Sim (fun s' t' => Step s t s' t') (ensureCapacity oracle s n) (Hash.ensureCapacity oracle t n) := by
    unfold ensureCapacity Hash.ensureCapacity
    exact Sim.ite (by rw [r.cap]) (fun _ => setCapacity_sim r oracle n) (fun _ => Sim.pure (Step.refl r))
  refine Sim.bind hens ?_
  intro s1 t1 st1 _
  refine Sim.ite (by rw [st1.rep.cap, st1.rep.effCount, st1.rep.effHash]) (fun _ => ?_) (fun _ => Sim.pure st1)
  refine Sim.bind (rehash_refines hf st1.rep (Nat.le_trans st1.len hfuel)) ?_
  intro s2 t2 st2 _
  refine (resizeTail_sim st2.rep n f).mono ?_
  intro s' t' h _
  exact st1.trans (st2.trans h)

theorem resize_sim {s : LS} {t : HT} (r : Rep s t) {fuel : Nat} (hfuel : (nodes t).length ≤ fuel)
    (oracle : Nat → Bool) (n : Nat) (f : Option HashId) :
    Sim (fun s' t' => Step s t s' t') (resize hf fuel oracle s n f) (Hash.resize hf oracle t n f) :=
  resize_refines hf r hfuel oracle n f

/-- **`cstl_hash_shrink_to_fit`** -/
theorem shrink_refines {s : LS} {t : HT} (r : Rep s t) {fuel : Nat} (hfuel : (nodes t).length ≤ fuel)
    (oracle : Nat → Bool) :
    Sim (fun s' t' => Step s t s' t') (shrink hf fuel oracle s) (Hash.shrink hf oracle t) := by
  unfold shrink Hash.shrink
  refine Sim.ite (by rw [r.cap, r.effCount]) (fun _ => ?_) (fun _ => Sim.pure (Step.refl r))
  refine Sim.bind (rehash_refines hf r hfuel) ?_
  intro s1 t1 st1 _
  rw [st1.rep.count]
  refine (setCapacity_sim st1.rep oracle t1.count).mono ?_
  intro s' t' h _
  exact st1.trans h

theorem shrink_sim {s : LS} {t : HT} (r : Rep s t) {fuel : Nat} (hfuel : (nodes t).length ≤ fuel)
    (oracle : Nat → Bool) :
    Sim (fun s' t' => Step s t s' t') (shrink hf fuel oracle s) (Hash.shrink hf oracle t) :=
  shrink_refines hf r hfuel oracle

end Cstl.HashL
