import Cstl.SList.Model
/-
NULL-terminated chains of links read from a pointer (`Seg` of `SList/Lemmas.lean`
starts from a cell instead and may end anywhere): what a traversal walks over that
has already loaded its next pointer.  Two users: the bucket chains of the hash
table (`HashL/*`, hence the namespace), and the slist traversals that save the
successor before the visit (`foreachLoopP`, `clearLoop`; `SList/Lemmas.lean`
imports this file for them, through `Seg_iff_Chain`).
-/
namespace Cstl.HashL
open Cstl.SList (Mem)

/-- following `nxt` from `a` visits exactly `xs` (all non-NULL) and ends at NULL -/
def Chain (nxt : Mem) : Nat → List Nat → Prop
  | a, [] => a = 0
  | a, x :: xs => a = x ∧ x ≠ 0 ∧ Chain nxt (nxt x) xs

@[simp] theorem Chain_nil (nxt : Mem) (a : Nat) : Chain nxt a [] ↔ a = 0 := Iff.rfl
@[simp] theorem Chain_cons (nxt : Mem) (a x : Nat) (xs : List Nat) :
    Chain nxt a (x :: xs) ↔ a = x ∧ x ≠ 0 ∧ Chain nxt (nxt x) xs := Iff.rfl

theorem Chain.transfer {nxt nxt' : Mem} : ∀ {xs : List Nat} {a : Nat}, Chain nxt a xs →
    (∀ x ∈ xs, nxt' x = nxt x) → Chain nxt' a xs
  | [], _, h, _ => h
  | x :: xs, _, h, hx => by
    obtain ⟨h1, h2, h3⟩ := h
    refine ⟨h1, h2, ?_⟩
    rw [hx x (by simp)]
    exact Chain.transfer h3 (fun y hy => hx y (by simp [hy]))

theorem Chain.nonzero {nxt : Mem} : ∀ {xs : List Nat} {a : Nat}, Chain nxt a xs → ∀ x ∈ xs, x ≠ 0
  | [], _, _, _, hx => by simp at hx
  | y :: ys, _, h, x, hx => by
    rcases List.mem_cons.mp hx with rfl | hx
    · exact h.2.1
    · exact Chain.nonzero h.2.2 x hx

theorem Chain.functional {nxt : Mem} : ∀ {xs ys : List Nat} {a : Nat}, Chain nxt a xs → Chain nxt a ys → xs = ys
  | [], [], _, _, _ => rfl
  | [], y :: ys, _, h1, h2 => by
    simp only [Chain_nil] at h1
    obtain ⟨e, hne, _⟩ := h2
    omega
  | x :: xs, [], _, h1, h2 => by
    simp only [Chain_nil] at h2
    obtain ⟨e, hne, _⟩ := h1
    omega
  | x :: xs, y :: ys, _, h1, h2 => by
    obtain ⟨e1, _, c1⟩ := h1
    obtain ⟨e2, _, c2⟩ := h2
    have : x = y := by omega
    subst this
    rw [Chain.functional c1 c2]

theorem Chain.suffix {nxt : Mem} : ∀ {xs : List Nat} {a : Nat} (p : List Nat) (y : Nat) (q : List Nat),
    Chain nxt a xs → xs = p ++ y :: q → Chain nxt y (y :: q)
  | [], _, p, y, q, _, he => by simp at he
  | x :: xs, _, [], y, q, h, he => by
    simp only [List.nil_append, List.cons.injEq] at he
    obtain ⟨rfl, rfl⟩ := he
    exact ⟨rfl, h.2.1, h.2.2⟩
  | x :: xs, _, z :: p, y, q, h, he => by
    simp only [List.cons_append, List.cons.injEq] at he
    exact Chain.suffix p y q h.2.2 he.2

theorem Chain.nodup {nxt : Mem} : ∀ {xs : List Nat} {a : Nat}, Chain nxt a xs → xs.Nodup
  | [], _, _ => List.nodup_nil
  | x :: xs, _, h => by
    refine List.nodup_cons.mpr ⟨?_, Chain.nodup h.2.2⟩
    intro hx
    obtain ⟨p, q, hpq⟩ := List.append_of_mem hx
    have c1 : Chain nxt x (x :: q) := Chain.suffix p x q h.2.2 hpq
    have c2 : Chain nxt x (x :: xs) := ⟨rfl, h.2.1, h.2.2⟩
    have := Chain.functional c1 c2
    simp only [List.cons.injEq, true_and] at this
    rw [this] at hpq
    have hl := congrArg List.length hpq
    simp at hl
    omega

theorem Chain.no_back {nxt : Mem} {x : Nat} {xs : List Nat} (h : Chain nxt x (x :: xs)) :
    ∀ y ∈ xs, nxt y ≠ x := by
  intro y hy e
  obtain ⟨p, q, hpq⟩ := List.append_of_mem hy
  have c1 : Chain nxt y (y :: q) := Chain.suffix p y q h.2.2 hpq
  have c2 : Chain nxt x q := by rw [← e]; exact c1.2.2
  have := Chain.functional c2 h
  rw [this] at hpq
  have hl := congrArg List.length hpq
  simp at hl
  omega

end Cstl.HashL
