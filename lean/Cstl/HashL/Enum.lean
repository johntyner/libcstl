import Cstl.HashL.Ops
namespace Cstl.HashL
open Cstl.Hash (HashId Node HT nodes WGeom Walk)

variable (hf : HashId → Nat → Nat → Nat)

/-- which callbacks may erase the element they visit: none, or no rehash is pending (`Hash.TMode`, under the
name the link-level statements use) -/
def LMode (visit : Nat → Node → Int × Bool) (t : HT) : Prop :=
  (∀ idx n, (visit idx n).2 = false) ∨ t.rhHash = none

theorem LMode.of_geom {visit : Nat → Node → Int × Bool} {t t' : HT} (h : LMode visit t) (g : WGeom t t') :
    LMode visit t' := by
  rcases h with h | h
  · exact Or.inl h
  · exact Or.inr (by rw [g.rhHash]; exact h)

/-- link-level walk state against the functional model's `Walk` -/
def WRel (s0 : LS) (t0 : HT) (x : LS × WalkP × Int) (w : Walk) : Prop :=
  Step s0 t0 x.1 w.t ∧ WGeom t0 w.t ∧ x.2.1.idx = w.idx ∧ x.2.1.seen = w.seen ∧ x.2.2 = w.res

theorem WRel.step {s0 : LS} {t0 : HT} {x : LS × WalkP × Int} {w : Walk} (h : WRel s0 t0 x w) : Step s0 t0 x.1 w.t := h.1
theorem WRel.geom {s0 : LS} {t0 : HT} {x : LS × WalkP × Int} {w : Walk} (h : WRel s0 t0 x w) : WGeom t0 w.t := h.2.1
theorem WRel.seen {s0 : LS} {t0 : HT} {x : LS × WalkP × Int} {w : Walk} (h : WRel s0 t0 x w) : x.2.1.seen = w.seen :=
  h.2.2.2.1
theorem WRel.res {s0 : LS} {t0 : HT} {x : LS × WalkP × Int} {w : Walk} (h : WRel s0 t0 x w) : x.2.2 = w.res := h.2.2.2.2

/-- **one bucket of an enumeration**: the pointer walk reads the successor
before the visit; the callback may stop the walk and (when no rehash is
pending) erase the element it is visiting through `cstl_hash_erase`.  It makes
the same callbacks in the same order as `Hash.bucketWalk` on the chain and
leaves a state representing the same table.  `WRel s0 t0`, against the state the enumeration
started in, is the invariant of the walk.  Two fuels: `fuel'` bounds the chain
being walked, `fuel` the chain loops inside the callback's `cstl_hash_erase`. -/
theorem bucketWalk_sim_from {s0 : LS} {t0 : HT} {fuel : Nat} (hfuel : (nodes t0).length ≤ fuel)
    {visit : Nat → Node → Int × Bool} (hmode : LMode visit t0) :
    ∀ (ns : List Node) (fuel' : Nat) (s : LS) (w : Walk) (p : WalkP) (n : Nat), WRel s0 t0 (s, p, 0) w →
      Chain s.nxt n (ids ns) → (∀ x ∈ ns, s.nodeOf x.id = x) → ns.length ≤ fuel' →
      Sim (WRel s0 t0) (bucketForeach (userVisit hf fuel visit) fuel' s p n) (Hash.bucketWalk hf visit w ns)
  | [], fuel', s, w, p, n, h, hc, _, _ => by
    have hn : n = 0 := hc
    subst hn
    rw [bucketForeach_null]
    exact Sim.pure h
  | x :: xs, 0, _, _, _, _, _, _, _, hl => by simp at hl
  | x :: xs, fuel' + 1, s, w, p, n, h, hc, hk, hl => by
    obtain ⟨st, g, hi, hs, _⟩ := h
    simp only at st hi hs
    have hc0 : Chain s.nxt n (x.id :: ids xs) := hc
    obtain rfl : n = x.id := hc0.1
    have hback := hc0.no_back
    obtain ⟨-, hx0, hc'⟩ := hc0
    have hkx : s.nodeOf x.id = x := hk x (by simp)
    have hkey : s.keyOf x.id = x.key := by rw [← hkx]; rfl
    have huv : userVisit hf fuel visit s p x.id =
        ((if (visit p.idx (s.nodeOf x.id)).2 = true then erase hf fuel s x.id else pure s) >>= fun s' =>
          pure (s', { idx := p.idx + 1, seen := s.nodeOf x.id :: p.seen }, (visit p.idx (s.nodeOf x.id)).1)) := rfl
    rw [bucketForeach_succ _ _ _ _ hx0, Hash.bucketWalk_cons, huv, bind_assoc, hkx, ← hi, ← hs]
    have hvisit : Sim (fun s' t' => Erased s w.t x.id s' t')
        (if (visit p.idx x).2 = true then erase hf fuel s x.id else pure s)
        (Hash.visitErase hf w.t (visit p.idx x).2 x) := by
      unfold Hash.visitErase
      refine Sim.ite Iff.rfl (fun her => ?_) (fun _ => Sim.pure ⟨Step.refl st.rep, WGeom.refl _, fun _ _ => rfl⟩)
      have hset : w.t.rhHash = none := by
        rcases hmode.of_geom g with h | h
        · rw [h] at her; cases her
        · exact h
      rw [← hkey]
      exact erase_settled_sim hf st.rep (Nat.le_trans st.len hfuel) x.id hset
    refine Sim.bind hvisit ?_
    intro s' t' er _
    rw [pure_bind]
    have h' : ∀ res, res = (visit p.idx x).1 → WRel s0 t0 (s', { idx := p.idx + 1, seen := x :: p.seen }, res)
        { t := t', idx := p.idx + 1, seen := x :: p.seen, res := (visit p.idx x).1 } :=
      fun _ e => ⟨st.trans er.step, g.trans er.geom, rfl, rfl, e⟩
    refine Sim.ite Iff.rfl (fun _ => Sim.pure (h' _ rfl)) (fun hz => ?_)
    have hk1 : ∀ y ∈ xs, s'.nodeOf y.id = y := by
      intro y hy
      have := hk y (by simp [hy])
      unfold LS.nodeOf at this ⊢
      rw [er.step.key]; exact this
    exact bucketWalk_sim_from hfuel hmode xs fuel' s' _ _ (s.nxt x.id) (h' 0 (Classical.not_not.mp hz).symm)
      (hc'.transfer (fun a ha => er.fine a (hback a ha))) hk1 (by simp at hl; omega)

theorem bucketWalk_sim (fuel : Nat) (visit : Nat → Node → Int × Bool) :
    ∀ (ns : List Node) (fuel' : Nat) (s : LS) (w : Walk) (p : WalkP) (n : Nat),
      Rep s w.t → (nodes w.t).length ≤ fuel → LMode visit w.t → p.idx = w.idx → p.seen = w.seen → w.res = 0 →
      Chain s.nxt n (ids ns) → (∀ x ∈ ns, s.nodeOf x.id = x) → ns.length ≤ fuel' →
      Sim (WRel s w.t) (bucketForeach (userVisit hf fuel visit) fuel' s p n) (Hash.bucketWalk hf visit w ns) :=
  fun ns fuel' s w p n r hfuel hmode hi hs hr =>
    bucketWalk_sim_from hf hfuel hmode ns fuel' s w p n ⟨Step.refl r, WGeom.refl _, hi, hs, hr.symm⟩

/-- **the bucket loop of `__cstl_hash_foreach`** (its bound computed once, before the loop) -/
theorem tableWalk_sim {s0 : LS} {t0 : HT} {fuel : Nat} (hfuel : (nodes t0).length ≤ fuel)
    {visit : Nat → Node → Int × Bool} (hmode : LMode visit t0) :
    ∀ (d : Nat) (s : LS) (w : Walk) (p : WalkP) (res : Int) (i : Nat), WRel s0 t0 (s, p, res) w →
      Sim (WRel s0 t0) (tableWalk hf fuel visit t0.bound s p res i d) (Hash.tableWalk hf visit w i d)
  | 0, s, w, p, res, i, h => Sim.pure h
  | d + 1, s, w, p, res, i, h => by
    rw [Hash.tableWalk_succ]
    unfold tableWalk
    refine Sim.ite (by rw [h.geom.bound, ← h.res]) ?_ (fun _ => Sim.pure h)
    intro hcond
    have r := h.step.rep
    refine Sim.bind (Sim.chk_rd r i) ?_
    intro _ b hb _
    have hlen : b.chain.length ≤ fuel := Nat.le_trans (chain_le_nodes hb) (Nat.le_trans h.step.len hfuel)
    have hres : res = 0 := hcond.2
    subst hres
    refine Sim.bind (bucketWalk_sim_from hf hfuel hmode b.chain fuel s w p (s.t.head i) h
      (r.chain i b hb) (fun x hx => r.node_eq hb hx) hlen) ?_
    rintro ⟨s1, p1, res1⟩ w1 h1 _
    exact tableWalk_sim hfuel hmode d s1 w1 p1 res1 (i + 1) h1

/-- `__cstl_hash_foreach` -/
theorem hforeach_sim {s : LS} {t : HT} (r : Rep s t) {fuel : Nat} (hfuel : (nodes t).length ≤ fuel)
    (visit : Nat → Node → Int × Bool) (hmode : LMode visit t) :
    Sim (WRel s t) (hforeach hf fuel s visit) (Hash.hforeach hf t visit) := by
  unfold hforeach Hash.hforeach
  rw [r.bound]
  exact tableWalk_sim hf hfuel hmode t.bound s { t := t, idx := 0, seen := [], res := 0 }
    { idx := 0, seen := [] } 0 0 ⟨Step.refl r, WGeom.refl _, rfl, rfl, rfl⟩

/-- **`cstl_hash_foreach`** (forces a pending rehash, then walks; callbacks may
erase their element and stop the walk): same callbacks in the same order, same
result, the state left represents the table `Hash.foreach` leaves -/
theorem foreach_refines {s : LS} {t : HT} (r : Rep s t) (inv : Hash.Inv hf t) {fuel : Nat}
    (hfuel : (nodes t).length ≤ fuel) (visit : Nat → Node → Int × Bool) :
    Sim (fun x y => Step s t x.1 y.1 ∧ x.2 = y.2) (foreach hf fuel s visit) (Hash.foreach hf t visit) := by
  rw [Hash.foreach_unfold]
  unfold foreach
  refine Sim.bind (rehash_refines hf r hfuel) ?_
  intro s1 t1 st hval
  have hset : t1.rhHash = none := ((Hash.rehash_spec hf inv).of_ok hval).settled
  refine Sim.bind (hforeach_sim hf st.rep (Nat.le_trans st.len hfuel) visit (Or.inr hset)) ?_
  intro x w hw _
  refine Sim.pure ⟨st.trans hw.step, ?_⟩
  show (x.2.2, x.2.1.seen.reverse) = (w.res, w.seen.reverse)
  rw [hw.seen, hw.res]

theorem foreach_sim {s : LS} {t : HT} (r : Rep s t) (inv : Hash.Inv hf t) {fuel : Nat}
    (hfuel : (nodes t).length ≤ fuel) (visit : Nat → Node → Int × Bool) :
    Sim (fun x y => Step s t x.1 y.1 ∧ x.2 = y.2) (foreach hf fuel s visit) (Hash.foreach hf t visit) :=
  foreach_refines hf r inv hfuel visit

/-- **`cstl_hash_foreach_const`** at any stage of a pending rehash -/
theorem foreachConst_refines {s : LS} {t : HT} (r : Rep s t) {fuel : Nat} (hfuel : (nodes t).length ≤ fuel)
    (visit : Nat → Node → Int) :
    Sim (fun x y => x = y) (foreachConst hf fuel s visit) (Hash.foreachConst hf t visit) := by
  rw [Hash.foreachConst_unfold]
  unfold foreachConst
  refine Sim.bind (hforeach_sim hf r hfuel _ (Or.inl (fun _ _ => rfl))) ?_
  intro x w hw _
  refine Sim.pure ?_
  show (x.2.2, x.2.1.seen.reverse) = (w.res, w.seen.reverse)
  rw [hw.seen, hw.res]

theorem foreachConst_sim {s : LS} {t : HT} (r : Rep s t) {fuel : Nat} (hfuel : (nodes t).length ≤ fuel)
    (visit : Nat → Node → Int) :
    Sim (fun x y => x = y) (foreachConst hf fuel s visit) (Hash.foreachConst hf t visit) :=
  foreachConst_refines hf r hfuel visit

/-- **`cstl_hash_clear`** at any stage of a pending rehash: the callback gets
the same elements in the same order; the emptied table is represented -/
theorem clear_refines {s : LS} {t : HT} (r : Rep s t) {fuel : Nat} (hfuel : (nodes t).length ≤ fuel) (withCb : Bool) :
    Sim (fun x y => Step s t x.1 y.1 ∧ x.2 = y.2) (clear hf fuel s withCb) (Hash.clear hf t withCb) := by
  rw [Hash.clear_unfold]
  unfold clear Hash.clearWalk
  have hwalk : Sim (WRel s t)
      (if withCb = true then hforeach hf fuel s (fun _ _ => (0, false)) else pure (s, { idx := 0, seen := [] }, 0))
      (if withCb = true then Hash.hforeach hf t (fun _ _ => (0, false))
       else pure { t := t, idx := 0, seen := [], res := 0 }) :=
    Sim.ite Iff.rfl (fun _ => hforeach_sim hf r hfuel _ (Or.inl (fun _ _ => rfl)))
      (fun _ => Sim.pure ⟨Step.refl r, WGeom.refl _, rfl, rfl, rfl⟩)
  refine Sim.bind hwalk ?_
  rintro ⟨s2, p2, res2⟩ w ⟨st2, _, _, h2, _⟩ _
  simp only at st2 h2
  have hfree : Sim (fun _ _ => True) (if s.t.cap ≠ 0 then logEv .free else pure ()) (Hash.freeArr t) := by
    unfold Hash.freeArr
    exact Sim.ite (by rw [r.cap]) (fun _ => Sim.logEv _) (fun _ => Sim.pure trivial)
  refine Sim.bind hfree ?_
  intro _ _ _ _
  refine Sim.pure ⟨⟨?_, ?_, ?_, st2.key, st2.frame⟩, ?_⟩
  · refine ⟨rfl, rfl, rfl, st2.rep.cst, rfl, st2.rep.rhCount, st2.rep.clean, rfl, ?_, ?_, ?_, ?_⟩
    · intro i b h; simp at h
    · intro i b h; simp at h
    · intro i b h; simp at h
    · intro i j b b' h; simp at h
  · rintro a ⟨i, b, h, _⟩; simp at h
  · simp [nodes]
  · show p2.seen.reverse = w.seen.reverse
    rw [h2]

theorem clear_sim {s : LS} {t : HT} (r : Rep s t) {fuel : Nat} (hfuel : (nodes t).length ≤ fuel) (withCb : Bool) :
    Sim (fun x y => Step s t x.1 y.1 ∧ x.2 = y.2) (clear hf fuel s withCb) (Hash.clear hf t withCb) :=
  clear_refines hf r hfuel withCb

end Cstl.HashL
