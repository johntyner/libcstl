import Cstl.HashL.Clean
import Cstl.Hash.Enum
namespace Cstl.HashL
open Cstl.SList (upd upd_same upd_other)
open Cstl.Hash (HashId Node HT R nodes wr rd)

variable (hf : HashId → Nat → Nat → Nat)

theorem Rep.setKey {s : LS} {t : HT} (r : Rep s t) {e : Nat} (k : Nat) (hfresh : ¬ Owns t e) : Rep (s.setKey e k) t :=
  Rep.frame r (fun _ ha => ⟨rfl, upd_other _ _ _ _ (fun h => hfresh (h ▸ ha))⟩)

structure Inserted (s : LS) (t : HT) (k e : Nat) (s' : LS) (t' : HT) : Prop where
  rep : Rep s' t'
  own : ∀ a, Owns t' a → a = e ∨ Owns t a
  len : (nodes t').length ≤ (nodes t).length + 1
  key : s'.keyOf = upd s.keyOf e k
  frame : ∀ a, a ≠ e → ¬ Owns t a → s'.nxt a = s.nxt a

/-- **`cstl_hash_insert`**: for a non-NULL element that is in no chain, the
pointer code (keyed lookup, write the key, link at the chain head, count)
finishes and represents `Hash.insert hf t k e` -/
theorem insert_refines {s : LS} {t : HT} (r : Rep s t) {fuel : Nat} (hfuel : (nodes t).length ≤ fuel) (k e : Nat)
    (he0 : e ≠ 0) (hfresh : ¬ Owns t e) :
    Sim (fun s' t' => Inserted s t k e s' t') (insert hf fuel s k e) (Hash.insert hf t k e) := by
  rw [Hash.insert_unfold]
  unfold insert
  refine Sim.after_keyed hf r hfuel k (fun s1 t1 j st => ?_)
  unfold insertTail
  have hfr1 : ¬ Owns t1 e := fun h => hfresh (st.own e h)
  have r1 : Rep (s1.setKey e k) t1 := st.rep.setKey k hfr1
  rw [Hash.pushHead_bind]
  refine Sim.bind (Sim.chk_rd r1 j) ?_
  intro _ b hb _
  have hk : (s1.setKey e k).keyOf e = k := upd_same _ _ _
  have r2 := r1.pushHead (x := { key := k, id := e }) hb he0 hfr1 hk
  refine Sim.pure ⟨?_, ?_, ?_, ?_, ?_⟩
  · exact r2.scalars (size := congrArg (· + 1))
  · intro a ha
    have ha' : Owns (wr t1 j { b with chain := { key := k, id := e } :: b.chain }) a := (owns_congr rfl a).mp ha
    rcases (owns_pushHead hb _ a).mp ha' with h | h
    · exact Or.inl h
    · exact Or.inr (st.own a h)
  · have e1 := nodes_wr_len (b' := { b with chain := { key := k, id := e } :: b.chain }) hb
    have e2 := st.len
    simp at e1
    show (nodes (wr t1 j { b with chain := { key := k, id := e } :: b.chain })).length ≤ _
    omega
  · show upd s1.keyOf e k = _
    rw [st.key]
  · intro a hae hao
    show upd s1.nxt e _ a = _
    rw [upd_other _ _ _ _ hae]
    exact st.frame a hao

theorem insert_sim {s : LS} {t : HT} (r : Rep s t) {fuel : Nat} (hfuel : (nodes t).length ≤ fuel) (k e : Nat)
    (he0 : e ≠ 0) (hfresh : ¬ Owns t e) :
    Sim (fun s' t' => Inserted s t k e s' t') (insert hf fuel s k e) (Hash.insert hf t k e) :=
  insert_refines hf r hfuel k e he0 hfresh

theorem bucketForeach_null {π : Type} (visit : LS → π → Nat → LR (LS × π × Int)) (fuel : Nat) (s : LS) (p : π) :
    bucketForeach visit fuel s p 0 = pure (s, p, 0) := by
  cases fuel <;> simp [bucketForeach]

theorem bucketForeach_succ {π : Type} (visit : LS → π → Nat → LR (LS × π × Int)) (fuel : Nat) (s : LS) (p : π)
    {n : Nat} (hn : n ≠ 0) :
    bucketForeach visit (fuel + 1) s p n =
      (visit s p n >>= fun r => if r.2.2 ≠ 0 then pure r else bucketForeach visit fuel r.1 r.2.1 (s.nxt n)) := by
  simp [bucketForeach, hn]

/-- **the walk of `cstl_hash_find`** over the links of a chain: the memory is
untouched; the returned element and the offers made to the visit function are
those of `Hash.findWalk` on the chain -/
theorem findWalk_link (s : LS) (k : Nat) (acc : Option (Nat → Node → Bool)) :
    ∀ (c : List Node) (fuel : Nat) (n : Nat) (offers : List Node), Chain s.nxt n (ids c) →
      (∀ x ∈ c, s.nodeOf x.id = x) → c.length ≤ fuel →
      ∃ (p' : FindP) (res : Int),
        bucketForeach findVisit fuel s { k := k, visit := acc, e := 0, offers := offers } n = pure (s, p', res) ∧
        ((if p'.e = 0 then none else some (s.nodeOf p'.e)), p'.offers.reverse) = Hash.findWalk k acc c offers
  | [], fuel, n, offers, hc, _, _ => by
    have hn : n = 0 := hc
    subst hn
    exact ⟨_, _, bucketForeach_null _ _ _ _, by simp [Hash.findWalk]⟩
  | x :: c, 0, _, _, _, _, hl => by simp at hl
  | x :: c, fuel + 1, n, offers, hc, hk, hl => by
    obtain ⟨hn, hx0, hc'⟩ := hc
    subst hn
    have hkx : s.nodeOf x.id = x := hk x (by simp)
    have hkey : s.keyOf x.id = x.key := by rw [← hkx]; rfl
    have hl' : c.length ≤ fuel := by simp at hl; omega
    have hk' : ∀ y ∈ c, s.nodeOf y.id = y := fun y hy => hk y (by simp [hy])
    rw [bucketForeach_succ _ _ _ _ hx0]
    by_cases hxk : x.key = k
    · cases acc with
      | none =>
        refine ⟨{ k := k, visit := none, e := x.id, offers := offers }, 1, ?_, ?_⟩
        · simp [findVisit, hkey, hxk]
        · simp [Hash.findWalk, hxk, hx0, hkx]
      | some f =>
        by_cases hacc : f offers.length x = true
        · refine ⟨{ k := k, visit := some f, e := x.id, offers := x :: offers }, 1, ?_, ?_⟩
          · simp [findVisit, hkey, hxk, hkx, hacc]
          · simp [Hash.findWalk, hxk, hx0, hkx, hacc]
        · obtain ⟨p', res, h1, h2⟩ := findWalk_link s k (some f) c fuel (s.nxt x.id) (x :: offers) hc' hk' hl'
          refine ⟨p', res, ?_, ?_⟩
          · simp [findVisit, hkey, hxk, hkx, hacc, h1]
          · rw [h2]; simp [Hash.findWalk, hxk, hacc]
    · obtain ⟨p', res, h1, h2⟩ := findWalk_link s k acc c fuel (s.nxt x.id) offers hc' hk' hl'
      refine ⟨p', res, ?_, ?_⟩
      · simp [findVisit, hkey, hxk, h1]
      · rw [h2]; simp [Hash.findWalk, hxk]

/-- **`cstl_hash_find`**: same answer, same offers to the visit function, in the same order -/
theorem find_refines {s : LS} {t : HT} (r : Rep s t) {fuel : Nat} (hfuel : (nodes t).length ≤ fuel) (k : Nat)
    (acc : Option (Nat → Node → Bool)) :
    Sim (fun x y => Step s t x.1 y.1 ∧ x.2 = y.2) (find hf fuel s k acc) (Hash.find hf t k acc) := by
  rw [Hash.find_unfold]
  unfold find
  refine Sim.after_keyed hf r hfuel k (fun s1 t1 j st => ?_)
  refine Sim.bind (Sim.chk_rd st.rep j) ?_
  intro _ b hb _
  have hlen : b.chain.length ≤ fuel := Nat.le_trans (chain_le_nodes hb) (Nat.le_trans st.len hfuel)
  obtain ⟨p', res, h1, h2⟩ := findWalk_link s1 k acc b.chain fuel (s1.t.head j) [] (st.rep.chain j b hb)
    (fun x hx => st.rep.node_eq hb hx) hlen
  simp only [h1, pure_bind]
  exact Sim.pure ⟨st, h2⟩

theorem find_sim {s : LS} {t : HT} (r : Rep s t) {fuel : Nat} (hfuel : (nodes t).length ≤ fuel) (k : Nat)
    (acc : Option (Nat → Node → Bool)) :
    Sim (fun x y => Step s t x.1 y.1 ∧ x.2 = y.2) (find hf fuel s k acc) (Hash.find hf t k acc) :=
  find_refines hf r hfuel k acc

/-- the pointer-to-pointer is the address of a bucket head, or of the `next` of a node outside the chain -/
def LocOK (loc : Loc) (c : List Node) : Prop :=
  match loc with
  | .head _ => True
  | .next y => y ∉ ids c

theorem rdLoc_wrLoc_same (s : LS) (loc : Loc) (v : Nat) : (s.wrLoc loc v).rdLoc loc = v := by
  cases loc <;> simp [LS.wrLoc, LS.rdLoc, LS.setHead, LS.setNxt]

theorem rdLoc_wrLoc_other (s : LS) {loc loc' : Loc} (v : Nat) (h : loc ≠ loc') :
    (s.wrLoc loc' v).rdLoc loc = s.rdLoc loc := by
  cases loc <;> cases loc' <;> first | rfl | exact upd_other _ _ _ _ (fun e => h (e ▸ rfl))

theorem LocOK.ne {loc : Loc} {c : List Node} (h : LocOK loc c) {z : Nat} (hz : z ∈ ids c) : loc ≠ .next z := by
  rintro rfl; exact h hz

theorem wrLoc_keyOf (s : LS) (loc : Loc) (v : Nat) : (s.wrLoc loc v).keyOf = s.keyOf := by
  cases loc <;> rfl

theorem wrLoc_form (s : LS) (loc : Loc) (v : Nat) :
    s.wrLoc loc v = { nxt := (s.wrLoc loc v).nxt, keyOf := s.keyOf,
                      t := { s.t with head := (s.wrLoc loc v).t.head, bcst := s.t.bcst } } := by
  cases loc <;> rfl

structure Spliced (s : LS) (e : Nat) (loc : Loc) (c c' : List Node) (loc' : Loc) : Prop where
  at_e : s.rdLoc loc' = e
  e_ne : e ≠ 0
  chain : Chain (s.wrLoc loc' (s.nxt e)).nxt ((s.wrLoc loc' (s.nxt e)).rdLoc loc) (ids c')
  where_ : loc' = loc ∨ ∃ z ∈ ids c, loc' = .next z

/-- **the walk of `cstl_hash_erase`** with `cstl_hash_erase_visit`, and the
splice `*hep.n = (*hep.n)->next`: started with the pointer-to-pointer at `loc`
(whose target is the first node of the chain `c`), the walk leaves the memory
untouched; it returns 0 iff `Hash.unlink` finds no node with identity `e`;
otherwise it returns 1 with the pointer-to-pointer at the link that points to
`e`, and overwriting that link with `e->next` leaves exactly the chain
`Hash.unlink` computes. -/
theorem eraseWalk_link (s : LS) (e : Nat) :
    ∀ (c : List Node) (fuel : Nat) (loc : Loc), Chain s.nxt (s.rdLoc loc) (ids c) → c.length ≤ fuel → LocOK loc c →
      match Hash.unlink e c with
      | none => ∃ loc', bucketForeach eraseVisit fuel s { n := loc, e := e } (s.rdLoc loc) =
                  pure (s, { n := loc', e := e }, 0)
      | some c' => ∃ loc', bucketForeach eraseVisit fuel s { n := loc, e := e } (s.rdLoc loc) =
                  pure (s, { n := loc', e := e }, 1) ∧ Spliced s e loc c c' loc'
  | [], fuel, loc, hc, _, _ => by
    have hn : s.rdLoc loc = 0 := hc
    rw [hn]
    exact ⟨loc, bucketForeach_null _ _ _ _⟩
  | x :: c, 0, _, _, hl, _ => by simp at hl
  | x :: c, fuel + 1, loc, hc, hl, hok => by
    have hc0 : Chain s.nxt (s.rdLoc loc) (x.id :: ids c) := hc
    have hnd : (x.id :: ids c).Nodup := hc0.nodup
    obtain ⟨hn, hx0, hc'⟩ := hc0
    rw [hn, bucketForeach_succ _ _ _ _ hx0]
    by_cases hxe : x.id = e
    · have hu : Hash.unlink e (x :: c) = some c := by simp [Hash.unlink, hxe]
      rw [hu]
      refine ⟨loc, by simp [eraseVisit, hxe], by rw [hn, hxe], hxe ▸ hx0, ?_, Or.inl rfl⟩
      rw [rdLoc_wrLoc_same, ← hxe]
      exact hc'.transfer fun a ha => rdLoc_wrLoc_other s (loc := .next a) _ (hok.ne (List.mem_cons_of_mem _ ha)).symm
    · have hl' : c.length ≤ fuel := by simp at hl; omega
      have hok' : LocOK (.next x.id) c := (List.nodup_cons.mp hnd).1
      have ih := eraseWalk_link s e c fuel (.next x.id) hc' hl' hok'
      have hstep : (eraseVisit s { n := loc, e := e } x.id >>= fun r =>
            if r.2.2 ≠ 0 then pure r else bucketForeach eraseVisit fuel r.1 r.2.1 (s.nxt x.id)) =
          bucketForeach eraseVisit fuel s { n := .next x.id, e := e } (s.rdLoc (.next x.id)) := by
        have hv : eraseVisit s { n := loc, e := e } x.id = pure (s, { n := .next x.id, e := e }, 0) := by
          simp [eraseVisit, Ne.symm hxe, hn]
        rw [hv, pure_bind]
        rfl
      rw [hstep]
      cases hu : Hash.unlink e c with
      | none =>
        have hu' : Hash.unlink e (x :: c) = none := by simp [Hash.unlink, hxe, hu]
        rw [hu'] ; rw [hu] at ih
        exact ih
      | some c1 =>
        have hu' : Hash.unlink e (x :: c) = some (x :: c1) := by simp [Hash.unlink, hxe, hu]
        rw [hu']; rw [hu] at ih
        obtain ⟨loc', h1, sp⟩ := ih
        refine ⟨loc', h1, sp.at_e, sp.e_ne, ?_, ?_⟩
        · -- the write goes to the `next` of a node of the chain: `loc` is not affected
          obtain ⟨z, hz, hloc'⟩ : ∃ z ∈ ids (x :: c), loc' = .next z := by
            rcases sp.where_ with h | ⟨z, hz, h⟩
            · exact ⟨x.id, by simp, h⟩
            · exact ⟨z, by simp [hz], h⟩
          rw [rdLoc_wrLoc_other s _ (hloc' ▸ hok.ne hz), hn]
          exact ⟨rfl, hx0, sp.chain⟩
        · rcases sp.where_ with h | ⟨z, hz, h⟩
          · exact Or.inr ⟨x.id, by simp, h⟩
          · exact Or.inr ⟨z, by simp [hz], h⟩

theorem erase_unfold (fuel : Nat) (s : LS) (e : Nat) :
    erase hf fuel s e = (keyed hf fuel s (s.keyOf e) >>= fun r => eraseTail fuel r.1 r.2 e) := rfl

/-- the part of `Hash.erase` after the keyed lookup (what `eraseTail` is at link level) -/
def absEraseTail (t1 : HT) (j e : Nat) : R HT :=
  rd t1 j >>= fun b =>
    match Hash.unlink e b.chain with
    | some c => pure { wr t1 j { b with chain := c } with size := t1.size - 1 }
    | none => pure t1

/-- what the unlinking did: a `Step`; the geometry is untouched; the only
`next` field written belonged to the node whose successor was `e` -/
structure Erased (s : LS) (t : HT) (e : Nat) (s' : LS) (t' : HT) : Prop where
  step : Step s t s' t'
  geom : Hash.WGeom t t'
  fine : ∀ a, s.nxt a ≠ e → s'.nxt a = s.nxt a

theorem eraseTail_sim {s1 : LS} {t1 : HT} (r1 : Rep s1 t1) {fuel : Nat} (hfuel : (nodes t1).length ≤ fuel) (j e : Nat) :
    Sim (fun s' t' => Erased s1 t1 e s' t') (eraseTail fuel s1 j e) (absEraseTail t1 j e) := by
  unfold eraseTail absEraseTail
  refine Sim.bind (Sim.chk_rd r1 j) ?_
  intro _ b hb _
  have hlen : b.chain.length ≤ fuel := Nat.le_trans (chain_le_nodes hb) hfuel
  have hw := eraseWalk_link s1 e b.chain fuel (.head j) (r1.chain j b hb) hlen trivial
  cases hu : Hash.unlink e b.chain with
  | none =>
    rw [hu] at hw
    obtain ⟨loc', h1⟩ := hw
    have h1' : bucketForeach eraseVisit fuel s1 { n := .head j, e := e } (s1.t.head j) =
        pure (s1, { n := loc', e := e }, 0) := h1
    simp only [h1', pure_bind]
    exact Sim.pure ⟨Step.refl r1, Hash.WGeom.refl t1, fun _ _ => rfl⟩
  | some c' =>
    rw [hu] at hw
    obtain ⟨loc', h1, sp⟩ := hw
    have h1' : bucketForeach eraseVisit fuel s1 { n := .head j, e := e } (s1.t.head j) =
        pure (s1, { n := loc', e := e }, 1) := h1
    have hne : s1.rdLoc loc' ≠ 0 := by rw [sp.at_e]; exact sp.e_ne
    simp only [h1', pure_bind]
    rw [if_pos (by decide), if_neg hne, sp.at_e]
    obtain ⟨x, hx, hxid, hperm, hsub⟩ := Hash.unlink_some hu
    have hsub' : ∀ a ∈ ids c', a ∈ ids b.chain := by
      intro a ha
      obtain ⟨n, hn, rfl⟩ := mem_ids.mp ha
      exact mem_ids.mpr ⟨n, hsub n hn, rfl⟩
    -- the one link written is the head of bucket `j` or the `next` of a node of its chain, and it pointed to `e`
    have hhead : ∀ i, i ≠ j → (s1.wrLoc loc' (s1.nxt e)).t.head i = s1.t.head i := fun i hi =>
      rdLoc_wrLoc_other s1 (loc := .head i) _ (by rcases sp.where_ with h | ⟨z, _, h⟩ <;> rw [h] <;> simp [hi])
    have hnxt : ∀ a, a ∉ ids b.chain → (s1.wrLoc loc' (s1.nxt e)).nxt a = s1.nxt a := fun a ha =>
      rdLoc_wrLoc_other s1 (loc := .next a) _ (by
        rcases sp.where_ with h | ⟨z, hz, h⟩ <;> rw [h]
        · simp
        · exact fun h' => ha (Loc.next.inj h' ▸ hz))
    have hfine : ∀ a, s1.nxt a ≠ e → (s1.wrLoc loc' (s1.nxt e)).nxt a = s1.nxt a := fun a ha =>
      rdLoc_wrLoc_other s1 (loc := .next a) _ (fun h' => ha (by rw [← sp.at_e, ← h']; rfl))
    have r2 : Rep (s1.wrLoc loc' (s1.nxt e)) (wr t1 j { b with chain := c' }) := by
      rw [wrLoc_form]
      refine r1.update hb _ s1.keyOf _ s1.t.bcst c' b.cst sp.chain (r1.bits j b hb)
        (fun n hn => r1.keys j b hb n (hsub n hn)) hhead (fun _ _ => rfl) ?_ ?_
      · intro i bi hi hbi a ha
        exact ⟨hnxt a (fun h => r1.not_other hb h hi hbi ha), rfl⟩
      · intro i bi hi hbi a ha
        exact r1.not_other hb (hsub' a ha) hi hbi
    have st2 : Step s1 t1 (s1.wrLoc loc' (s1.nxt e)) (wr t1 j { b with chain := c' }) := by
      refine ⟨r2, fun a ha => owns_wr_sub hb hsub' ha, ?_, wrLoc_keyOf _ _ _, ?_⟩
      · have e1 := nodes_wr_len (b' := { b with chain := c' }) hb
        have e2 := hperm.length_eq
        simp at e1 e2
        omega
      · intro a ha
        exact hnxt a (fun h => ha ⟨j, b, hb, h⟩)
    have hsz : (s1.wrLoc loc' (s1.nxt e)).t.size = t1.size := by
      rw [← r1.size]; cases loc' <;> rfl
    refine Sim.pure ⟨st2.trans ?_, ⟨rfl, rfl, rfl, rfl, wr_size _ _ _, rfl⟩, hfine⟩
    exact Step.scalars r2 (size := fun _ => congrArg (· - 1) hsz)

/-- **`cstl_hash_erase`**: unlinking by pointer identity through the
pointer-to-pointer walk represents `Hash.erase hf t (key field of e) e`;
a no-op (also at link level) for an element that is not in the bucket -/
theorem erase_refines {s : LS} {t : HT} (r : Rep s t) {fuel : Nat} (hfuel : (nodes t).length ≤ fuel) (e : Nat) :
    Sim (fun s' t' => Step s t s' t') (erase hf fuel s e) (Hash.erase hf t (s.keyOf e) e) := by
  rw [Hash.erase_unfold, erase_unfold]
  refine Sim.after_keyed hf r hfuel _ (fun s1 t1 j st => ?_)
  refine (eraseTail_sim st.rep (Nat.le_trans st.len hfuel) j e).mono ?_
  intro s' t' h _
  exact st.trans h.step

theorem erase_sim {s : LS} {t : HT} (r : Rep s t) {fuel : Nat} (hfuel : (nodes t).length ≤ fuel) (e : Nat) :
    Sim (fun s' t' => Step s t s' t') (erase hf fuel s e) (Hash.erase hf t (s.keyOf e) e) :=
  erase_refines hf r hfuel e

/-- with no rehash pending the keyed lookup touches nothing -/
theorem erase_settled_sim {s : LS} {t : HT} (r : Rep s t) {fuel : Nat} (hfuel : (nodes t).length ≤ fuel) (e : Nat)
    (hs : t.rhHash = none) :
    Sim (fun s' t' => Erased s t e s' t') (erase hf fuel s e) (Hash.erase hf t (s.keyOf e) e) := by
  rw [Hash.erase_unfold, erase_unfold, Hash.keyed_unfold]
  unfold keyed
  have hs' : s.t.rhHash = none := by rw [r.rhHash]; exact hs
  simp only [hs, hs', Option.isSome_none, Bool.false_eq_true, if_false]
  rw [bind_assoc, R_bind_assoc, r.hash, r.count]
  refine Sim.bind (getBucket_sim hf _ _ _) ?_
  rintro i _ rfl _
  rw [pure_bind, R_pure_bind]
  exact eraseTail_sim r hfuel i e

end Cstl.HashL
