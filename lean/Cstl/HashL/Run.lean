import Cstl.HashL.Model
import Cstl.Hash.Run
/-
The history level at link level (definitions only): two tables over ONE memory of `next` / `key` fields.
-/
namespace Cstl.HashL
open Cstl.SList (Mem)
open Cstl.Hash (HashId Node Op Out KOp)

variable (hf : HashId → Nat → Nat → Nat)

/-- the memory of the elements' hash nodes and two tables -/
structure LSys where
  nxt : Mem
  keyOf : Mem
  a : LT
  b : LT

/-- both tables as left by `cstl_hash_init` -/
def LSys.init : LSys := { nxt := fun _ => 0, keyOf := fun _ => 0, a := LT.init, b := LT.init }

def LSys.sel (s : LSys) (tb : Bool) : LS := { nxt := s.nxt, keyOf := s.keyOf, t := if tb then s.b else s.a }
def LSys.put (s : LSys) (tb : Bool) (x : LS) : LSys :=
  if tb then { nxt := x.nxt, keyOf := x.keyOf, a := s.a, b := x.t }
  else { nxt := x.nxt, keyOf := x.keyOf, a := x.t, b := s.b }

/-- fuel of the chain loops: the table's element count -/
def LS.fuel (s : LS) : Nat := s.t.size

/-- one operation on the link-level system (cf. `Hash.step`) -/
def lstep (s : LSys) : Op → LR (LSys × Out)
  | .insert tb k e => do
    let x ← insert hf (s.sel tb).fuel (s.sel tb) k e
    pure (s.put tb x, .unit)
  | .find tb k acc => do
    let r ← find hf (s.sel tb).fuel (s.sel tb) k acc
    pure (s.put tb r.1, .found r.2.1 r.2.2)
  | .erase tb e => do
    let x ← erase hf (s.sel tb).fuel (s.sel tb) e
    pure (s.put tb x, .unit)
  | .resize tb n f oracle => do
    let x ← resize hf (s.sel tb).fuel oracle (s.sel tb) n f
    pure (s.put tb x, .unit)
  | .rehash tb => do
    let x ← rehash hf (s.sel tb).fuel (s.sel tb)
    pure (s.put tb x, .unit)
  | .shrink tb oracle => do
    let x ← shrink hf (s.sel tb).fuel oracle (s.sel tb)
    pure (s.put tb x, .unit)
  | .swap => pure ({ s with a := s.b, b := s.a }, .unit)
  | .foreach tb visit => do
    let r ← foreach hf (s.sel tb).fuel (s.sel tb) visit
    pure (s.put tb r.1, .visited r.2.1 r.2.2)
  | .foreachConst tb visit => do
    let r ← foreachConst hf (s.sel tb).fuel (s.sel tb) visit
    pure (s, .visited r.1 r.2)
  | .clear tb withCb => do
    let r ← clear hf (s.sel tb).fuel (s.sel tb) withCb
    pure (s.put tb r.1, .visited 0 r.2)

def lrun (s : LSys) : List Op → LR (LSys × List Out)
  | [] => pure (s, [])
  | op :: ops => do
    let r ← lstep hf s op
    let r' ← lrun r.1 ops
    pure (r'.1, r.2 :: r'.2)

/-- elements are passed by non-NULL pointers -/
def NonNull : Op → Prop
  | .insert _ _ e => e ≠ 0
  | _ => True

/-- every inserted element is non-NULL -/
def NonNullAll (ops : List Op) : Prop := ∀ op ∈ ops, NonNull op

/-- a keyed operation on one table at link level (cf. `Hash.kstep`); `erase`
reads the key from the element's `key` field -/
def lkstep (fuel : Nat) (s : LS) : KOp → LR LS
  | .insert k e => insert hf fuel s k e
  | .find k acc => do
    let r ← find hf fuel s k acc
    pure r.1
  | .erase _ e => erase hf fuel s e

/-- a sequence of keyed operations on one table at link level (cf. `Hash.krun`) -/
def lkrun (fuel : Nat) (s : LS) : List KOp → LR LS
  | [] => pure s
  | op :: ops => do
    let s' ← lkstep hf fuel s op
    lkrun fuel s' ops

end Cstl.HashL
