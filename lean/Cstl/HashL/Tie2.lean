import Cstl.Gen.HashLC2
import Cstl.HashL.Monad
import Cstl.HashL.Run
/-
Translator tie, second part, for src/hash.c: the definitions in
`Cstl/Gen/HashLC2.lean` are regenerated from /repo's src/hash.c (and the inline
functions of include/cstl/hash.h) by tools/c2lean_hash2.py on every check run;
the theorems below (hand-written, fixed) state that the hand-written link-level
model functions of `Cstl/HashL/Model.lean` are those translations.

`obs` compares result / stop kind, hash-call log and allocation events (the
model's ghost relocation counter has no counterpart in the C code).  The loops
over bucket indices are recursion on the loop fuel `lf` in the translation and
structural recursion on `count - clean` (resp. the loop bound) in the model:
the ties hold for every `lf` that is at least the number of buckets involved.
`SIZE_MAX` sweeps (`cstl_hash_rehash`) are the model's unbounded sweep for every
table with fewer than 2^64 buckets.
-/
namespace Cstl.HashL.Tie2
open Cstl.HashL Cstl.Gen.HashLC2
open Cstl.Hash (HashId Stop Call AllocEv Node mulId pickHash)

variable (hf : HashId → Nat → Nat → Nat)

theorem hang_bind {α β : Type} (f : α → LR β) : ((hang : LR α) >>= f) = hang := rfl
theorem stop_bind {α β : Type} (e : Stop) (f : α → LR β) : ((stop e : LR α) >>= f) = stop e := rfl

theorem bind_pure_id {α : Type} (m : LR α) : (m >>= fun a => pure a) = m := by
  cases hv : m.val with
  | error e => exact LR.ext' (bind_err hv).2 ((bind_err hv).1.trans hv.symm)
  | ok a =>
    apply LR.ext'
    · rw [(bind_ok hv).2]; apply Hash.Tr.ext' <;> simp [Hash.Tr.append]
    · rw [(bind_ok hv).1, hv]; rfl

theorem bind_congr_val {α β : Type} (m : LR α) {f g : α → LR β} (h : ∀ a, m.val = .ok a → f a = g a) :
    (m >>= f) = (m >>= g) := by
  cases hv : m.val with
  | error e => exact LR.ext' ((bind_err hv).2.trans (bind_err hv).2.symm) ((bind_err hv).1.trans (bind_err hv).1.symm)
  | ok a =>
    apply LR.ext'
    · rw [(bind_ok hv).2, (bind_ok hv).2, h a hv]
    · rw [(bind_ok hv).1, (bind_ok hv).1, h a hv]

/-- what a tie "up to the ghost counter" compares: result / stop kind, hash-call log, allocation events -/
def obs {α : Type} (m : LR α) : Except LStop α × List Call × List AllocEv := (m.val, m.tr.calls, m.tr.evs)

/-- `obs` is a congruence for `>>=` -/
theorem obs_bind {α β : Type} {m m' : LR α} {f g : α → LR β} (hm : obs m = obs m')
    (h : ∀ a, m'.val = .ok a → obs (f a) = obs (g a)) : obs (m >>= f) = obs (m' >>= g) := by
  simp only [obs, Prod.mk.injEq] at hm
  cases hv : m'.val with
  | error e =>
    have hv' : m.val = .error e := hm.1.trans hv
    simp [obs, (bind_err (f := f) hv').1, (bind_err (f := f) hv').2, (bind_err (f := g) hv).1, (bind_err (f := g) hv).2,
      hm.2.1, hm.2.2]
  | ok a =>
    have hv' : m.val = .ok a := hm.1.trans hv
    have := h a hv
    simp only [obs, Prod.mk.injEq] at this
    simp [obs, (bind_ok (f := f) hv').1, (bind_ok (f := f) hv').2, (bind_ok (f := g) hv).1, (bind_ok (f := g) hv).2,
      Hash.Tr.append, this.1, this.2.1, this.2.2, hm.2.1, hm.2.2]

/-- the same when the left computation returns more than the right one (loop variables of the translation) -/
theorem obs_bind_map {α β γ : Type} (g : α → β) {m : LR α} {m' : LR β} {f : α → LR γ} {f' : β → LR γ}
    (hm : obs (m >>= fun a => pure (g a)) = obs m')
    (h : ∀ a, m'.val = .ok (g a) → obs (f a) = obs (f' (g a))) : obs (m >>= f) = obs (m' >>= f') := by
  simp only [obs, Prod.mk.injEq] at hm
  cases hv : m.val with
  | error e =>
    rw [(bind_err hv).1, (bind_err hv).2] at hm
    have hv' : m'.val = .error e := hm.1.symm
    simp [obs, (bind_err (f := f) hv).1, (bind_err (f := f) hv).2, (bind_err (f := f') hv').1,
      (bind_err (f := f') hv').2, hm.2.1, hm.2.2]
  | ok a =>
    rw [(bind_ok hv).1, (bind_ok hv).2] at hm
    have hv' : m'.val = .ok (g a) := hm.1.symm
    have := h a hv'
    simp only [obs, Prod.mk.injEq] at this
    have hm2 := hm.2
    simp [Hash.Tr.append] at hm2
    simp [obs, (bind_ok (f := f) hv).1, (bind_ok (f := f) hv).2, (bind_ok (f := f') hv').1, (bind_ok (f := f') hv').2,
      Hash.Tr.append, this.1, this.2.1, this.2.2, hm2.1, hm2.2]

theorem obs_bind_right {α β : Type} (m : LR α) {f g : α → LR β} (h : ∀ a, m.val = .ok a → obs (f a) = obs (g a)) :
    obs (m >>= f) = obs (m >>= g) := obs_bind rfl h

theorem obs_tick {α : Type} (k : LR α) : obs (tickReloc >>= fun _ => k) = obs k := by
  have hv : (tickReloc : LR Unit).val = .ok () := rfl
  have h := bind_ok (f := fun _ => k) hv
  unfold obs
  rw [h.1, h.2]
  simp [tickReloc, Hash.Tr.append]

/-! ### the chain functions (as in `Tie.lean`, against this module) -/

theorem getBucket_tie (s : LS) (k : Nat) (f : Option HashId) (m : Nat) :
    c_priv_cstl_hash_get_bucket hf s k f m = getBucket hf f k m := rfl

/-- the `HASH_LIST_FOREACH` loop of `cstl_clean_bucket`: it ends with `n = nn = NULL` -/
theorem relink_tie (bk : Nat) : ∀ (fuel : Nat) (s : LS) (n nn : Nat),
    c_cstl_clean_bucket_loop1 hf bk fuel s n nn = (relink hf fuel s nn >>= fun s' => pure (s', 0, 0))
  | 0, s, n, nn => by
    simp only [c_cstl_clean_bucket_loop1, relink]
    by_cases h : nn = 0
    · subst h; simp
    · simp [h, hang_bind]
  | fuel + 1, s, n, nn => by
    simp only [c_cstl_clean_bucket_loop1, relink]
    by_cases h : nn = 0
    · subst h; simp
    · simp only [h, ne_eq, not_false_eq_true, if_true, if_false, getBucket_tie, bind_assoc]
      congr 1
      funext j
      congr 1
      funext _
      exact relink_tie bk fuel _ _ _

/-- `cstl_clean_bucket`: the translation is the model without its ghost relocation counter -/
theorem cleanBucket_tie (fuel : Nat) (s : LS) (bk : Nat) :
    obs (c_cstl_clean_bucket hf fuel s bk) = obs (cleanBucket hf fuel s bk) := by
  unfold c_cstl_clean_bucket cleanBucket
  refine obs_bind_right _ (fun _ _ => ?_)
  by_cases h : s.t.cst ≠ s.t.bcst bk
  · rw [if_pos h, if_pos h]
    simp only [relink_tie, bind_assoc, pure_bind]
    refine obs_bind_right _ (fun s2 _ => ?_)
    exact (obs_tick _).symm
  · rw [if_neg h, if_neg h]

/-- the loop of `cstl_hash_bucket_foreach`, entered with `res = 0` -/
theorem bucketForeach_loop_tie {π : Type} (visit : LS → π → Nat → LR (LS × π × Int)) :
    ∀ (fuel : Nat) (s : LS) (p : π) (n nn : Nat),
      (c_cstl_hash_bucket_foreach_loop1 visit fuel s p n nn 0 >>= fun l => pure (l.1, l.2.1, l.2.2.2.2)) =
        bucketForeach visit fuel s p nn
  | 0, s, p, n, nn => by
    simp only [c_cstl_hash_bucket_foreach_loop1, bucketForeach]
    by_cases h : nn = 0
    · subst h; simp
    · simp [h, hang_bind]
  | fuel + 1, s, p, n, nn => by
    simp only [c_cstl_hash_bucket_foreach_loop1, bucketForeach]
    by_cases h : nn = 0
    · subst h; simp
    · simp only [h, ne_eq, not_false_eq_true, if_true, if_false, bind_assoc]
      congr 1
      funext r
      by_cases hr : r.2.2 = 0
      · simp only [hr, not_true_eq_false, if_false]
        exact bucketForeach_loop_tie visit fuel _ _ _ _
      · simp [hr]

theorem bucketForeach_tie {π : Type} (visit : LS → π → Nat → LR (LS × π × Int)) (fuel : Nat) (s : LS) (n : Nat) (p : π) :
    c_cstl_hash_bucket_foreach visit fuel s n p = bucketForeach visit fuel s p n := by
  unfold c_cstl_hash_bucket_foreach
  exact bucketForeach_loop_tie visit fuel s p n n

theorem eraseVisit_tie (s : LS) (p : EraseP) (e : Nat) : c_cstl_hash_erase_visit s p e = eraseVisit s p e := by
  unfold c_cstl_hash_erase_visit eraseVisit
  split <;> rfl

/-- the bucket counts (what the bounds of the bucket loops depend on) -/
def Geo (s s' : LS) : Prop :=
  s'.t.count = s.t.count ∧ s'.t.rhCount = s.t.rhCount

theorem Geo.refl (s : LS) : Geo s s := ⟨rfl, rfl⟩
theorem Geo.trans {a b c : LS} (h1 : Geo a b) (h2 : Geo b c) : Geo a c :=
  ⟨h2.1.trans h1.1, h2.2.trans h1.2⟩

/-- the chain functions keep the geometry and the sweep index -/
def Fr (s s' : LS) : Prop := Geo s s' ∧ s'.t.clean = s.t.clean

theorem relink_frame : ∀ (fuel : Nat) (s : LS) (n : Nat), (relink hf fuel s n).Ok (Fr s)
  | 0, s, n => by
    unfold relink
    exact .ite (.pure ⟨Geo.refl s, rfl⟩) .hang
  | fuel + 1, s, n => by
    unfold relink
    exact .ite (.pure ⟨Geo.refl s, rfl⟩) (.bind (.triv _) fun j _ => .bind (.triv _) fun _ _ => relink_frame fuel _ _)

theorem cleanBucket_frame (fuel : Nat) (s : LS) (i : Nat) : (cleanBucket hf fuel s i).Ok (Fr s) := by
  unfold cleanBucket
  refine .bind (.triv _) fun _ _ => .ite ?_ (.pure ⟨Geo.refl s, rfl⟩)
  exact .bind (relink_frame hf fuel _ _) fun s2 h2 => .bind (.triv _) fun _ _ => .bind (.triv _) fun _ _ => .pure h2

/-- first loop of `__cstl_hash_rehash` (skip the buckets that are clean already) -/
theorem skipClean_tie : ∀ (lf : Nat) (s : LS) (d : Nat), s.t.count - s.t.clean ≤ lf → s.t.count - s.t.clean ≤ d →
    c_priv_cstl_hash_rehash_loop1 lf s = skipClean s d
  | 0, s, d, h1, _ => by
    have hc : ¬ s.t.clean < s.t.count := by omega
    unfold c_priv_cstl_hash_rehash_loop1
    cases d with
    | zero => simp [skipClean, hc]
    | succ d => simp [skipClean, hc]
  | lf + 1, s, d, h1, h2 => by
    unfold c_priv_cstl_hash_rehash_loop1
    by_cases hc : s.t.clean < s.t.count
    · cases d with
      | zero => omega
      | succ d =>
        simp only [skipClean, hc, if_true]
        congr 1
        funext _
        by_cases hb : s.t.bcst s.t.clean = s.t.cst
        · simp only [hb, if_true]
          exact skipClean_tie lf _ d (by simp [LS.setClean]; omega) (by simp [LS.setClean]; omega)
        · simp [hb]
    · cases d with
      | zero => simp [skipClean, hc]
      | succ d => simp [skipClean, hc]

theorem skipClean_frame : ∀ (d : Nat) (s : LS), (skipClean s d).Ok (Geo s)
  | 0, s => .pure (Geo.refl s)
  | d + 1, s => by
    unfold skipClean
    exact .ite (.bind (.triv _) fun _ _ => .ite (skipClean_frame d _) (.pure (Geo.refl s))) (.pure (Geo.refl s))

/-- second loop of `__cstl_hash_rehash` (clean at most `n` buckets from the sweep index on) -/
theorem sweep_tie (fuel : Nat) : ∀ (lf : Nat) (s : LS) (n d : Nat), s.t.count - s.t.clean ≤ lf → s.t.count - s.t.clean ≤ d →
    obs (c_priv_cstl_hash_rehash_loop2 hf fuel lf s n >>= fun r => pure r.1) = obs (sweep hf fuel s (some n) d)
  | 0, s, n, d, h1, _ => by
    have hc : ¬ s.t.clean < s.t.count := by omega
    unfold c_priv_cstl_hash_rehash_loop2
    cases d with
    | zero => simp [sweep, hc]
    | succ d => simp [sweep, hc]
  | lf + 1, s, n, d, h1, h2 => by
    unfold c_priv_cstl_hash_rehash_loop2
    by_cases hc : s.t.clean < s.t.count ∧ n > 0
    · cases d with
      | zero => omega
      | succ d =>
        have hc' : s.t.clean < s.t.count ∧ some n ≠ some 0 := ⟨hc.1, by simp; omega⟩
        rw [sweep, if_pos hc, if_pos hc']
        simp only [bind_assoc]
        refine obs_bind (cleanBucket_tie hf fuel s s.t.clean) (fun s' hs' => ?_)
        have fr := cleanBucket_frame hf fuel s _ s' hs'
        exact sweep_tie fuel lf _ (n - 1) d (by simp [LS.setClean, fr.1.1, fr.2]; omega)
          (by simp [LS.setClean, fr.1.1, fr.2]; omega)
    · have hc' : ¬ (s.t.clean < s.t.count ∧ some n ≠ some 0) := by
        intro h; apply hc; refine ⟨h.1, ?_⟩
        have := h.2; simp at this; omega
      rw [if_neg hc]
      cases d with
      | zero => simp [sweep]
      | succ d => rw [sweep, if_neg hc']; simp

/-- a sweep bounded by at least the number of buckets left is the unbounded sweep (`SIZE_MAX`) -/
theorem sweep_none (fuel : Nat) : ∀ (d : Nat) (s : LS) (n : Nat), d ≤ n →
    sweep hf fuel s (some n) d = sweep hf fuel s none d
  | 0, s, n, _ => by simp [sweep]
  | d + 1, s, n, h => by
    have h0 : (some n : Option Nat) ≠ some 0 := by simp; omega
    simp only [sweep, h0, ne_eq, not_false_eq_true, and_true, reduceCtorEq]
    by_cases hc : s.t.clean < s.t.count
    · simp only [hc, if_true]
      congr 1
      funext s'
      exact sweep_none fuel d _ (n - 1) (by omega)
    · simp [hc]

theorem sweep_frame (fuel : Nat) : ∀ (d : Nat) (s : LS) (n : Option Nat), (sweep hf fuel s n d).Ok (Geo s)
  | 0, s, n => .pure (Geo.refl s)
  | d + 1, s, n => by
    unfold sweep
    refine .ite (.bind (cleanBucket_frame hf fuel s _) fun s1 h1 => ?_) (.pure (Geo.refl s))
    exact fun s' h => h1.1.trans (sweep_frame fuel d (s1.setClean _) _ s' h : Geo (s1.setClean _) s')

/-- `__cstl_hash_rehash(h, n)`: skip, sweep, adopt the pending geometry when the sweep index reached the count -/
theorem rehashN_tie (fuel lf : Nat) (s : LS) (n : Nat) (hlf : s.t.count ≤ lf) :
    obs (c_priv_cstl_hash_rehash hf fuel lf s n) = obs (rehashN hf fuel s (some n)) := by
  unfold c_priv_cstl_hash_rehash rehashN
  rw [skipClean_tie lf s (s.t.count - s.t.clean) (by omega) (Nat.le_refl _)]
  refine obs_bind_right _ (fun s1 h1 => ?_)
  have f1 := skipClean_frame _ _ _ h1
  have := sweep_tie hf fuel lf s1 n (s1.t.count - s1.t.clean) (by rw [f1.1]; omega) (Nat.le_refl _)
  refine obs_bind_map (fun r => r.1) this (fun r _ => ?_)
  generalize r.1 = s2
  by_cases hc : s2.t.count ≤ s2.t.clean
  · simp only [hc, if_true]
  · simp only [hc, if_false]

theorem rehashN_frame (fuel : Nat) (s : LS) (n : Option Nat) : (rehashN hf fuel s n).Ok (fun s' =>
    s'.t.rhCount = s.t.rhCount ∧ (s'.t.count = s.t.count ∨ s'.t.count = s.t.rhCount)) := by
  unfold rehashN
  refine .bind (skipClean_frame _ s) fun s1 f1 => .bind (sweep_frame hf fuel _ s1 n) fun s2 f2 => ?_
  have f := f1.trans f2
  exact .ite (.pure ⟨f.2, Or.inr f.2⟩) (.pure ⟨f.2, Or.inl f.1⟩)

/-- `cstl_hash_rehash`: the `SIZE_MAX` sweep is the model's unbounded one for every table with
fewer than 2^64 buckets -/
theorem rehash_tie (fuel lf : Nat) (s : LS) (hlf : s.t.count ≤ lf) (hsz : s.t.count < 2 ^ 64) :
    obs (c_cstl_hash_rehash hf fuel lf s) = obs (rehash hf fuel s) := by
  unfold c_cstl_hash_rehash rehash
  by_cases hp : s.t.rhHash.isSome
  · simp only [hp, if_true]
    rw [rehashN_tie hf fuel lf s _ hlf]
    unfold rehashN
    refine obs_bind_right _ (fun s1 h1 => ?_)
    have f1 := skipClean_frame _ _ _ h1
    rw [sweep_none hf fuel _ s1 18446744073709551615 (by rw [f1.1]; omega)]
  · simp [hp]

/-- `cstl_hash_get_bucket(h, k)`: bucket under the current geometry; while a rehash is pending the bucket
under the pending geometry, clean the OLD bucket, then the NEW one, sweep one more bucket, use the new one -/
theorem keyed_tie (fuel lf : Nat) (s : LS) (k : Nat) (hlf : s.t.count ≤ lf) :
    obs (c_cstl_hash_get_bucket hf fuel lf s k) = obs (keyed hf fuel s k) := by
  unfold c_cstl_hash_get_bucket keyed
  simp only [getBucket_tie, pure_bind]
  refine obs_bind_right _ (fun i _ => ?_)
  by_cases hp : s.t.rhHash.isSome
  · simp only [hp, if_true]
    refine obs_bind_right _ (fun j _ => ?_)
    refine obs_bind (cleanBucket_tie hf fuel s i) (fun s1 h1 => ?_)
    refine obs_bind (cleanBucket_tie hf fuel s1 j) (fun s2 h2 => ?_)
    have fr := (cleanBucket_frame hf fuel s i s1 h1).1.trans (cleanBucket_frame hf fuel s1 j s2 h2).1
    exact obs_bind (rehashN_tie hf fuel lf s2 1 (by rw [fr.1]; exact hlf)) (fun s3 _ => rfl)
  · simp [hp]

/-- `cstl_hash_find_visit`: only nodes with the sought key; no client function or the client's function
accepts: remember the element and stop the walk -/
theorem findVisit_tie (s : LS) (p : FindP) (e : Nat) : c_cstl_hash_find_visit s p e = findVisit s p e := by
  unfold c_cstl_hash_find_visit findVisit
  by_cases hk : s.keyOf e = p.k
  · simp only [hk, if_true]
    cases hv : p.visit with
    | none => simp
    | some acc =>
      simp only [Option.isNone_some, Bool.false_eq_true, if_false, callAccept, hv, pure_bind]
      by_cases ha : acc p.offers.length (s.nodeOf e) = true
      · simp [ha]
      · simp [ha]
  · simp [hk]

/-- `cstl_hash_find(h, k, visit, p)`: private data, keyed lookup, walk of the bucket's chain with
`cstl_hash_find_visit`; result: the remembered element (and the ghost log of offers) -/
theorem find_tie (fuel lf : Nat) (s : LS) (k : Nat) (accept : Option (Nat → Node → Bool)) (hlf : s.t.count ≤ lf) :
    obs (c_cstl_hash_find hf fuel lf s k accept >>= fun r =>
        pure (r.1, (if r.2.2 = 0 then none else some (r.1.nodeOf r.2.2)), r.2.1.offers.reverse)) =
      obs (find hf fuel s k accept) := by
  have hv : c_cstl_hash_find_visit = findVisit := by
    funext s p e; exact findVisit_tie s p e
  unfold c_cstl_hash_find find
  simp only [hv, bucketForeach_tie, bind_assoc, pure_bind]
  refine obs_bind (keyed_tie hf fuel lf s k hlf) (fun r _ => ?_)
  rfl

/-- `__cstl_hash_set_capacity(h, sz)`: the overflow guard `sz <= SIZE_MAX / sizeof(*at)`, the byte count
`sizeof(*at) * sz`, the realloc as an oracle step, adoption of the new array and capacity on success -/
theorem setCapacity_tie (oracle : Nat → Bool) (s : LS) (sz : Nat) :
    c_priv_cstl_hash_set_capacity oracle s sz = setCapacity oracle s sz := by
  unfold c_priv_cstl_hash_set_capacity setCapacity
  by_cases h : sz ≤ 18446744073709551615 / 16
  · have h' : ¬ (2 ^ 64 - 1) / 16 < sz := by omega
    simp only [h, h', if_true, if_false, reallocAt]
    by_cases h0 : sz = 0
    · subst h0; simp [stop_bind]
    · have hb : ¬ (16 * sz) % 2 ^ 64 = 0 := by omega
      have hd : (16 * sz) % 2 ^ 64 / 16 = sz := by omega
      simp only [h0, hb, if_false, bind_assoc, pure_bind]
      congr 1
      funext _
      by_cases ho : oracle ((16 * sz) % 2 ^ 64) = true
      · simp only [ho, if_true, Option.isSome_some, LS.setAt, hd]
        rfl
      · simp [ho]
  · have h' : (2 ^ 64 - 1) / 16 < sz := by omega
    simp [h, h']

theorem setCapacity_frame (oracle : Nat → Bool) (s : LS) (sz : Nat) : (setCapacity oracle s sz).Ok (fun s' =>
    s'.t.count = s.t.count ∧ s'.t.rhCount = s.t.rhCount ∧ s'.t.hash = s.t.hash ∧ s'.t.rhHash = s.t.rhHash) := by
  unfold setCapacity
  refine .ite (.pure ⟨rfl, rfl, rfl, rfl⟩) (.ite (.stop _) (.bind (.triv _) fun _ _ => ?_))
  exact .ite (.pure ⟨rfl, rfl, rfl, rfl⟩) (.pure ⟨rfl, rfl, rfl, rfl⟩)

/-- the bucket-initialisation loop of `cstl_hash_resize` (`for (i = h->bucket.count; i < count; i++)`) -/
theorem initBuckets_tie (n : Nat) : ∀ (lf : Nat) (s : LS) (i : Nat), n - i ≤ lf →
    (c_cstl_hash_resize_loop1 n lf s i >>= fun r => pure r.1) = initBuckets s i (n - i)
  | 0, s, i, h => by
    have hc : ¬ i < n := by omega
    have hd : n - i = 0 := by omega
    unfold c_cstl_hash_resize_loop1
    simp [hc, hd, initBuckets]
  | lf + 1, s, i, h => by
    unfold c_cstl_hash_resize_loop1
    by_cases hc : i < n
    · have hd : n - i = (n - (i + 1)) + 1 := by omega
      rw [hd, initBuckets]
      simp only [hc, if_true, bind_assoc]
      congr 1
      funext _
      exact initBuckets_tie n lf _ (i + 1) (by omega)
    · have hd : n - i = 0 := by omega
      simp [hc, hd, initBuckets]

theorem rehash_frame (fuel : Nat) (s : LS) : (rehash hf fuel s).Ok (fun s' =>
    s'.t.rhCount = s.t.rhCount ∧ (s'.t.count = s.t.count ∨ s'.t.count = s.t.rhCount)) := by
  unfold rehash
  exact .ite (rehashN_frame hf fuel s none) (.pure ⟨rfl, Or.inl rfl⟩)

/-- hand copy of the part of the translation of `cstl_hash_resize` after `cstl_hash_rehash(h)` (it is
connected to the regenerated translation by the definitional unfolding in `resize_tie`) -/
def cResizeTail (lf : Nat) (s2 : LS) (n : Nat) (f : Option HashId) : LR LS := do
  let s : LS := { s2 with t := { s2.t with cst := !s2.t.cst } }
  let l5 ← c_cstl_hash_resize_loop1 n lf s s.t.count
  let s := l5.1
  let s ← do
    if f.isSome then
      let s := { s with t := { s.t with rhHash := f } }
      pure s
    else
      if s.t.hash.isSome then
        let s := { s with t := { s.t with rhHash := s.t.hash } }
        pure s
      else
        let s := { s with t := { s.t with rhHash := (some mulId) } }
        pure s
  let s : LS := { s with t := { s.t with rhCount := n } }
  let s := s.setClean 0
  if s.t.hash.isNone then
    let s : LS := { s with t := { s.t with hash := s.t.rhHash } }
    let s : LS := { s with t := { s.t with count := s.t.rhCount } }
    let s : LS := { s with t := { s.t with rhHash := none } }
    pure s
  else
    pure s

/-- the part of `cstl_hash_resize` after the pending rehash has been forced: flip the table's clean bit,
initialise the added buckets, install the pending geometry (the given function, else the current one, else
`cstl_hash_mul`), the first-resize shortcut -/
theorem resizeTail_tie (lf : Nat) (s2 : LS) (n : Nat) (f : Option HashId) (hlf : n ≤ lf) :
    cResizeTail lf s2 n f = resizeTail s2 n f := by
  unfold resizeTail cResizeTail
  have := initBuckets_tie n lf { s2 with t := { s2.t with cst := !s2.t.cst } } s2.t.count (by omega)
  simp only [] at this ⊢
  rw [← this, bind_assoc]
  simp only [pure_bind]
  congr 1
  funext r
  generalize r.1 = s4
  cases f with
  | some g =>
    cases hh : s4.t.hash with
    | none => simp [pickHash, LS.setClean]
    | some h0 => simp [pickHash, LS.setClean]
  | none =>
    cases hh : s4.t.hash with
    | none => simp [pickHash, LS.setClean]
    | some h0 => simp [pickHash, LS.setClean]

/-- `cstl_hash_resize` from the condition on -/
theorem resize_core (fuel lf : Nat) (s1 : LS) (n : Nat) (f : Option HashId) (cc : Nat) (ch : Option HashId)
    (hcc : cc = s1.t.effCount) (hch : ch = s1.t.effHash) (hlf : s1.t.count ≤ lf) (hn : n ≤ lf)
    (hsz : s1.t.count < 2 ^ 64) :
    obs (if s1.t.cap ≠ 0 ∧ n ≤ s1.t.cap ∧ (n ≠ cc ∨ f.isSome = true ∧ f ≠ ch) then
          c_cstl_hash_rehash hf fuel lf s1 >>= fun s2 => cResizeTail lf s2 n f
        else pure s1) =
      obs (if s1.t.cap ≠ 0 ∧ n ≤ s1.t.cap ∧ (n ≠ s1.t.effCount ∨ f ≠ none ∧ f ≠ s1.t.effHash) then
          rehash hf fuel s1 >>= fun s2 => resizeTail s2 n f
        else pure s1) := by
  subst hcc hch
  have hf' : (f.isSome = true) ↔ f ≠ none := by cases f <;> simp
  simp only [hf']
  by_cases hc : s1.t.cap ≠ 0 ∧ n ≤ s1.t.cap ∧ (n ≠ s1.t.effCount ∨ f ≠ none ∧ f ≠ s1.t.effHash)
  · rw [if_pos hc, if_pos hc]
    exact obs_bind (rehash_tie hf fuel lf s1 hlf hsz) (fun s2 _ => by rw [resizeTail_tie lf s2 n f hn])
  · rw [if_neg hc, if_neg hc]

/-- `cstl_hash_resize(h, count, hash)`: nothing for 0; the geometry the table is heading for; growing the
array; the condition (array present, fits, something changes); finishing the pending rehash; the tail -/
theorem resize_tie (fuel lf : Nat) (oracle : Nat → Bool) (s : LS) (n : Nat) (f : Option HashId)
    (hlf : s.t.count ≤ lf) (hn : n ≤ lf) (hsz : s.t.count < 2 ^ 64) :
    obs (c_cstl_hash_resize hf oracle fuel lf s n f) = obs (resize hf fuel oracle s n f) := by
  unfold c_cstl_hash_resize resize
  by_cases h0 : n = 0
  · subst h0; simp
  · have h0' : n > 0 := by omega
    rw [if_pos h0', if_neg h0]
    by_cases hp : s.t.rhHash.isSome = true <;> by_cases hcap : n > s.t.cap <;>
      simp only [hp, hcap, ensureCapacity, if_true, if_false, Bool.false_eq_true, setCapacity_tie]
    · rw [pure_bind (s.t.rhCount, s.t.rhHash)]
      refine obs_bind_right _ (fun s1 h1 => ?_)
      have f1 := setCapacity_frame _ _ _ s1 h1
      rw [pure_bind s1]
      exact resize_core hf fuel lf s1 n f s.t.rhCount s.t.rhHash (by simp [LT.effCount, f1, hp]) (by simp [LT.effHash, f1, hp])
        (by rw [f1.1]; exact hlf) hn (by rw [f1.1]; exact hsz)
    · rw [pure_bind (s.t.rhCount, s.t.rhHash), pure_bind s, pure_bind s]
      exact resize_core hf fuel lf s n f s.t.rhCount s.t.rhHash (by simp [LT.effCount, hp]) (by simp [LT.effHash, hp]) hlf hn hsz
    · rw [pure_bind (s.t.count, s.t.hash)]
      refine obs_bind_right _ (fun s1 h1 => ?_)
      have f1 := setCapacity_frame _ _ _ s1 h1
      rw [pure_bind s1]
      exact resize_core hf fuel lf s1 n f s.t.count s.t.hash (by simp [LT.effCount, f1, hp]) (by simp [LT.effHash, f1, hp])
        (by rw [f1.1]; exact hlf) hn (by rw [f1.1]; exact hsz)
    · rw [pure_bind (s.t.count, s.t.hash), pure_bind s, pure_bind s]
      exact resize_core hf fuel lf s n f s.t.count s.t.hash (by simp [LT.effCount, hp]) (by simp [LT.effHash, hp]) hlf hn hsz

/-- `cstl_hash_shrink_to_fit`: the count the table is heading for; if the array is larger: finish the
pending rehash, give the excess back -/
theorem shrink_tie (fuel lf : Nat) (oracle : Nat → Bool) (s : LS) (hlf : s.t.count ≤ lf) (hsz : s.t.count < 2 ^ 64) :
    obs (c_cstl_hash_shrink_to_fit hf oracle fuel lf s) = obs (shrink hf fuel oracle s) := by
  unfold c_cstl_hash_shrink_to_fit shrink
  have hstep : ∀ c : Nat, c = s.t.effCount →
      obs (if s.t.cap > c then do
            let s ← c_cstl_hash_rehash hf fuel lf s
            let s ← c_priv_cstl_hash_set_capacity oracle s s.t.count
            pure s
          else pure s) =
        obs (if s.t.effCount < s.t.cap then do
            let s1 ← rehash hf fuel s
            setCapacity oracle s1 s1.t.count
          else pure s) := by
    intro c hc
    subst hc
    by_cases hgt : s.t.cap > s.t.effCount
    · rw [if_pos hgt, if_pos hgt]
      refine obs_bind (rehash_tie hf fuel lf s hlf hsz) (fun s1 _ => ?_)
      rw [setCapacity_tie]
    · rw [if_neg hgt, if_neg hgt]
  by_cases hp : s.t.rhHash.isSome = true
  · simp only [hp, if_true]
    rw [pure_bind s.t.rhCount]
    exact hstep s.t.rhCount (by simp [LT.effCount, hp])
  · simp only [hp, if_false, Bool.false_eq_true]
    rw [pure_bind s.t.count]
    exact hstep s.t.count (by simp [LT.effCount, hp])

/-- the `for` loop of `__cstl_hash_foreach` over the buckets `i < count` while `res == 0`, for the client
visit function of the model (`userVisit`: the callback may erase the element it is given) -/
theorem tableWalk_tie (fuel : Nat) (visit : Nat → Node → Int × Bool) (count : Nat) :
    ∀ (lf : Nat) (s : LS) (p : WalkP) (res : Int) (i : Nat), count - i ≤ lf →
      (c_priv_cstl_hash_foreach_loop1 (userVisit hf fuel visit) fuel count lf s p res i >>= fun r =>
          pure (r.1, r.2.1, r.2.2.1)) = tableWalk hf fuel visit count s p res i (count - i)
  | 0, s, p, res, i, h => by
    have hc : ¬ (i < count ∧ res = 0) := by omega
    have hd : count - i = 0 := by omega
    unfold c_priv_cstl_hash_foreach_loop1
    simp [hc, hd, tableWalk]
  | lf + 1, s, p, res, i, h => by
    unfold c_priv_cstl_hash_foreach_loop1
    by_cases hc : i < count ∧ res = 0
    · have hd : count - i = (count - (i + 1)) + 1 := by omega
      rw [hd, tableWalk, if_pos hc, if_pos hc]
      simp only [bucketForeach_tie, bind_assoc]
      congr 1
      funext _
      congr 1
      funext r
      exact tableWalk_tie fuel visit count lf _ _ _ (i + 1) (by omega)
    · rw [if_neg hc]
      cases hd : count - i with
      | zero => simp [tableWalk]
      | succ d => rw [tableWalk, if_neg hc]; simp

/-- `__cstl_hash_foreach`: the bound of the bucket walk is the current count, or the pending count while a
rehash that GROWS the table is pending (moved nodes live beyond the current count) -/
theorem hforeachP_tie (fuel lf : Nat) (visit : Nat → Node → Int × Bool) (s : LS) (p : WalkP) (hlf : s.t.bound ≤ lf) :
    c_priv_cstl_hash_foreach (userVisit hf fuel visit) fuel lf s p =
      tableWalk hf fuel visit s.t.bound s p 0 0 s.t.bound := by
  unfold c_priv_cstl_hash_foreach
  by_cases hb : s.t.rhHash.isSome = true ∧ s.t.rhCount > s.t.count
  · have hbd : s.t.bound = s.t.rhCount := by
      have hb' : s.t.rhHash.isSome = true ∧ s.t.count < s.t.rhCount := hb
      simp [LT.bound, hb']
    simp only [hb, and_self, if_true]
    rw [pure_bind s.t.rhCount, hbd]
    exact tableWalk_tie hf fuel visit s.t.rhCount lf s p 0 0 (by rw [hbd] at hlf; omega)
  · have hbd : s.t.bound = s.t.count := by
      have hb' : ¬ (s.t.rhHash.isSome = true ∧ s.t.count < s.t.rhCount) := hb
      simp [LT.bound, hb']
    rw [if_neg hb, pure_bind s.t.count, hbd]
    exact tableWalk_tie hf fuel visit s.t.count lf s p 0 0 (by rw [hbd] at hlf; omega)

theorem hforeach_tie (fuel lf : Nat) (visit : Nat → Node → Int × Bool) (s : LS) (hlf : s.t.bound ≤ lf) :
    c_priv_cstl_hash_foreach (userVisit hf fuel visit) fuel lf s { idx := 0, seen := [] } = hforeach hf fuel s visit :=
  hforeachP_tie hf fuel lf visit s _ hlf

/-- `cstl_hash_foreach`: finish the pending rehash, then walk -/
theorem foreach_tie (fuel lf : Nat) (visit : Nat → Node → Int × Bool) (s : LS)
    (hlf : s.t.count ≤ lf) (hlf' : s.t.rhCount ≤ lf) (hsz : s.t.count < 2 ^ 64) :
    obs (c_cstl_hash_foreach hf (userVisit hf fuel visit) fuel lf s { idx := 0, seen := [] } >>= fun r =>
        pure (r.1, r.2.2, r.2.1.seen.reverse)) = obs (foreach hf fuel s visit) := by
  unfold c_cstl_hash_foreach foreach
  simp only [bind_assoc]
  refine obs_bind (rehash_tie hf fuel lf s hlf hsz) (fun s1 h1 => ?_)
  have fr := rehash_frame hf fuel s s1 h1
  have hb : s1.t.bound ≤ lf := by
    unfold LT.bound
    split
    · rw [fr.1]; exact hlf'
    · rcases fr.2 with h | h <;> rw [h] <;> assumption
  rw [hforeach_tie hf fuel lf visit s1 hb]
  simp only [pure_bind]

/-- `cstl_hash_foreach_visit`: hand the element to the client's `const` function -/
theorem foreachVisit_tie (fuel : Nat) (visit : Nat → Node → Int) :
    c_cstl_hash_foreach_visit visit = userVisit hf fuel (fun i n => (visit i n, false)) := by
  funext s p e
  simp [c_cstl_hash_foreach_visit, userVisit, callConstVisit]

/-- `cstl_hash_foreach_const`: the walk of `__cstl_hash_foreach` (same bound rule — not the current count
only), without finishing the rehash -/
theorem foreachConst_tie (fuel lf : Nat) (visit : Nat → Node → Int) (s : LS) (hlf : s.t.bound ≤ lf) :
    (c_cstl_hash_foreach_const fuel lf s visit >>= fun r => pure (r.2.2, r.2.1.seen.reverse)) =
      foreachConst hf fuel s visit := by
  unfold c_cstl_hash_foreach_const foreachConst
  rw [foreachVisit_tie hf fuel visit]
  simp only [hforeach_tie hf fuel lf _ s hlf, bind_assoc, pure_bind]

/-- `cstl_hash_clear_visit`: hand the element to the client's clear function, go on -/
theorem clearVisit_tie (fuel : Nat) : c_cstl_hash_clear_visit = userVisit hf fuel (fun _ _ => (0, false)) := by
  funext s p e
  simp [c_cstl_hash_clear_visit, userVisit, callClr]

/-- a visit function that leaves the table and the links alone -/
def NoWrite {π : Type} (v : LS → π → Nat → LR (LS × π × Int)) : Prop :=
  ∀ s p n, (v s p n).Ok (fun r => r.1 = s)

theorem bucketForeach_nowrite {π : Type} {v : LS → π → Nat → LR (LS × π × Int)} (hv : NoWrite v) :
    ∀ (fuel : Nat) (s : LS) (p : π) (n : Nat), (bucketForeach v fuel s p n).Ok (fun r => r.1 = s)
  | 0, s, p, n => by
    unfold bucketForeach
    exact .ite (.pure rfl) .hang
  | fuel + 1, s, p, n => by
    unfold bucketForeach
    refine .ite (.pure rfl) (.bind (hv s p n) fun r1 e1 => .ite (.pure e1) ?_)
    exact fun r h => (bucketForeach_nowrite hv fuel _ _ _ r h).trans e1

theorem userVisit_nowrite (fuel : Nat) (visit : Nat → Node → Int × Bool) (hno : ∀ i n, (visit i n).2 = false) :
    NoWrite (userVisit hf fuel visit) := by
  intro s p n
  simp only [userVisit, hno, Bool.false_eq_true, if_false, pure_bind]
  exact .pure rfl

theorem tableWalk_nowrite (fuel : Nat) (visit : Nat → Node → Int × Bool) (hno : ∀ i n, (visit i n).2 = false)
    (count : Nat) : ∀ (d : Nat) (s : LS) (p : WalkP) (res : Int) (i : Nat),
      (tableWalk hf fuel visit count s p res i d).Ok (fun r => r.1 = s)
  | 0, s, p, res, i => .pure rfl
  | d + 1, s, p, res, i => by
    unfold tableWalk
    refine .ite (.bind (.triv _) fun _ _ => ?_) (.pure rfl)
    refine .bind (bucketForeach_nowrite (userVisit_nowrite hf fuel visit hno) _ _ _ _) fun r1 e1 => ?_
    exact fun r h => (tableWalk_nowrite fuel visit hno count d _ _ _ _ r h).trans e1

/-- `cstl_hash_clear(h, clr)`: the walk (only with a client function), the bucket array freed (an allocation
event), every member reset — `bucket.hash` included -/
theorem clear_tie (fuel lf : Nat) (s : LS) (withCb : Bool) (hlf : s.t.bound ≤ lf) :
    (c_cstl_hash_clear fuel lf s withCb >>= fun r => pure (r.1, r.2.seen.reverse)) = clear hf fuel s withCb := by
  unfold c_cstl_hash_clear clear
  cases withCb with
  | false =>
    simp only [Bool.false_eq_true, if_false, bind_assoc, pure_bind, freeAt]
    rfl
  | true =>
    simp only [if_true]
    rw [clearVisit_tie hf fuel]
    simp only [hforeach_tie hf fuel lf _ s hlf, bind_assoc, pure_bind]
    refine bind_congr_val _ (fun w hw => ?_)
    have e := tableWalk_nowrite hf fuel (fun _ _ => (0, false)) (fun _ _ => rfl) _ _ _ _ _ _ w hw
    simp only [freeAt, e]
    rfl

/-- `cstl_hash_insert(h, k, e)`: keyed lookup, key field, chain-head insertion, count -/
theorem insert_tie (fuel lf : Nat) (s : LS) (k e : Nat) (hlf : s.t.count ≤ lf) :
    obs (c_cstl_hash_insert hf fuel lf s k e) = obs (insert hf fuel s k e) := by
  unfold c_cstl_hash_insert insert
  exact obs_bind (keyed_tie hf fuel lf s k hlf) (fun r _ => rfl)

/-- `cstl_hash_erase(h, e)`: keyed lookup with the element's key, the walk with `cstl_hash_erase_visit`,
the splice through the pointer-to-pointer, the count -/
theorem erase_tie (fuel lf : Nat) (s : LS) (e : Nat) (hlf : s.t.count ≤ lf) :
    obs (c_cstl_hash_erase hf fuel lf s e) = obs (erase hf fuel s e) := by
  have hv : c_cstl_hash_erase_visit = eraseVisit := by
    funext s p e; exact eraseVisit_tie s p e
  unfold c_cstl_hash_erase erase
  refine obs_bind (keyed_tie hf fuel lf s (s.keyOf e) hlf) (fun r _ => ?_)
  unfold eraseTail
  simp only [hv, bucketForeach_tie, chkN_bind]

theorem size_tie (s : LS) : c_cstl_hash_size s = pure s.t.size := rfl

/-- `cstl_hash_load`: (numerator, denominator) of the float division — the element count over the pending
count while a rehash is pending, else over the current count; it is `HT.load` of the table the links spell out -/
theorem load_tie (s : LS) (fuel : Nat) : c_cstl_hash_load s = pure (s.read fuel).load := by
  unfold c_cstl_hash_load
  by_cases hp : s.t.rhHash.isSome = true
  · simp [hp, Hash.HT.load, Hash.HT.effCount, LS.read]
  · simp [hp, Hash.HT.load, Hash.HT.effCount, LS.read]

/-- `cstl_hash_swap`: the two table structures trade places (the model's `swap` step) -/
theorem swap_tie (ls : LSys) :
    lstep hf ls Hash.Op.swap =
      pure ({ ls with a := (c_cstl_hash_swap ls.a ls.b).1, b := (c_cstl_hash_swap ls.a ls.b).2 }, Hash.Out.unit) := rfl

end Cstl.HashL.Tie2
