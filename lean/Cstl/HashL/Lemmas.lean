import Cstl.Hash.Inv
import Cstl.HashL.Monad
import Cstl.HashL.Chain
/-
`Sim`-valued theorems are called `*_refines` for the functions of hash.c that the properties speak of:
the public operations and the three static steps whose work C19 counts (`cstl_clean_bucket`,
`__cstl_hash_rehash`, `cstl_hash_get_bucket`); each also stands as `*_sim`, a corollary right after it.
`*_sim` is for the loops and the other steps.  A loop is stated against the state `s0 t0` it started in (`Step s0 t0`
or `WRel s0 t0` is its invariant) under its plain `*_sim` name; only `bucketWalk_sim_from` has the suffix, because
`bucketWalk_sim` is its instance for a walk that starts at `s0 t0` itself.
-/
namespace Cstl.HashL
open Cstl.SList (Mem)
open Cstl.Hash (Stop Tr Call AllocEv Node HT Bucket R nodes wr rd mem_nodes wr_get_same wr_get_other wr_get_cases)

/-- the link-level operation `l` simulates the functional model's operation `a`:
equal traces (hash-call log, relocation count, allocation events — also when
they stop); if `a` returns `b` then `l` returns (it neither stops nor runs out
of fuel) some `x` with `rel x b`; if `a` stops, `l` stops the same way. -/
def Sim {α β : Type} (rel : α → β → Prop) (l : LR α) (a : R β) : Prop :=
  l.tr = a.tr ∧
  match a.val with
  | .ok b => ∃ x, l.val = .ok x ∧ rel x b
  | .error e => l.val = .error (.stop e)

theorem Sim.pure {α β : Type} {rel : α → β → Prop} {x : α} {b : β} (h : rel x b) :
    Sim rel (Pure.pure x : LR α) (Pure.pure b : R β) :=
  ⟨rfl, x, rfl, h⟩

theorem Sim.stop {α β : Type} {rel : α → β → Prop} (e : Stop) : Sim rel (stop e : LR α) (Hash.stop e : R β) :=
  ⟨rfl, rfl⟩

theorem Sim.mono {α β : Type} {rel rel' : α → β → Prop} {l : LR α} {a : R β} (h : Sim rel l a)
    (hr : ∀ x b, rel x b → a.val = .ok b → rel' x b) : Sim rel' l a := by
  obtain ⟨h1, h2⟩ := h
  refine ⟨h1, ?_⟩
  cases hv : a.val with
  | ok b => rw [hv] at h2; obtain ⟨x, hx, hr'⟩ := h2; exact ⟨x, hx, hr x b hr' hv⟩
  | error e => rw [hv] at h2; exact h2

theorem Sim.bind {α β α' β' : Type} {rel : α → β → Prop} {rel' : α' → β' → Prop} {l : LR α} {a : R β}
    {f : α → LR α'} {g : β → R β'} (h : Sim rel l a)
    (hf' : ∀ x b, rel x b → a.val = .ok b → Sim rel' (f x) (g b)) : Sim rel' (l >>= f) (a >>= g) := by
  obtain ⟨h1, h2⟩ := h
  cases hv : a.val with
  | ok b =>
    rw [hv] at h2
    obtain ⟨x, hx, hr⟩ := h2
    obtain ⟨k1, k2⟩ := hf' x b hr hv
    refine ⟨?_, ?_⟩
    · rw [(bind_ok hx).2, (Hash.bind_ok hv).2, h1, k1]
    · rw [(Hash.bind_ok hv).1, (bind_ok hx).1]; exact k2
  | error e =>
    rw [hv] at h2
    refine ⟨?_, ?_⟩
    · rw [(bind_err h2).2, (Hash.bind_err hv).2, h1]
    · rw [(Hash.bind_err hv).1, (bind_err h2).1]

theorem Sim.bind_val {α β α' β' : Type} {rel : α → β → Prop} {rel' : α' → β' → Prop} {l : LR α} {a : R β}
    {f : α → LR α'} {g : β → R β'} (h : Sim rel l a)
    (hf' : ∀ x b, rel x b → l.val = .ok x → a.val = .ok b → Sim rel' (f x) (g b)) : Sim rel' (l >>= f) (a >>= g) := by
  refine Sim.bind (rel := fun x b => rel x b ∧ l.val = .ok x) ?_ (fun x b hr hv => hf' x b hr.1 hr.2 hv)
  obtain ⟨h1, h2⟩ := h
  refine ⟨h1, ?_⟩
  cases hv : a.val with
  | ok b => rw [hv] at h2; obtain ⟨x, hx, hr⟩ := h2; exact ⟨x, hx, hr, hx⟩
  | error e => rw [hv] at h2; exact h2

theorem Sim.ite {α β : Type} {rel : α → β → Prop} {c c' : Prop} [Decidable c] [Decidable c']
    {l1 l2 : LR α} {a1 a2 : R β} (hc : c ↔ c') (h1 : c → Sim rel l1 a1) (h2 : ¬ c → Sim rel l2 a2) :
    Sim rel (if c then l1 else l2) (if c' then a1 else a2) := by
  by_cases h : c
  · rw [if_pos h, if_pos (hc.mp h)]; exact h1 h
  · rw [if_neg h, if_neg (fun h' => h (hc.mpr h'))]; exact h2 h

theorem Sim.ite_flip {α β : Type} {rel : α → β → Prop} {c c' : Prop} [Decidable c] [Decidable c']
    {l1 l2 : LR α} {a1 a2 : R β} (hc : c ↔ ¬ c') (h1 : c → Sim rel l1 a1) (h2 : ¬ c → Sim rel l2 a2) :
    Sim rel (if c then l1 else l2) (if c' then a2 else a1) :=
  ite_not (p := c') a1 a2 ▸ Sim.ite hc h1 h2

/-- what a simulated operation inherits from a triple of the functional model -/
theorem Sim.transfer {α β : Type} {rel : α → β → Prop} {l : LR α} {a : R β} {P : Tr → β → Prop}
    (h : Sim rel l a) (hs : a.Spec P) :
    (l.val = .error (.stop .abort) ∧ a.val = .error .abort ∧ l.tr = a.tr) ∨
    (∃ x b, l.val = .ok x ∧ a.val = .ok b ∧ rel x b ∧ P l.tr b) := by
  obtain ⟨h1, h2⟩ := h
  cases hv : a.val with
  | ok b =>
    rw [hv] at h2
    obtain ⟨x, hx, hr⟩ := h2
    exact Or.inr ⟨x, b, hx, rfl, hr, by rw [h1]; exact hs.of_ok hv⟩
  | error e =>
    rw [hv] at h2
    have : e = .abort := by have := hs.2; rw [hv] at this; exact this
    subst this
    exact Or.inl ⟨h2, rfl, h1⟩

theorem Sim.tick : Sim (fun _ _ => True) tickReloc Hash.tickReloc := ⟨rfl, (), rfl, trivial⟩
theorem Sim.logEv (e : AllocEv) : Sim (fun _ _ => True) (logEv e) (Hash.logEv e) := ⟨rfl, (), rfl, trivial⟩
theorem Sim.logCall (c : Call) : Sim (fun _ _ => True) (logCall c) (Hash.logCall c) := ⟨rfl, (), rfl, trivial⟩

def ids (c : List Node) : List Nat := c.map (·.id)

@[simp] theorem ids_nil : ids [] = [] := rfl
@[simp] theorem ids_cons (n : Node) (c : List Node) : ids (n :: c) = n.id :: ids c := rfl
theorem mem_ids {c : List Node} {a : Nat} : a ∈ ids c ↔ ∃ n ∈ c, n.id = a := by simp [ids]
theorem ids_length (c : List Node) : (ids c).length = c.length := by simp [ids]

/-- **Abstraction relation**: the link-level state `s` represents the table `t`
of the functional model — capacity and scalar members are equal; for every
bucket of the array the links from `head i` spell exactly the chain of bucket
`i`, in order, NULL-terminated; its clean bit is the bucket's; the `key` field
of every chained node holds the node's key; no node is shared between chains. -/
structure Rep (s : LS) (t : HT) : Prop where
  cap : s.t.cap = t.bk.size
  count : s.t.count = t.count
  hash : s.t.hash = t.hash
  cst : s.t.cst = t.cst
  rhHash : s.t.rhHash = t.rhHash
  rhCount : s.t.rhCount = t.rhCount
  clean : s.t.clean = t.clean
  size : s.t.size = t.size
  chain : ∀ (i : Nat) (b : Bucket), t.bk[i]? = some b → Chain s.nxt (s.t.head i) (ids b.chain)
  bits : ∀ (i : Nat) (b : Bucket), t.bk[i]? = some b → s.t.bcst i = b.cst
  keys : ∀ (i : Nat) (b : Bucket), t.bk[i]? = some b → ∀ n ∈ b.chain, s.keyOf n.id = n.key
  uniq : ∀ (i j : Nat) (b b' : Bucket), t.bk[i]? = some b → t.bk[j]? = some b' →
    ∀ a, a ∈ ids b.chain → a ∈ ids b'.chain → i = j

theorem Rep.bound {s : LS} {t : HT} (r : Rep s t) : s.t.bound = t.bound := by
  unfold LT.bound Hash.HT.bound
  rw [r.rhHash, r.count, r.rhCount]

theorem Rep.effCount {s : LS} {t : HT} (r : Rep s t) : s.t.effCount = t.effCount := by
  unfold LT.effCount Hash.HT.effCount; rw [r.rhHash, r.rhCount, r.count]

theorem Rep.effHash {s : LS} {t : HT} (r : Rep s t) : s.t.effHash = t.effHash := by
  unfold LT.effHash Hash.HT.effHash; rw [r.rhHash, r.hash]

/-- node address `a` is linked into some chain of `t` -/
def Owns (t : HT) (a : Nat) : Prop := ∃ (i : Nat) (b : Bucket), t.bk[i]? = some b ∧ a ∈ ids b.chain

theorem owns_iff {t : HT} {a : Nat} : Owns t a ↔ ∃ n ∈ nodes t, n.id = a := by
  constructor
  · rintro ⟨i, b, hb, ha⟩
    obtain ⟨n, hn, rfl⟩ := mem_ids.mp ha
    exact ⟨n, mem_nodes.mpr ⟨i, b, hb, hn⟩, rfl⟩
  · rintro ⟨n, hn, rfl⟩
    obtain ⟨i, b, hb, hn'⟩ := mem_nodes.mp hn
    exact ⟨i, b, hb, mem_ids.mpr ⟨n, hn', rfl⟩⟩

theorem Rep.nonzero {s : LS} {t : HT} (r : Rep s t) {a : Nat} (h : Owns t a) : a ≠ 0 := by
  obtain ⟨i, b, hb, ha⟩ := h
  exact (r.chain i b hb).nonzero a ha

theorem Rep.chain_nodup {s : LS} {t : HT} (r : Rep s t) {i : Nat} {b : Bucket} (hb : t.bk[i]? = some b) :
    (ids b.chain).Nodup := (r.chain i b hb).nodup

theorem Rep.node_eq {s : LS} {t : HT} (r : Rep s t) {i : Nat} {b : Bucket} (hb : t.bk[i]? = some b)
    {n : Node} (hn : n ∈ b.chain) : s.nodeOf n.id = n := by
  have := r.keys i b hb n hn
  cases n
  simp_all [LS.nodeOf]

theorem Rep.chain_map {s : LS} {t : HT} (r : Rep s t) {i : Nat} {b : Bucket} (hb : t.bk[i]? = some b) :
    (ids b.chain).map s.nodeOf = b.chain := by
  have : ∀ c : List Node, (∀ n ∈ c, s.nodeOf n.id = n) → (ids c).map s.nodeOf = c := by
    intro c
    induction c with
    | nil => intro _; rfl
    | cons n c ih =>
      intro h
      simp only [ids_cons, List.map_cons]
      rw [h n (by simp), ih (fun m hm => h m (by simp [hm]))]
  exact this b.chain (fun n hn => r.node_eq hb hn)

theorem nodes_wr_len {t : HT} {i : Nat} {b b' : Bucket} (h : t.bk[i]? = some b) :
    (nodes (wr t i b')).length + b.chain.length = (nodes t).length + b'.chain.length := by
  have := (Hash.nodes_wr_perm (b' := b') h).length_eq
  simpa using this

theorem chain_le_nodes {t : HT} {i : Nat} {b : Bucket} (h : t.bk[i]? = some b) :
    b.chain.length ≤ (nodes t).length := (Hash.chain_sublist_nodes h).length_le

theorem wr_size (t : HT) (i : Nat) (b : Bucket) : (wr t i b).bk.size = t.bk.size := by simp [wr]

theorem chk_ok {t : LT} {i : Nat} (h : i < t.cap) : chk t i = pure () := by simp [chk, h]

theorem Sim.chk_rd {s : LS} {t : HT} (r : Rep s t) (i : Nat) :
    Sim (fun _ b => t.bk[i]? = some b) (chk s.t i) (rd t i) := by
  unfold chk rd
  rw [r.cap]
  by_cases h : i < t.bk.size
  · have : t.bk[i]? = some t.bk[i] := Array.getElem?_eq_getElem h
    rw [if_pos h, this]
    exact Sim.pure rfl
  · have : t.bk[i]? = none := by simp; omega
    rw [if_neg h, this]
    by_cases h0 : t.bk.size = 0
    · simp only [h0, if_true]; exact Sim.stop _
    · simp only [h0, if_false]; exact Sim.stop _

/-- general bucket update: bucket `i` gets chain `c'` and clean bit `cst'`; the
other buckets keep head, bit, and the links and keys of their nodes -/
theorem Rep.update {s : LS} {t : HT} (r : Rep s t) {i : Nat} {b : Bucket} (hb : t.bk[i]? = some b)
    (nxt' keyOf' : Mem) (head' : Nat → Nat) (bcst' : Nat → Bool) (c' : List Node) (cst' : Bool)
    (hch : Chain nxt' (head' i) (ids c')) (hbit : bcst' i = cst') (hkey : ∀ n ∈ c', keyOf' n.id = n.key)
    (hhead : ∀ j, j ≠ i → head' j = s.t.head j) (hbits : ∀ j, j ≠ i → bcst' j = s.t.bcst j)
    (hnxt : ∀ (j : Nat) (bj : Bucket), j ≠ i → t.bk[j]? = some bj → ∀ a ∈ ids bj.chain,
      nxt' a = s.nxt a ∧ keyOf' a = s.keyOf a)
    (hfresh : ∀ (j : Nat) (bj : Bucket), j ≠ i → t.bk[j]? = some bj → ∀ a ∈ ids c', a ∉ ids bj.chain) :
    Rep { nxt := nxt', keyOf := keyOf', t := { s.t with head := head', bcst := bcst' } }
      (wr t i { chain := c', cst := cst' }) := by
  refine ⟨by rw [wr_size]; exact r.cap, r.count, r.hash, r.cst, r.rhHash, r.rhCount, r.clean, r.size, ?_, ?_, ?_, ?_⟩
  · intro j bj h
    rcases wr_get_cases h with ⟨rfl, rfl⟩ | ⟨hj, h'⟩
    · exact hch
    · show Chain nxt' (head' j) (ids bj.chain)
      rw [hhead j hj]
      exact (r.chain j bj h').transfer (fun a ha => (hnxt j bj hj h' a ha).1)
  · intro j bj h
    rcases wr_get_cases h with ⟨rfl, rfl⟩ | ⟨hj, h'⟩
    · exact hbit
    · show bcst' j = bj.cst
      rw [hbits j hj]; exact r.bits j bj h'
  · intro j bj h n hn
    rcases wr_get_cases h with ⟨rfl, rfl⟩ | ⟨hj, h'⟩
    · exact hkey n hn
    · show keyOf' n.id = n.key
      rw [(hnxt j bj hj h' n.id (mem_ids.mpr ⟨n, hn, rfl⟩)).2]
      exact r.keys j bj h' n hn
  · intro j1 j2 b1 b2 h1 h2 a ha1 ha2
    rcases wr_get_cases h1 with ⟨rfl, rfl⟩ | ⟨hj1, h1'⟩ <;> rcases wr_get_cases h2 with ⟨rfl, rfl⟩ | ⟨hj2, h2'⟩
    · rfl
    · exact absurd ha2 (hfresh j2 b2 hj2 h2' a ha1)
    · exact absurd ha1 (hfresh j1 b1 hj1 h1' a ha2)
    · exact r.uniq j1 j2 b1 b2 h1' h2' a ha1 ha2

theorem owns_wr {t : HT} {i : Nat} {b b' : Bucket} (hb : t.bk[i]? = some b) {a : Nat} :
    Owns (wr t i b') a ↔ a ∈ ids b'.chain ∨ ∃ (j : Nat) (bj : Bucket), j ≠ i ∧ t.bk[j]? = some bj ∧ a ∈ ids bj.chain := by
  constructor
  · rintro ⟨j, bj, hj, ha⟩
    rcases wr_get_cases hj with ⟨rfl, rfl⟩ | ⟨hji, hj⟩
    · exact Or.inl ha
    · exact Or.inr ⟨j, bj, hji, hj, ha⟩
  · rintro (ha | ⟨j, bj, hji, hj, ha⟩)
    · exact ⟨i, b', wr_get_same hb, ha⟩
    · exact ⟨j, bj, by rw [wr_get_other hji]; exact hj, ha⟩

theorem Rep.not_other {s : LS} {t : HT} (r : Rep s t) {i : Nat} {b : Bucket} (hb : t.bk[i]? = some b)
    {a : Nat} (ha : a ∈ ids b.chain) {j : Nat} {bj : Bucket} (hj : j ≠ i) (hbj : t.bk[j]? = some bj) :
    a ∉ ids bj.chain :=
  fun h => hj (r.uniq j i bj b hbj hb a h ha)

theorem Rep.frame {nxt keyOf nxt' keyOf' : Mem} {lt : LT} {t : HT} (r : Rep { nxt := nxt, keyOf := keyOf, t := lt } t)
    (h : ∀ a, Owns t a → nxt' a = nxt a ∧ keyOf' a = keyOf a) : Rep { nxt := nxt', keyOf := keyOf', t := lt } t := by
  refine ⟨r.cap, r.count, r.hash, r.cst, r.rhHash, r.rhCount, r.clean, r.size, ?_, r.bits, ?_, r.uniq⟩
  · intro i b hb
    exact (r.chain i b hb).transfer (fun a ha => (h a ⟨i, b, hb, ha⟩).1)
  · intro i b hb n hn
    show keyOf' n.id = n.key
    rw [(h n.id ⟨i, b, hb, mem_ids.mpr ⟨n, hn, rfl⟩⟩).2]
    exact r.keys i b hb n hn

/-- the step relation of operations that add no node: the result represents
`t'`, every node of `t'` was a node of `t`, there are no more nodes than before
(so the same fuel suffices), the `key` fields are untouched and only `next`
fields of nodes of `t` were written -/
structure Step (s : LS) (t : HT) (s' : LS) (t' : HT) : Prop where
  rep : Rep s' t'
  own : ∀ a, Owns t' a → Owns t a
  len : (nodes t').length ≤ (nodes t).length
  key : s'.keyOf = s.keyOf
  frame : ∀ a, ¬ Owns t a → s'.nxt a = s.nxt a

theorem Step.refl {s : LS} {t : HT} (r : Rep s t) : Step s t s t :=
  ⟨r, fun _ h => h, Nat.le_refl _, rfl, fun _ _ => rfl⟩

theorem Step.trans {s s1 s2 : LS} {t t1 t2 : HT} (h1 : Step s t s1 t1) (h2 : Step s1 t1 s2 t2) : Step s t s2 t2 :=
  ⟨h2.rep, fun a h => h1.own a (h2.own a h), Nat.le_trans h2.len h1.len, by rw [h2.key, h1.key],
    fun a h => by rw [h2.frame a (fun h' => h (h1.own a h')), h1.frame a h]⟩

/-- changing scalar members only: for each member, if the old values agree so do the new ones; a member
that is not named is one both sides leave as it is -/
theorem Rep.scalars {s : LS} {t : HT} (r : Rep s t) {lt : LT} {t' : HT}
    (head : lt.head = s.t.head := by rfl) (bcst : lt.bcst = s.t.bcst := by rfl) (bk : t'.bk = t.bk := by rfl)
    (cap : s.t.cap = t.bk.size → lt.cap = t'.bk.size := by exact id)
    (count : s.t.count = t.count → lt.count = t'.count := by exact id)
    (hash : s.t.hash = t.hash → lt.hash = t'.hash := by exact id)
    (cst : s.t.cst = t.cst → lt.cst = t'.cst := by exact id)
    (rhHash : s.t.rhHash = t.rhHash → lt.rhHash = t'.rhHash := by exact id)
    (rhCount : s.t.rhCount = t.rhCount → lt.rhCount = t'.rhCount := by exact id)
    (clean : s.t.clean = t.clean → lt.clean = t'.clean := by exact id)
    (size : s.t.size = t.size → lt.size = t'.size := by exact id) :
    Rep { s with t := lt } t' := by
  refine ⟨cap r.cap, count r.count, hash r.hash, cst r.cst, rhHash r.rhHash, rhCount r.rhCount, clean r.clean,
    size r.size, ?_, ?_, ?_, ?_⟩
  · intro i b h; rw [bk] at h; show Chain s.nxt (lt.head i) _; rw [head]; exact r.chain i b h
  · intro i b h; rw [bk] at h; show lt.bcst i = _; rw [bcst]; exact r.bits i b h
  · intro i b h; rw [bk] at h; exact r.keys i b h
  · intro i j b b' h h'; rw [bk] at h h'; exact r.uniq i j b b' h h'

theorem owns_congr {t t' : HT} (h : t'.bk = t.bk) (a : Nat) : Owns t' a ↔ Owns t a := by
  unfold Owns; rw [h]

theorem Step.scalars {s : LS} {t : HT} (r : Rep s t) {lt : LT} {t' : HT}
    (head : lt.head = s.t.head := by rfl) (bcst : lt.bcst = s.t.bcst := by rfl) (bk : t'.bk = t.bk := by rfl)
    (cap : s.t.cap = t.bk.size → lt.cap = t'.bk.size := by exact id)
    (count : s.t.count = t.count → lt.count = t'.count := by exact id)
    (hash : s.t.hash = t.hash → lt.hash = t'.hash := by exact id)
    (cst : s.t.cst = t.cst → lt.cst = t'.cst := by exact id)
    (rhHash : s.t.rhHash = t.rhHash → lt.rhHash = t'.rhHash := by exact id)
    (rhCount : s.t.rhCount = t.rhCount → lt.rhCount = t'.rhCount := by exact id)
    (clean : s.t.clean = t.clean → lt.clean = t'.clean := by exact id)
    (size : s.t.size = t.size → lt.size = t'.size := by exact id) :
    Step s t { s with t := lt } t' :=
  ⟨r.scalars head bcst bk cap count hash cst rhHash rhCount clean size, fun a h => (owns_congr bk a).mp h,
    by rw [Hash.nodes_congr bk]; exact Nat.le_refl _, rfl, fun _ _ => rfl⟩

end Cstl.HashL
