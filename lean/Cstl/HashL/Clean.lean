import Cstl.HashL.Lemmas
namespace Cstl.HashL
open Cstl.SList (upd upd_same upd_other)
open Cstl.Hash (HashId Node HT Bucket R nodes wr SameGeom)

variable (hf : HashId → Nat → Nat → Nat)

/-- `__cstl_hash_get_bucket`: same call log, same index, same `abort` -/
theorem getBucket_sim (f : Option HashId) (k m : Nat) :
    Sim (fun i j => i = j) (getBucket hf f k m) (Hash.getBucket hf f k m) := by
  cases f with
  | none => exact ⟨rfl, rfl⟩
  | some fn =>
    unfold getBucket callHash Hash.getBucket
    rw [bind_assoc]
    refine Sim.bind (Sim.logCall _) (fun _ _ _ _ => ?_)
    rw [pure_bind]
    exact Sim.ite Iff.rfl (fun _ => Sim.stop _) (fun _ => Sim.pure rfl)

/-- `HASH_LIST_INSERT(at[j].n, x)` for a node that is in no chain -/
theorem Rep.pushHead {s : LS} {t : HT} (r : Rep s t) {j : Nat} {b : Bucket} (hb : t.bk[j]? = some b)
    {x : Node} (hx0 : x.id ≠ 0) (hfresh : ¬ Owns t x.id) (hkey : s.keyOf x.id = x.key) :
    Rep ((s.setNxt x.id (s.t.head j)).setHead j x.id) (wr t j { b with chain := x :: b.chain }) := by
  have hne : ∀ (i : Nat) (bi : Bucket), t.bk[i]? = some bi → ∀ a ∈ ids bi.chain, a ≠ x.id := by
    intro i bi hbi a ha e
    exact hfresh ⟨i, bi, hbi, e ▸ ha⟩
  refine r.update hb (upd s.nxt x.id (s.t.head j)) s.keyOf (upd s.t.head j x.id) s.t.bcst (x :: b.chain) b.cst
    ?_ (r.bits j b hb) ?_ ?_ (fun _ _ => rfl) ?_ ?_
  · refine ⟨by simp, hx0, ?_⟩
    rw [upd_same]
    exact (r.chain j b hb).transfer (fun a ha => upd_other _ _ _ _ (hne j b hb a ha))
  · intro n hn
    rcases List.mem_cons.mp hn with rfl | hn
    · exact hkey
    · exact r.keys j b hb n hn
  · intro i hi; exact upd_other _ _ _ _ hi
  · intro i bi _ hbi a ha
    exact ⟨upd_other _ _ _ _ (hne i bi hbi a ha), rfl⟩
  · intro i bi hi hbi a ha
    rcases List.mem_cons.mp ha with rfl | ha
    · exact fun h => hfresh ⟨i, bi, hbi, h⟩
    · exact r.not_other hb ha hi hbi

theorem owns_pushHead {t : HT} {j : Nat} {b : Bucket} (hb : t.bk[j]? = some b) (x : Node) (a : Nat) :
    Owns (wr t j { b with chain := x :: b.chain }) a ↔ a = x.id ∨ Owns t a := by
  rw [owns_wr hb]
  constructor
  · rintro (h | ⟨i, bi, _, hbi, ha⟩)
    · rcases List.mem_cons.mp h with h | h
      · exact Or.inl h
      · exact Or.inr ⟨j, b, hb, h⟩
    · exact Or.inr ⟨i, bi, hbi, ha⟩
  · rintro (h | ⟨i, bi, hbi, ha⟩)
    · exact Or.inl (by simp [h])
    · by_cases hij : i = j
      · subst hij
        rw [hb] at hbi; cases hbi
        exact Or.inl (List.mem_cons_of_mem _ ha)
      · exact Or.inr ⟨i, bi, hij, hbi, ha⟩

/-- **the loop of `cstl_clean_bucket`**: started on a detached chain `ns`
(linked from `n`, at most `fuel` nodes) the pointer loop finishes and relinks
exactly as `Hash.reinsert` re-inserts: every node, in chain order, at the head
of its bucket under the pending geometry — same hash calls, same `abort`.
`Step s0 t0`, against the state before the chain was detached, is the invariant
of the loop: the nodes still to relink are nodes of `t0` in no chain of `t`. -/
theorem relink_sim {s0 : LS} {t0 : HT} : ∀ (ns : List Node) (fuel : Nat) (s : LS) (t : HT) (n : Nat),
    Step s0 t0 s t → SameGeom t0 t → Chain s.nxt n (ids ns) → (∀ x ∈ ns, s.keyOf x.id = x.key) →
    (∀ a ∈ ids ns, Owns t0 a ∧ ¬ Owns t a) → (nodes t).length + ns.length ≤ (nodes t0).length →
    ns.length ≤ fuel →
    Sim (fun s' t' => Step s0 t0 s' t' ∧ SameGeom t0 t') (relink hf fuel s n) (Hash.reinsert hf t ns)
  | [], fuel, s, t, n, st, sg, hc, _, _, _, _ => by
    have hn : n = 0 := hc
    subst hn
    have : relink hf fuel s 0 = pure s := by cases fuel <;> simp [relink]
    rw [this]
    exact Sim.pure ⟨st, sg⟩
  | x :: xs, 0, _, _, _, _, _, _, _, _, _, hl => by simp at hl
  | x :: xs, fuel + 1, s, t, n, st, sg, hc, hk, hfr, hlen, hl => by
    have r := st.rep
    have hnd : (x.id :: ids xs).Nodup := hc.nodup
    obtain ⟨hn, hx0, hc'⟩ := hc
    subst hn
    have hxs : ∀ a ∈ ids xs, a ≠ x.id := fun a ha e => (List.nodup_cons.mp hnd).1 (e ▸ ha)
    have hstep : relink hf (fuel + 1) s x.id =
        (getBucket hf s.t.rhHash (s.keyOf x.id) s.t.rhCount >>= fun j => chk s.t j >>= fun _ =>
          relink hf fuel ((s.setNxt x.id (s.t.head j)).setHead j x.id) (s.nxt x.id)) := by
      simp only [relink, if_neg hx0]
    rw [hstep, Hash.reinsert_cons, r.rhHash, r.rhCount, hk x (by simp)]
    refine Sim.bind (getBucket_sim hf _ _ _) ?_
    rintro j _ rfl _
    rw [Hash.pushHead_bind]
    refine Sim.bind (Sim.chk_rd r j) ?_
    intro _ b hb _
    have hx := hfr x.id (by simp)
    have hwl := nodes_wr_len (b' := { b with chain := x :: b.chain }) hb
    simp at hwl hlen hl
    have st1 : Step s0 t0 ((s.setNxt x.id (s.t.head j)).setHead j x.id)
        (wr t j { b with chain := x :: b.chain }) := by
      refine ⟨r.pushHead hb hx0 hx.2 (hk x (by simp)), fun a ha => ?_, by omega, st.key, fun a ha => ?_⟩
      · exact ((owns_pushHead hb x a).mp ha).elim (fun e => e ▸ hx.1) (st.own a)
      · rw [← st.frame a ha]
        exact upd_other _ _ _ _ (fun e => ha (e ▸ hx.1))
    refine relink_sim xs fuel _ _ _ st1 (sg.trans (Hash.wr_sameGeom t j _))
      (hc'.transfer (fun a ha => upd_other _ _ _ _ (hxs a ha))) (fun y hy => hk y (by simp [hy])) (fun a ha => ?_)
      (by omega) (by omega)
    have ha' := hfr a (by simp [ha])
    exact ⟨ha'.1, fun ho => ((owns_pushHead hb x a).mp ho).elim (hxs a ha) ha'.2⟩

theorem Rep.detach {s : LS} {t : HT} (r : Rep s t) {i : Nat} {b : Bucket} (hb : t.bk[i]? = some b) :
    Rep (s.setHead i 0) (wr t i { b with chain := [] }) := by
  refine r.update hb s.nxt s.keyOf (upd s.t.head i 0) s.t.bcst [] b.cst ?_ (r.bits i b hb) (by simp) ?_
    (fun _ _ => rfl) (fun _ _ _ _ _ _ => ⟨rfl, rfl⟩) (by simp)
  · simp
  · intro j hj; exact upd_other _ _ _ _ hj

theorem Rep.setBit {s : LS} {t : HT} (r : Rep s t) {i : Nat} {b : Bucket} (hb : t.bk[i]? = some b) (c : Bool) :
    Rep (s.setBcst i c) (wr t i { b with cst := c }) := by
  refine r.update hb s.nxt s.keyOf s.t.head (updB s.t.bcst i c) b.chain c (r.chain i b hb) (by simp [updB])
    (r.keys i b hb) (fun _ _ => rfl) ?_ (fun _ _ _ _ _ _ => ⟨rfl, rfl⟩) ?_
  · intro j hj; simp [updB, hj]
  · intro j bj hj hbj a ha
    exact r.not_other hb ha hj hbj

theorem owns_wr_sub {t : HT} {i : Nat} {b b' : Bucket} (hb : t.bk[i]? = some b)
    (hsub : ∀ a ∈ ids b'.chain, a ∈ ids b.chain) {a : Nat} (h : Owns (wr t i b') a) : Owns t a := by
  rcases (owns_wr hb).mp h with h | ⟨j, bj, _, hbj, ha⟩
  · exact ⟨i, b, hb, hsub a h⟩
  · exact ⟨j, bj, hbj, ha⟩

/-- **`cstl_clean_bucket`**: on a state representing `t`, with fuel for the
nodes of the table, the pointer code (detach the chain, relink every node at
the head of its bucket under the pending geometry, mark clean) finishes and
ends in a state representing `Hash.cleanBucket hf t i` — equal call log,
relocation count, stop kind. -/
theorem cleanBucket_refines {s : LS} {t : HT} (r : Rep s t) {fuel : Nat} (hfuel : (nodes t).length ≤ fuel) (i : Nat) :
    Sim (fun s' t' => Step s t s' t') (cleanBucket hf fuel s i) (Hash.cleanBucket hf t i) := by
  rw [Hash.cleanBucket_unfold]
  unfold cleanBucket
  refine Sim.bind (Sim.chk_rd r i) ?_
  intro _ b hb _
  refine Sim.ite_flip ?_ ?_ (fun _ => Sim.pure (Step.refl r))
  · rw [r.cst, r.bits i b hb]
    exact ⟨fun h e => h e.symm, fun h e => h e.symm⟩
  intro _
  have hwl := nodes_wr_len (b' := { b with chain := [] }) hb
  simp at hwl
  have st1 : Step s t (s.setHead i 0) (wr t i { b with chain := [] }) :=
    ⟨r.detach hb, fun a h => owns_wr_sub hb (by simp) h, by omega, rfl, fun _ _ => rfl⟩
  have hfr : ∀ a ∈ ids b.chain, Owns t a ∧ ¬ Owns (wr t i { b with chain := [] }) a := by
    intro a ha
    refine ⟨⟨i, b, hb, ha⟩, fun ho => ?_⟩
    rcases (owns_wr hb).mp ho with h | ⟨j, bj, hj, hbj, haj⟩
    · simp at h
    · exact r.not_other hb ha hj hbj haj
  have hlen : b.chain.length ≤ fuel := Nat.le_trans (chain_le_nodes hb) hfuel
  refine Sim.bind (relink_sim hf b.chain fuel _ _ _ st1 (Hash.wr_sameGeom t i _) (r.chain i b hb) (r.keys i b hb) hfr
    (by omega) hlen) ?_
  rintro s2 t2 ⟨st2, same2⟩ _
  refine Sim.bind Sim.tick ?_
  intro _ _ _ _
  refine Sim.bind (Sim.chk_rd st2.rep i) ?_
  intro _ b2 hb2 _
  have hcst : s2.t.cst = t.cst := by
    rw [st2.rep.cst]; exact same2.cst
  rw [hcst]
  have hwl2 := nodes_wr_len (b' := { b2 with cst := t.cst }) hb2
  simp at hwl2
  exact Sim.pure (st2.trans ⟨st2.rep.setBit hb2 t.cst,
    fun a h => owns_wr_sub (b' := { b2 with cst := t.cst }) hb2 (fun _ h => h) h, by omega, rfl, fun _ _ => rfl⟩)

theorem cleanBucket_sim {s : LS} {t : HT} (r : Rep s t) {fuel : Nat} (hfuel : (nodes t).length ≤ fuel) (i : Nat) :
    Sim (fun s' t' => Step s t s' t') (cleanBucket hf fuel s i) (Hash.cleanBucket hf t i) :=
  cleanBucket_refines hf r hfuel i

theorem Step.setClean {s s' : LS} {t t' : HT} (h : Step s t s' t') (c : Nat) :
    Step s t (s'.setClean c) { t' with clean := c } :=
  h.trans (Step.scalars h.rep (clean := fun _ => rfl))

/-- first loop of `__cstl_hash_rehash`; the relation to the state the loop started in is its invariant -/
theorem skipClean_sim {s0 : LS} {t0 : HT} : ∀ (d : Nat) {s : LS} {t : HT}, Step s0 t0 s t →
    Sim (fun s' t' => Step s0 t0 s' t') (skipClean s d) (Hash.skipClean t d)
  | 0, s, t, h => Sim.pure h
  | d + 1, s, t, h => by
    have r := h.rep
    rw [Hash.skipClean_succ]
    unfold skipClean
    refine Sim.ite (by rw [r.clean, r.count]) ?_ (fun _ => Sim.pure h)
    intro _
    rw [r.clean]
    refine Sim.bind (Sim.chk_rd r t.clean) ?_
    intro _ b hb _
    exact Sim.ite (by rw [r.bits _ b hb, r.cst]) (fun _ => skipClean_sim d (h.setClean (t.clean + 1)))
      (fun _ => Sim.pure h)

/-- second loop of `__cstl_hash_rehash` -/
theorem sweep_sim {s0 : LS} {t0 : HT} {fuel : Nat} (hfuel : (nodes t0).length ≤ fuel) :
    ∀ (d : Nat) {s : LS} {t : HT} (n : Option Nat), Step s0 t0 s t →
      Sim (fun s' t' => Step s0 t0 s' t') (sweep hf fuel s n d) (Hash.sweep hf t n d)
  | 0, s, t, n, h => Sim.pure h
  | d + 1, s, t, n, h => by
    have r := h.rep
    rw [Hash.sweep_succ]
    unfold sweep
    refine Sim.ite (by rw [r.clean, r.count]) ?_ (fun _ => Sim.pure h)
    intro _
    rw [r.clean]
    refine Sim.bind (cleanBucket_refines hf r (Nat.le_trans h.len hfuel) t.clean) ?_
    intro s1 t1 st1 _
    rw [st1.rep.clean]
    exact sweep_sim hfuel d (n.map (· - 1)) ((h.trans st1).setClean (t1.clean + 1))

/-- `__cstl_hash_rehash(h, n)` -/
theorem rehashN_refines {s : LS} {t : HT} (r : Rep s t) {fuel : Nat} (hfuel : (nodes t).length ≤ fuel) (n : Option Nat) :
    Sim (fun s' t' => Step s t s' t') (rehashN hf fuel s n) (Hash.rehashN hf t n) := by
  rw [Hash.rehashN_unfold]
  unfold rehashN
  rw [r.count, r.clean]
  refine Sim.bind (skipClean_sim _ (Step.refl r)) ?_
  intro s1 t1 st1 _
  rw [st1.rep.count, st1.rep.clean]
  refine Sim.bind (sweep_sim hf hfuel _ n st1) ?_
  intro s2 t2 st _
  refine Sim.ite (by rw [st.rep.count, st.rep.clean]) (fun _ => Sim.pure ?_) (fun _ => Sim.pure st)
  -- the pending geometry becomes the current one
  exact st.trans (Step.scalars st.rep (count := fun _ => st.rep.rhCount) (hash := fun _ => st.rep.rhHash)
    (rhHash := fun _ => rfl))

theorem rehashN_sim {s : LS} {t : HT} (r : Rep s t) {fuel : Nat} (hfuel : (nodes t).length ≤ fuel) (n : Option Nat) :
    Sim (fun s' t' => Step s t s' t') (rehashN hf fuel s n) (Hash.rehashN hf t n) :=
  rehashN_refines hf r hfuel n

/-- `cstl_hash_rehash` -/
theorem rehash_refines {s : LS} {t : HT} (r : Rep s t) {fuel : Nat} (hfuel : (nodes t).length ≤ fuel) :
    Sim (fun s' t' => Step s t s' t') (rehash hf fuel s) (Hash.rehash hf t) := by
  unfold rehash Hash.rehash
  exact Sim.ite (by rw [r.rhHash]) (fun _ => rehashN_refines hf r hfuel none) (fun _ => Sim.pure (Step.refl r))

theorem rehash_sim {s : LS} {t : HT} (r : Rep s t) {fuel : Nat} (hfuel : (nodes t).length ≤ fuel) :
    Sim (fun s' t' => Step s t s' t') (rehash hf fuel s) (Hash.rehash hf t) :=
  rehash_refines hf r hfuel

/-- **the keyed lookup sequence `cstl_hash_get_bucket`**: clean the key's old
bucket, its new bucket, sweep one more — same bucket index, same trace -/
theorem keyed_refines {s : LS} {t : HT} (r : Rep s t) {fuel : Nat} (hfuel : (nodes t).length ≤ fuel) (k : Nat) :
    Sim (fun x y => Step s t x.1 y.1 ∧ x.2 = y.2) (keyed hf fuel s k) (Hash.keyed hf t k) := by
  rw [Hash.keyed_unfold]
  unfold keyed
  rw [r.hash, r.count]
  refine Sim.bind (getBucket_sim hf _ _ _) ?_
  rintro i _ rfl _
  refine Sim.ite (by rw [r.rhHash]) ?_ (fun _ => Sim.pure ⟨Step.refl r, rfl⟩)
  intro _
  rw [r.rhHash, r.rhCount]
  refine Sim.bind (getBucket_sim hf _ _ _) ?_
  rintro j _ rfl _
  refine Sim.bind (cleanBucket_refines hf r hfuel i) ?_
  intro s1 t1 st1 _
  refine Sim.bind (cleanBucket_refines hf st1.rep (Nat.le_trans st1.len hfuel) j) ?_
  intro s2 t2 st2 _
  have st12 := st1.trans st2
  refine Sim.bind (rehashN_refines hf st12.rep (Nat.le_trans st12.len hfuel) (some 1)) ?_
  intro s3 t3 st3 _
  exact Sim.pure ⟨st12.trans st3, rfl⟩

theorem keyed_sim {s : LS} {t : HT} (r : Rep s t) {fuel : Nat} (hfuel : (nodes t).length ≤ fuel) (k : Nat) :
    Sim (fun x y => Step s t x.1 y.1 ∧ x.2 = y.2) (keyed hf fuel s k) (Hash.keyed hf t k) :=
  keyed_refines hf r hfuel k

theorem Sim.after_keyed {α' β' : Type} {rel' : α' → β' → Prop} {s : LS} {t : HT} (r : Rep s t) {fuel : Nat}
    (hfuel : (nodes t).length ≤ fuel) (k : Nat) {f : LS × Nat → LR α'} {g : HT × Nat → R β'}
    (h : ∀ s1 t1 j, Step s t s1 t1 → Sim rel' (f (s1, j)) (g (t1, j))) :
    Sim rel' (keyed hf fuel s k >>= f) (Hash.keyed hf t k >>= g) := by
  refine Sim.bind (keyed_refines hf r hfuel k) ?_
  rintro ⟨s1, j⟩ ⟨t1, j'⟩ ⟨st, hj⟩ _
  simp only at st hj
  subst hj
  exact h s1 t1 j st

end Cstl.HashL
