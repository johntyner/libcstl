import Cstl.Heap.Model
/-
`cstl_fls` (the mask loop) computes the index of the highest set bit.
-/
namespace Cstl.Heap

/-- the test `(x & (~0UL << s)) != 0` of the loop body -/
theorem mask_test {x s : Nat} (hx : x < 2 ^ 64) (hs : s < 64) :
    (x &&& ((2 ^ 64 - 1) <<< s) % 2 ^ 64 ≠ 0) ↔ 2 ^ s ≤ x := by
  constructor
  · intro h
    obtain ⟨j, hj⟩ := Nat.exists_testBit_of_ne_zero h
    rw [Nat.testBit_and, Nat.testBit_mod_two_pow, Nat.testBit_shiftLeft] at hj
    simp only [Bool.and_eq_true, decide_eq_true_eq] at hj
    have h1 := Nat.ge_two_pow_of_testBit hj.1
    have h2 : 2 ^ s ≤ 2 ^ j := Nat.pow_le_pow_right (by decide) hj.2.2.1
    exact Nat.le_trans h2 h1
  · intro h hz
    obtain ⟨j, hjs, hj⟩ := Nat.exists_ge_and_testBit_of_ge_two_pow h
    have hj64 : j < 64 := by
      apply Classical.byContradiction
      intro hc
      have h3 : 2 ^ 64 ≤ 2 ^ j := Nat.pow_le_pow_right (by decide) (by omega)
      have h4 := Nat.testBit_lt_two_pow (Nat.lt_of_lt_of_le hx h3)
      rw [h4] at hj
      exact Bool.noConfusion hj
    have h5 : (x &&& ((2 ^ 64 - 1) <<< s) % 2 ^ 64).testBit j = true := by
      rw [Nat.testBit_and, Nat.testBit_mod_two_pow, Nat.testBit_shiftLeft,
        Nat.testBit_two_pow_sub_one]
      simp only [Bool.and_eq_true, decide_eq_true_eq]
      exact ⟨hj, hj64, hjs, by omega⟩
    rw [hz] at h5
    simp at h5

theorem flsStep_spec {x i b : Nat} (hx : x < 2 ^ 64) (hb : b + i < 64)
    (hlo : 2 ^ i ≤ x) (hhi : x < 2 ^ (i + 2 * b)) :
    2 ^ (flsStep x i b) ≤ x ∧ x < 2 ^ (flsStep x i b + b) ∧ flsStep x i b ≤ i + b := by
  unfold flsStep
  by_cases h : 2 ^ (b + i) ≤ x
  · rw [if_pos ((mask_test hx hb).2 h)]
    refine ⟨h, ?_, by omega⟩
    have : b + i + b = i + 2 * b := by omega
    rw [this]; exact hhi
  · rw [if_neg (fun hc => h ((mask_test hx hb).1 hc))]
    refine ⟨hlo, ?_, by omega⟩
    have : i + b = b + i := by omega
    rw [this]; omega

theorem flsLoop_zero (x i : Nat) : flsLoop x i 0 = i := by
  rw [flsLoop]; simp

theorem flsLoop_pos (x i : Nat) {b : Nat} (hb : b ≠ 0) :
    flsLoop x i b = flsLoop x (flsStep x i b) (b / 2) := by
  rw [flsLoop]; simp [hb]

/-- loop invariant: entering an iteration with `b = 2^k`, the highest set bit
of `x` is in `[i, i + 2b)`; the loop ends with it at `i`. -/
theorem flsLoop_spec {x : Nat} (hx : x < 2 ^ 64) :
    ∀ (k i : Nat), 2 ^ i ≤ x → x < 2 ^ (i + 2 ^ (k + 1)) → i + 2 ^ (k + 1) ≤ 64 →
      2 ^ (flsLoop x i (2 ^ k)) ≤ x ∧ x < 2 ^ (flsLoop x i (2 ^ k) + 1) := by
  intro k
  induction k with
  | zero =>
    intro i hlo hhi hle
    have h1 : flsLoop x i (2 ^ 0) = flsStep x i 1 := by
      rw [flsLoop_pos x i (by decide)]
      exact flsLoop_zero _ _
    rw [h1]
    have := flsStep_spec (b := 1) hx (by simp at hle; omega) hlo (by simpa using hhi)
    exact ⟨this.1, this.2.1⟩
  | succ k ih =>
    intro i hlo hhi hle
    have hBB : 2 ^ (k + 1 + 1) = 2 * 2 ^ (k + 1) := by rw [Nat.pow_succ]; omega
    have hpos : 0 < 2 ^ k := Nat.pow_pos (by decide)
    have hne : 2 ^ (k + 1) ≠ 0 := by omega
    have hdiv : 2 ^ (k + 1) / 2 = 2 ^ k := by omega
    rw [flsLoop_pos x i hne, hdiv]
    have hs := flsStep_spec (b := 2 ^ (k + 1)) hx (by omega) hlo (by rw [← hBB]; exact hhi)
    exact ih _ hs.1 hs.2.1 (by omega)

theorem flsLoop_eq_log2 {x : Nat} (h0 : 0 < x) (hx : x < 2 ^ 64) :
    flsLoop x 0 32 = Nat.log2 x := by
  have h := flsLoop_spec hx 5 0 (by simp; omega) (by simpa using hx) (by decide)
  exact ((Nat.log2_eq_iff (by omega)).2 h).symm

end Cstl.Heap
