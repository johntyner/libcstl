import Cstl.Heap.LemmasFls
import Cstl.Heap.Spec
/-
`path loc` (the loop of `cstl_heap_find`) is the inverse of the level-order
numbering `locOf`.
-/
namespace Cstl.Heap

theorem and_two_pow (loc k : Nat) : loc &&& 2 ^ k = if loc.testBit k then 2 ^ k else 0 := by
  apply Nat.eq_of_testBit_eq
  intro j
  rw [Nat.testBit_and, Nat.testBit_two_pow]
  by_cases hj : k = j
  · subst hj; cases loc.testBit k <;> simp
  · cases loc.testBit k <;> simp [hj]

theorem and_two_pow_ne_zero (loc k : Nat) : (loc &&& 2 ^ k != 0) = loc.testBit k := by
  rw [and_two_pow]
  cases loc.testBit k <;> simp

theorem pathLoop_zero (loc : Nat) : pathLoop loc 0 = [] := by
  rw [pathLoop]; simp

theorem pathLoop_pos (loc : Nat) {b : Nat} (hb : b ≠ 0) :
    pathLoop loc b = (loc &&& b != 0) :: pathLoop loc (b >>> 1) := by
  rw [pathLoop]; simp [hb]

theorem two_pow_succ_shiftRight (k : Nat) : 2 ^ (k + 1) >>> 1 = 2 ^ k := by
  rw [Nat.shiftRight_eq_div_pow, Nat.pow_succ]
  exact Nat.mul_div_cancel _ (by decide)

theorem pathLoop_two_pow (loc : Nat) : ∀ k, pathLoop loc (2 ^ k) = bitsDown loc (k + 1) := by
  intro k
  induction k with
  | zero =>
    rw [pathLoop_pos loc (by decide), and_two_pow_ne_zero]
    have : (2 : Nat) ^ 0 >>> 1 = 0 := by decide
    rw [this, pathLoop_zero]
    rfl
  | succ k ih =>
    rw [pathLoop_pos loc (Nat.pos_iff_ne_zero.1 (Nat.pow_pos (by decide))), and_two_pow_ne_zero,
      two_pow_succ_shiftRight, ih]
    rfl

theorem path_eq_bitsDown {loc : Nat} (h0 : 0 < loc) (hlt : loc < 2 ^ 64) :
    path loc = bitsDown loc (Nat.log2 loc) := by
  unfold path fls
  rw [if_neg (by omega), flsLoop_eq_log2 h0 hlt]
  have e : ∀ n : Nat, (Int.ofNat n).toNat = n := fun _ => rfl
  simp only [e, Nat.one_shiftLeft]
  cases Nat.log2 loc with
  | zero =>
    have : (2 : Nat) ^ 0 >>> 1 = 0 := by decide
    rw [this, pathLoop_zero]; rfl
  | succ k => rw [two_pow_succ_shiftRight, pathLoop_two_pow]

theorem bitsDown_double (k : Nat) (d : Bool) :
    ∀ j, bitsDown (2 * k + d.toNat) (j + 1) = bitsDown k j ++ [d] := by
  intro j
  induction j with
  | zero =>
    show [(2 * k + d.toNat).testBit 0] = [d]
    cases d <;> simp [Nat.testBit_zero] <;> omega
  | succ j ih =>
    show (2 * k + d.toNat).testBit (j + 1) :: bitsDown (2 * k + d.toNat) (j + 1) = _
    rw [ih, Nat.testBit_add_one]
    have : (2 * k + d.toNat) / 2 = k := by cases d <;> simp <;> omega
    rw [this]
    rfl

theorem path_one : path 1 = [] := by
  rw [path_eq_bitsDown (by decide) (by decide)]
  have : Nat.log2 1 = 0 := by decide
  rw [this]; rfl

theorem path_double {k : Nat} (d : Bool) (hk : 0 < k) (hlt : 2 * k + d.toNat < 2 ^ 64) :
    path (2 * k + d.toNat) = path k ++ [d] := by
  have hd : d.toNat ≤ 1 := by cases d <;> simp
  rw [path_eq_bitsDown (by omega) hlt, path_eq_bitsDown hk (by omega)]
  have hlog : Nat.log2 (2 * k + d.toNat) = Nat.log2 k + 1 := by
    rw [Nat.log2_eq_iff (by omega)]
    have h1 := Nat.log2_self_le (n := k) (by omega)
    have h2 := Nat.lt_log2_self (n := k)
    omega
  rw [hlog, bitsDown_double]

theorem locFrom_ge (ds : List Bool) : ∀ k, k ≤ locFrom k ds := by
  induction ds with
  | nil => intro k; exact Nat.le_refl _
  | cons d ds ih =>
    intro k
    have := ih (2 * k + d.toNat)
    show k ≤ locFrom (2 * k + d.toNat) ds
    omega

theorem locFrom_append (ds es : List Bool) : ∀ k, locFrom k (ds ++ es) = locFrom (locFrom k ds) es := by
  induction ds with
  | nil => intro k; rfl
  | cons d ds ih => intro k; exact ih _

theorem locOf_snoc (ds : List Bool) (d : Bool) : locOf (ds ++ [d]) = 2 * locOf ds + d.toNat := by
  unfold locOf
  rw [locFrom_append]
  rfl

theorem locOf_pos (ds : List Bool) : 0 < locOf ds := locFrom_ge ds 1

theorem locFrom_gt {k : Nat} (hk : 0 < k) {ds : List Bool} (hne : ds ≠ []) : k < locFrom k ds := by
  cases ds with
  | nil => exact absurd rfl hne
  | cons d ds =>
    have := locFrom_ge ds (2 * k + d.toNat)
    show k < locFrom (2 * k + d.toNat) ds
    omega

theorem path_locFrom (ds : List Bool) :
    ∀ k, 0 < k → locFrom k ds < 2 ^ 64 → path (locFrom k ds) = path k ++ ds := by
  induction ds with
  | nil => intro k _ _; simp [locFrom]
  | cons d ds ih =>
    intro k hk hlt
    have hge := locFrom_ge ds (2 * k + d.toNat)
    have h1 : locFrom k (d :: ds) = locFrom (2 * k + d.toNat) ds := rfl
    rw [h1] at hlt ⊢
    rw [ih (2 * k + d.toNat) (by omega) hlt, path_double d hk (by omega)]
    simp

theorem path_locOf {ds : List Bool} (hlt : locOf ds < 2 ^ 64) : path (locOf ds) = ds := by
  have := path_locFrom ds 1 (by decide) hlt
  rw [path_one] at this
  simpa [locOf] using this

theorem locOf_path : ∀ (loc : Nat), 0 < loc → loc < 2 ^ 64 → locOf (path loc) = loc := by
  intro loc
  induction loc using Nat.strongRecOn with
  | _ loc ih =>
    intro h0 hlt
    by_cases h1 : loc = 1
    · subst h1; rw [path_one]; rfl
    · have hk : 0 < loc / 2 := by omega
      have hd : loc = 2 * (loc / 2) + (decide (loc % 2 = 1)).toNat := by
        by_cases hm : loc % 2 = 1
        · simp [hm]; omega
        · simp [hm]; omega
      have hp := path_double (decide (loc % 2 = 1)) hk (by omega)
      rw [← hd] at hp
      rw [hp, locOf_snoc, ih (loc / 2) (by omega) hk (by omega)]
      exact hd.symm

theorem locOf_inj {ds es : List Bool} (h : locOf ds = locOf es) (hlt : locOf ds < 2 ^ 64) : ds = es := by
  rw [← path_locOf hlt, h, path_locOf (h ▸ hlt)]

end Cstl.Heap
