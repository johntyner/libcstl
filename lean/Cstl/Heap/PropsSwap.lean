import Cstl.Heap.Props
/-
C07, the swap part: histories over TWO heaps with `cstl_heap_swap`.

`cstl_heap_swap` is `cstl_bintree_swap` on the embedded tree objects (the two
headers trade places, TreeL.Tie3.swap_tie); at the level of the functional
model a heap is a value, so a swap is the exchange of the pair.  The harness
does exactly this (`swap`, and `alt` = address the other object) and the
drivers apply the same exchange.
-/
namespace Cstl.Heap
open Tree

inductive POp where
  | on (op : Op)
  /-- `cstl_heap_swap`: the two objects trade contents -/
  | swap

def pairRunFrom : Heap × Heap → List POp → Option (Heap × Heap)
  | s, [] => some s
  | s, .swap :: ops => pairRunFrom (s.2, s.1) ops
  | s, .on op :: ops => (step s.1 op).bind (fun h' => pairRunFrom (h', s.2) ops)

def pairRun (ops : List POp) : Option (Heap × Heap) := pairRunFrom (empty, empty) ops

theorem pairRunFrom_inv : ∀ (ops : List POp) (s : Heap × Heap) (n : Nat), Inv s.1 → Inv s.2 →
    s.1.size ≤ n → s.2.size ≤ n → n + ops.length < 2 ^ 64 →
    ∃ s', pairRunFrom s ops = some s' ∧ Inv s'.1 ∧ Inv s'.2 ∧
      s'.1.size ≤ n + ops.length ∧ s'.2.size ≤ n + ops.length
  | [], s, n, h1, h2, b1, b2, _ => ⟨s, rfl, h1, h2, b1, b2⟩
  | .swap :: ops, s, n, h1, h2, b1, b2, hlt => by
    simp only [List.length_cons] at hlt ⊢
    obtain ⟨s', hr, i1, i2, c1, c2⟩ := pairRunFrom_inv ops (s.2, s.1) n h2 h1 b2 b1 (by omega)
    exact ⟨s', hr, i1, i2, by omega, by omega⟩
  | .on op :: ops, s, n, h1, h2, b1, b2, hlt => by
    simp only [List.length_cons] at hlt ⊢
    obtain ⟨h', hs, hi', hle⟩ := step_inv op h1 (by omega)
    obtain ⟨s', hr, i1, i2, c1, c2⟩ :=
      pairRunFrom_inv ops (h', s.2) (n + 1) hi' h2 (by simp only; omega) (by simp only; omega) (by omega)
    exact ⟨s', by simp [pairRunFrom, hs, hr], i1, i2, by omega, by omega⟩

/-- **two heaps with swap**: every history runs without a NULL dereference and leaves both heaps
ordered and complete -/
theorem pair_run_inv (ops : List POp) (hlt : ops.length < 2 ^ 64) :
    ∃ s, pairRun ops = some s ∧ Inv s.1 ∧ Inv s.2 ∧ s.1.size ≤ ops.length ∧ s.2.size ≤ ops.length := by
  simpa [pairRun] using pairRunFrom_inv ops (empty, empty) 0 inv_empty inv_empty (Nat.le_refl _)
    (Nat.le_refl _) (by simpa using hlt)

/-- in the state such a history reaches, the heap addressed yields a maximum (C07) -/
theorem pair_run_max (ops : List POp) (hlt : ops.length < 2 ^ 64) :
    ∃ s, pairRun ops = some s ∧ size s.1 = (elems s.1.t).length ∧
      ((elems s.1.t = [] → get s.1 = none ∧ pop s.1 = some (s.1, none)) ∧
       (elems s.1.t ≠ [] → ∃ h' x, pop s.1 = some (h', some x) ∧ get s.1 = some x ∧ x ∈ elems s.1.t ∧
          (∀ y ∈ elems s.1.t, y.key ≤ x.key) ∧ (elems s.1.t).Perm (x :: elems h'.t) ∧
          size h' = size s.1 - 1 ∧ Inv h')) := by
  obtain ⟨s, hr, i1, _, b1, _⟩ := pair_run_inv ops hlt
  exact ⟨s, hr, i1.max (by omega)⟩

example : (pairRun [.on (Op.push ⟨1, 1⟩), .on (Op.push ⟨3, 2⟩), .swap, .on (Op.push ⟨2, 3⟩), .swap, .on Op.pop]).map
    (fun s => (get s.1, size s.1, get s.2, size s.2)) = some (some ⟨1, 1⟩, 1, some ⟨2, 3⟩, 1) := by decide +kernel

end Cstl.Heap
