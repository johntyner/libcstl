import Cstl.Heap.Spec
/-
Heap order, the multiset of elements and the shape under sift-down (`siftInto`) and
attach + sift-up (`attachAt`, `siftUp`); one side of a node (`sub`, `setSub`) with the
`cons` equations of `attachAt` and `removeAt`.
-/
namespace Cstl.Heap
open Tree

@[simp] theorem elems_nil : elems nil = [] := rfl
@[simp] theorem elems_node (l r : Tree) (e : Elem) : elems (node l e r) = e :: (elems l ++ elems r) := rfl
@[simp] theorem elems_leaf (e : Elem) : elems (leaf e) = [e] := rfl

@[simp] theorem allLe_nil (k : Int) : AllLe k nil := by intro x hx; simp at hx

theorem allLe_node {k : Int} {l r : Tree} {e : Elem} :
    AllLe k (node l e r) ↔ e.key ≤ k ∧ AllLe k l ∧ AllLe k r := by
  unfold AllLe
  simp only [elems_node, List.mem_cons, List.mem_append]
  constructor
  · intro h
    exact ⟨h e (Or.inl rfl), fun x hx => h x (Or.inr (Or.inl hx)), fun x hx => h x (Or.inr (Or.inr hx))⟩
  · rintro ⟨h1, h2, h3⟩ x (rfl | hx | hx)
    · exact h1
    · exact h2 x hx
    · exact h3 x hx

theorem allLe_mono {k k' : Int} {t : Tree} (h : AllLe k t) (hk : k ≤ k') : AllLe k' t :=
  fun x hx => Int.le_trans (h x hx) hk

theorem allLe_of_perm {k : Int} {t : Tree} {xs : List Elem} (hp : (elems t).Perm xs)
    (h : ∀ x ∈ xs, x.key ≤ k) : AllLe k t :=
  fun x hx => h x (hp.mem_iff.1 hx)

@[simp] theorem heapOrdered_nil : HeapOrdered nil := trivial

theorem heapOrdered_node {l r : Tree} {e : Elem} :
    HeapOrdered (node l e r) ↔ AllLe e.key l ∧ AllLe e.key r ∧ HeapOrdered l ∧ HeapOrdered r := Iff.rfl

theorem heapOrdered_leaf (e : Elem) : HeapOrdered (leaf e) := by
  simp [leaf, heapOrdered_node]

theorem HeapOrdered.allLe_root {l r : Tree} {e : Elem} (h : HeapOrdered (node l e r)) :
    AllLe e.key (node l e r) :=
  allLe_node.2 ⟨Int.le_refl _, h.1, h.2.1⟩

theorem rootLe_of_allLe {k : Int} {t : Tree} (h : AllLe k t) : rootLe k t := by
  cases t with
  | nil => trivial
  | node l x r => exact h x (by simp)

theorem HeapOrdered.allLe_of_rootLe {k : Int} {t : Tree} (h : HeapOrdered t) (hk : rootLe k t) : AllLe k t := by
  cases t with
  | nil => exact allLe_nil k
  | node l x r => exact allLe_mono h.allLe_root hk

/-! ### one side of a node

The recursions of the model descend into the child a direction selects and rebuild the node
around the result.  `sub` and `setSub` name the two halves, so that a fact about such a
recursion is proved once for both directions. -/

def sub (d : Bool) (l r : Tree) : Tree := if d then r else l

def setSub (d : Bool) (l : Tree) (x : Elem) (r c : Tree) : Tree :=
  if d then node l x c else node c x r

theorem setSub_sub (d : Bool) (l : Tree) (x : Elem) (r : Tree) : setSub d l x r (sub d l r) = node l x r := by
  cases d <;> rfl

theorem setSub_eq_node (d : Bool) (l : Tree) (x : Elem) (r c : Tree) : ∃ l' r', setSub d l x r c = node l' x r' := by
  cases d <;> exact ⟨_, _, rfl⟩

theorem elems_sub_perm (d : Bool) (l r : Tree) :
    (elems (sub d l r) ++ elems (sub (!d) l r)).Perm (elems l ++ elems r) := by
  cases d
  · exact .refl _
  · exact List.perm_append_comm

theorem elems_setSub (d : Bool) (l : Tree) (x : Elem) (r c : Tree) :
    (elems (setSub d l x r c)).Perm (x :: (elems c ++ elems (sub (!d) l r))) := by
  cases d
  · exact .refl _
  · exact List.perm_append_comm.cons x

theorem perm_setSub {d : Bool} {l r c c' : Tree} {x e : Elem} (h : (elems c').Perm (e :: elems c)) :
    (elems (setSub d l x r c')).Perm (e :: elems (setSub d l x r c)) :=
  ((elems_setSub d l x r c').trans (((h.append_right _).cons x).trans (List.Perm.swap e x _))).trans
    ((elems_setSub d l x r c).symm.cons e)

theorem perm_setSub_swap (d : Bool) (l r cl cr : Tree) (x n : Elem) :
    (elems (setSub d l n r (node cl x cr))).Perm (elems (setSub d l x r (node cl n cr))) :=
  (elems_setSub d l n r (node cl x cr)).trans
    ((List.Perm.swap x n _).trans (elems_setSub d l x r (node cl n cr)).symm)

theorem heapOrdered_setSub {d : Bool} {l r c : Tree} {x : Elem} :
    HeapOrdered (setSub d l x r c) ↔
      (AllLe x.key c ∧ HeapOrdered c) ∧ AllLe x.key (sub (!d) l r) ∧ HeapOrdered (sub (!d) l r) := by
  cases d
  · exact ⟨fun h => ⟨⟨h.1, h.2.2.1⟩, h.2.1, h.2.2.2⟩, fun h => ⟨h.1.1, h.2.1, h.1.2, h.2.2⟩⟩
  · exact ⟨fun h => ⟨⟨h.2.1, h.2.2.2⟩, h.1, h.2.2.1⟩, fun h => ⟨h.2.1, h.1.1, h.2.2, h.1.2⟩⟩

theorem heapOrdered_node_sub (d : Bool) {l r : Tree} {x : Elem} :
    HeapOrdered (node l x r) ↔
      (AllLe x.key (sub d l r) ∧ HeapOrdered (sub d l r)) ∧
      AllLe x.key (sub (!d) l r) ∧ HeapOrdered (sub (!d) l r) :=
  setSub_sub d l x r ▸ heapOrdered_setSub

theorem shape_setSub_congr {d : Bool} {l r c c' : Tree} (x y : Elem) (h : shape c' = shape c) :
    shape (setSub d l x r c') = shape (setSub d l y r c) := by
  cases d <;> simp [setSub, shape, h]

theorem attachAt_cons (l r : Tree) (x : Elem) (d : Bool) (ds : List Bool) (side : Bool) (e : Elem) :
    attachAt (node l x r) (d :: ds) side e = (attachAt (sub d l r) ds side e).map (setSub d l x r) := by
  cases d <;> rfl

theorem removeAt_cons (l r : Tree) (x : Elem) (d : Bool) (ds : List Bool) :
    removeAt (node l x r) (d :: ds) = (removeAt (sub d l r) ds).map (fun p => (setSub d l x r p.1, p.2)) := by
  cases d <;> rfl

/-- the part of a tree that `siftInto` keeps: everything but the root element -/
def kids : Tree → List Elem
  | nil => []
  | node l _ r => elems l ++ elems r

def SubOrdered : Tree → Prop
  | nil => True
  | node l _ r => HeapOrdered l ∧ HeapOrdered r

theorem HeapOrdered.subOrdered {t : Tree} (h : HeapOrdered t) : SubOrdered t := by
  cases t with
  | nil => trivial
  | node l e r => exact ⟨h.2.2.1, h.2.2.2⟩

def Sifted (n : Elem) (t s : Tree) : Prop :=
  HeapOrdered s ∧ shape s = shape t ∧ (t ≠ nil → (elems s).Perm (n :: kids t))

/-- the candidate is the root `z` of the child on side `d`: it moves up, and `n` is sifted into
that child -/
theorem sifted_descend {n x z : Elem} {d : Bool} {l r a b s : Tree} (hsub : sub d l r = node a z b)
    (hd : HeapOrdered (sub d l r)) (ho : HeapOrdered (sub (!d) l r))
    (hz : n.key < z.key) (hother : rootLe z.key (sub (!d) l r)) (hs : Sifted n (sub d l r) s) :
    Sifted n (node l x r) (setSub d l z r s) := by
  obtain ⟨h1, h2, h3⟩ := hs
  rw [hsub] at hd h3
  have h3 : (elems s).Perm (n :: (elems a ++ elems b)) := h3 nofun
  refine ⟨heapOrdered_setSub.2 ⟨⟨allLe_of_perm h3 ?_, h1⟩, ho.allLe_of_rootLe hother, ho⟩, ?_, fun _ => ?_⟩
  · intro y hy
    rcases List.mem_cons.1 hy with rfl | hy
    · exact Int.le_of_lt hz
    · rcases List.mem_append.1 hy with hy | hy
      · exact hd.1 y hy
      · exact hd.2.1 y hy
  · rw [← setSub_sub d l x r]
    exact shape_setSub_congr z x h2
  · refine (elems_setSub d l z r s).trans ?_
    refine (((h3.append_right _).cons z).trans (List.Perm.swap n z _)).trans (.cons n ?_)
    have := elems_sub_perm d l r
    rwa [hsub] at this

/-- the candidate of one round of the do/while of `cstl_heap_pop`, for the moved element `n` above
the children `l`, `r`: `none` = `n` is its own candidate and stays, `some d` = the root of the
side-`d` child (the rule is that of `siftInto`) -/
def cand (n : Elem) : Tree → Tree → Option Bool
  | nil, nil => none
  | nil, node _ y _ => if y.key > n.key then some true else none
  | node _ x _, nil => if x.key > n.key then some false else none
  | node _ x _, node _ y _ =>
    if y.key > (if x.key > n.key then x.key else n.key) then some true
    else if x.key > n.key then some false else none

theorem cand_spec (n x : Elem) (l r : Tree) :
    match cand n l r with
    | none => rootLe n.key l ∧ rootLe n.key r ∧ siftInto n (node l x r) = node l n r
    | some d => ∃ a z b, sub d l r = node a z b ∧ n.key < z.key ∧ rootLe z.key (sub (!d) l r) ∧
        siftInto n (node l x r) = setSub d l z r (siftInto n (node a z b)) := by
  rcases l with _ | ⟨ll, xl, lr⟩ <;> rcases r with _ | ⟨rl, y, rr⟩ <;> simp only [cand, siftInto]
  · exact ⟨trivial, trivial, trivial⟩
  · by_cases hy : y.key > n.key <;> simp only [hy, if_true, if_false]
    · exact ⟨_, _, _, rfl, hy, trivial, rfl⟩
    · exact ⟨trivial, Int.not_lt.1 hy, trivial⟩
  · by_cases hx : xl.key > n.key <;> simp only [hx, if_true, if_false]
    · exact ⟨_, _, _, rfl, hx, trivial, rfl⟩
    · exact ⟨Int.not_lt.1 hx, trivial, trivial⟩
  · by_cases hx : xl.key > n.key <;> simp only [hx, if_true, if_false]
    · by_cases hy : y.key > xl.key <;> simp only [hy, if_true, if_false]
      · exact ⟨_, _, _, rfl, by omega, Int.le_of_lt hy, rfl⟩
      · exact ⟨_, _, _, rfl, hx, Int.not_lt.1 hy, rfl⟩
    · by_cases hy : y.key > n.key <;> simp only [hy, if_true, if_false]
      · exact ⟨_, _, _, rfl, hy, show xl.key ≤ y.key by omega, rfl⟩
      · exact ⟨Int.not_lt.1 hx, Int.not_lt.1 hy, trivial⟩

theorem siftInto_spec (n : Elem) : ∀ t : Tree, SubOrdered t → Sifted n t (siftInto n t) := by
  intro t
  induction t with
  | nil => exact fun _ => ⟨trivial, rfl, fun h => absurd rfl h⟩
  | node l x r ihl ihr =>
    intro ⟨hl, hr⟩
    have hc := cand_spec n x l r
    split at hc
    · obtain ⟨h1, h2, he⟩ := hc
      exact he ▸ ⟨⟨hl.allLe_of_rootLe h1, hr.allLe_of_rootLe h2, hl, hr⟩, rfl, fun _ => .refl _⟩
    · obtain ⟨a, z, b, hs, hz, ho, he⟩ := hc
      rename_i d _
      rw [he, ← hs]
      cases d
      · exact sifted_descend hs hl hr hz ho (ihl hl.subOrdered)
      · exact sifted_descend hs hr hl hz ho (ihr hr.subOrdered)

theorem not_occ_nil_iff {t : Tree} : ¬ Occ t [] ↔ t = nil := by
  cases t <;> simp [Occ]

/-- one iteration of the upward loop, seen from the parent `x` of the side-`d` child: the result
of the level below either has stopped, or has `n` at its root, which is compared with `x`
(`HeapL.stepUp` is this step read on a frame of a context, `HeapL.bind_stepUp`) -/
def upStep (d : Bool) (l : Tree) (x : Elem) (r : Tree) : Option (Tree × Bool) → Option (Tree × Bool)
  | none => none
  | some (c', false) => some (setSub d l x r c', false)
  | some (nil, true) => none
  | some (node cl n cr, true) =>
    if n.key > x.key then some (setSub d l n r (node cl x cr), true)
    else some (setSub d l x r (node cl n cr), false)

theorem siftUp_setSub (d : Bool) (l : Tree) (x : Elem) (r c : Tree) (ds : List Bool) :
    siftUp (setSub d l x r c) (d :: ds) = upStep d l x r (siftUp c ds) := by
  cases d <;> (simp only [setSub, Bool.false_eq_true, if_false, if_true]; rw [siftUp]; rfl)

theorem siftUp_leaf (e : Elem) : siftUp (leaf e) [] = some (leaf e, true) := by
  simp [siftUp, leaf]

/-- what one level of the upward loop needs to know about the level below: `c` the subtree
before the attach, `c1` after it, `c2` after the loop has passed -/
structure UpResult (e : Elem) (c c1 c2 : Tree) (rising : Bool) : Prop where
  ho : HeapOrdered c2
  perm2 : (elems c2).Perm (e :: elems c)
  shp : shape c2 = shape c1
  top : rising = true → ∃ l r, c2 = node l e r
  stop : rising = false → ∃ y ∈ elems c, e.key ≤ y.key

theorem UpResult.step {e x : Elem} {l r c1 c2 : Tree} {d rising : Bool} (ho : HeapOrdered (node l x r))
    (hres : UpResult e (sub d l r) c1 c2 rising) :
    ∃ t2 rising', upStep d l x r (some (c2, rising)) = some (t2, rising') ∧
      UpResult e (node l x r) (setSub d l x r c1) t2 rising' := by
  obtain ⟨⟨hle, _⟩, hlo, hoo⟩ := (heapOrdered_node_sub d).1 ho
  have perm2 := setSub_sub d l x r ▸ perm_setSub (d := d) (l := l) (x := x) (r := r) hres.perm2
  -- whenever `e ≤ x`, `x` stays above the subtree that has gained `e`, and the loop is over
  have stays : e.key ≤ x.key → UpResult e (node l x r) (setSub d l x r c1) (setSub d l x r c2) false := fun hex => {
    ho := heapOrdered_setSub.2 ⟨⟨allLe_of_perm hres.perm2 fun z hz => by
      rcases List.mem_cons.1 hz with rfl | hz
      · exact hex
      · exact hle z hz, hres.ho⟩, hlo, hoo⟩
    perm2 := perm2
    shp := shape_setSub_congr x x hres.shp
    top := nofun
    stop := fun _ => ⟨x, List.mem_cons_self, hex⟩ }
  cases rising with
  | false =>
    -- the loop has stopped below, at some `y ≥ e` of the subtree
    obtain ⟨y, hy, hey⟩ := hres.stop rfl
    exact ⟨_, false, rfl, stays (Int.le_trans hey (hle y hy))⟩
  | true =>
    obtain ⟨cl, cr, rfl⟩ := hres.top rfl
    by_cases hk : e.key > x.key
    · -- `e` goes up; below it hangs `x` over what was in the subtree before
      have hkids : ∀ z ∈ elems cl ++ elems cr, z.key ≤ x.key :=
        fun z hz => hle z ((List.Perm.cons_inv hres.perm2).mem_iff.1 hz)
      have hcl : AllLe x.key cl := fun z hz => hkids z (List.mem_append_left _ hz)
      have hcr : AllLe x.key cr := fun z hz => hkids z (List.mem_append_right _ hz)
      obtain ⟨l', r', hn⟩ := setSub_eq_node d l e r (node cl x cr)
      have hxe : x.key ≤ e.key := by omega
      exact ⟨_, true, by simp [upStep, hk], {
        ho := heapOrdered_setSub.2 ⟨⟨allLe_node.2 ⟨hxe, allLe_mono hcl hxe, allLe_mono hcr hxe⟩,
          hcl, hcr, hres.ho.2.2⟩, allLe_mono hlo hxe, hoo⟩
        perm2 := (perm_setSub_swap d l r cl cr x e).trans perm2
        shp := shape_setSub_congr e x hres.shp
        top := fun _ => ⟨l', r', hn⟩
        stop := nofun }⟩
    · exact ⟨_, false, by simp [upStep, hk], stays (Int.not_lt.1 hk)⟩

theorem siftUp_attach (e : Elem) (side : Bool) : ∀ (pp : List Bool) (t t1 : Tree),
    HeapOrdered t → ¬ Occ t (pp ++ [side]) → attachAt t pp side e = some t1 →
    ∃ t2 rising, siftUp t1 (pp ++ [side]) = some (t2, rising) ∧ UpResult e t t1 t2 rising
  | pp, nil, _, _, _, hat => by cases pp <;> cases hat
  | [], node l x r, _, ho, hocc, hat => by
    obtain rfl : setSub side l x r (leaf e) = _ := Option.some.inj hat
    have base : UpResult e (sub side l r) (leaf e) (leaf e) true := by
      have hn : sub side l r = nil := not_occ_nil_iff.1 hocc
      rw [hn]
      exact { ho := heapOrdered_leaf e, perm2 := .refl _, shp := rfl,
              top := fun _ => ⟨_, _, rfl⟩, stop := nofun }
    obtain ⟨t2, rising, hs, hres⟩ := base.step ho
    exact ⟨t2, rising, by rw [List.nil_append, siftUp_setSub, siftUp_leaf]; exact hs, hres⟩
  | d :: ds, node l x r, _, ho, hocc, hat => by
    rw [attachAt_cons] at hat
    obtain ⟨c1, hat1, rfl⟩ := Option.map_eq_some_iff.1 hat
    obtain ⟨c2, rising, hs, hres⟩ :=
      siftUp_attach e side ds (sub d l r) c1 ((heapOrdered_node_sub d).1 ho).1.2 hocc hat1
    obtain ⟨t2, rising', hs', hres'⟩ := hres.step ho
    exact ⟨t2, rising', by rw [List.cons_append, siftUp_setSub, hs]; exact hs', hres'⟩

end Cstl.Heap
