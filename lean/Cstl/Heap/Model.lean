/-
Model of src/heap.c (pointer-linked binary max-heap), of `cstl_fls`
(src/common.c) and of the part of `cstl_bintree_clear` (src/bintree.c) that
`cstl_heap_clear` uses.  Core Lean only.

The C heap is a complete binary tree of `struct cstl_bintree_node`s; the only
state besides the links is `bt.size`, which doubles as the address of the next
free slot and of the last element: the node with 0-based level-order number
`id` is found by walking from the root along the bits of `loc = id + 1` below
its highest set bit, most significant first (`cstl_heap_find`).

What is modelled one-to-one
  * `cstl_fls`: the mask loop on a 64-bit value (`flsLoop`), `b = 32,16,…,1`;
  * `cstl_heap_find`: `b = (1 << fls(loc)) >> 1`, then the loop over `b`
    (`pathLoop`, `walk`), including "p became NULL" (`walk` returns `nil`);
  * `cstl_heap_push`: empty-root case; otherwise parent = find((size-1)/2),
    side = right iff size % 2 == 0, the child pointer of the parent is
    overwritten (`attachAt`), then `while (n->p && cmp(n, n->p) > 0)
    promote_child` (`siftUp`);
  * `cstl_heap_pop`: result = root; n = find(size-1); unlink n from its parent
    (`removeAt`); `*n = *root` (n takes the root's position and children), then
    the do/while with the C tie rules: the left child is taken only if it is
    `>` n, the right child only if it is `>` the current candidate (`siftInto`);
  * `cstl_heap_get`, `cstl_heap_size`, `cstl_heap_clear` (callback order of the
    traversal: a node is handed over on its LEAF or POST visit, i.e. after both
    subtrees; its children are read once, at entry).

What this model abstracts: a node is a position in a functional tree, so the
six-neighbour relinking of `cstl_heap_promote_child` is "the two elements
exchange positions".  The relinking itself (every parent and child pointer) is
modelled in lean/Cstl/HeapL on `TreeL.promoteChild` and proved to refine this
model (`TreeL.heap_promote_child_refines`, `HeapL.heap_history_refines`); the
harness dump compares it on every run as well.

Where the C code would dereference NULL or evaluate an undefined shift the
model returns `none` (the harness then reports `STOP segv`); the theorems show
this never happens from a state satisfying the invariant.  `unsigned int`
truncation of `id`/`loc` is not modelled: sizes are below 2^31 (DESIGN 7, Bounds).
-/
namespace Cstl.Heap

/-- An element: `id` is the pointer (pool index), comparison is by `key`. -/
structure Elem where
  key : Int
  id : Nat
deriving DecidableEq, Repr, Inhabited

inductive Tree where
  | nil
  | node (l : Tree) (e : Elem) (r : Tree)
deriving DecidableEq, Repr, Inhabited

namespace Tree

def leaf (e : Elem) : Tree := node nil e nil

/-- elements in pre-order (used only as a multiset) -/
def elems : Tree → List Elem
  | nil => []
  | node l e r => e :: (elems l ++ elems r)

def height : Tree → Nat
  | nil => 0
  | node l _ r => max (height l) (height r) + 1

end Tree

open Tree

/-! ### `cstl_fls` -/

/-- body of the loop: `s = b + i; m = ~0UL << s; if ((x & m) != 0) i = s;` -/
def flsStep (x i b : Nat) : Nat :=
  let s := b + i
  let m := ((2 ^ 64 - 1) <<< s) % 2 ^ 64
  if x &&& m ≠ 0 then s else i

/-- `for (…; b != 0; b /= 2)` -/
def flsLoop (x i b : Nat) : Nat :=
  if _h : b = 0 then i else flsLoop x (flsStep x i b) (b / 2)
termination_by b
decreasing_by omega

/-- `int cstl_fls(unsigned long x)` for `x < 2^64` -/
def fls (x : Nat) : Int :=
  if x = 0 then -1 else Int.ofNat (flsLoop x 0 32)

/-! ### `cstl_heap_find` -/

/-- `for (b = …; b != 0; b >>= 1)`: one direction per iteration,
`true` = right (`(loc & b) != 0`) -/
def pathLoop (loc b : Nat) : List Bool :=
  if _h : b = 0 then [] else (loc &&& b != 0) :: pathLoop loc (b >>> 1)
termination_by b
decreasing_by
  rw [Nat.shiftRight_eq_div_pow]
  exact Nat.div_lt_self (by omega) (by decide)

/-- directions from the root to the slot numbered `loc` (1-based level order):
the bits of `loc` below its highest set bit, msb first -/
def path (loc : Nat) : List Bool :=
  pathLoop loc ((1 <<< (fls loc).toNat) >>> 1)

/-- follow directions; `nil` when the walk runs into a NULL pointer
(`p != NULL &&` in the loop condition) or ends on one -/
def walk : Tree → List Bool → Tree
  | nil, _ => nil
  | t@(node _ _ _), [] => t
  | node l _ r, d :: ds => walk (if d then r else l) ds

/-- `cstl_heap_find(h, id)`: the subtree whose root is the node found
(`nil` = NULL) -/
def findSlot (t : Tree) (id : Nat) : Tree := walk t (path (id + 1))

/-! ### push -/

/-- `n->p = find(…); n->p->{l,r} = n;` with `ds` the directions to the
parent.  `none`: the parent pointer is NULL and is dereferenced. -/
def attachAt : Tree → List Bool → Bool → Elem → Option Tree
  | nil, _, _, _ => none
  | node l x r, [], side, e =>
    some (if side then node l x (leaf e) else node (leaf e) x r)
  | node l x r, d :: ds, side, e =>
    if d then (attachAt r ds side e).map (fun r' => node l x r')
    else (attachAt l ds side e).map (fun l' => node l' x r)

/-- `while (n->p != NULL && cmp(n, n->p) > 0) promote_child(h, n);`
where `ds` are the directions from the root of this subtree to `n`.
The loop runs upward, so it is executed on the way back from the descent:
the result is the subtree after the loop and a flag saying that `n` is now the
root of this subtree *and* the loop has not stopped yet (every comparison so
far was `> 0`).  `promote_child` exchanges the positions of `n` and its
parent: `n` takes the parent's place and its other child, the parent takes
`n`'s place and children. -/
def siftUp : Tree → List Bool → Option (Tree × Bool)
  | nil, _ => none
  | t@(node _ _ _), [] => some (t, true)
  | node l x r, d :: ds =>
    if d then
      match siftUp r ds with
      | none => none
      | some (r', false) => some (node l x r', false)
      | some (nil, true) => none
      | some (node cl n cr, true) =>
        if n.key > x.key then some (node l n (node cl x cr), true)
        else some (node l x (node cl n cr), false)
    else
      match siftUp l ds with
      | none => none
      | some (l', false) => some (node l' x r, false)
      | some (nil, true) => none
      | some (node cl n cr, true) =>
        if n.key > x.key then some (node (node cl x cr) n r, true)
        else some (node (node cl n cr) x r, false)

structure Heap where
  t : Tree
  size : Nat
deriving DecidableEq, Repr, Inhabited

def empty : Heap := { t := nil, size := 0 }

/-- `cstl_heap_push` -/
def push (h : Heap) (e : Elem) : Option Heap :=
  match h.t with
  | nil => some { t := leaf e, size := h.size + 1 }
  | node _ _ _ =>
    if h.size = 0 then none          -- (size - 1) wraps: loc = 0, `1 << -1`
    else
      let ds := path ((h.size - 1) / 2 + 1)
      let side := h.size % 2 == 0
      match attachAt h.t ds side e with
      | none => none
      | some t1 =>
        match siftUp t1 (ds ++ [side]) with
        | none => none
        | some (t2, _) => some { t := t2, size := h.size + 1 }

/-! ### get / size -/

/-- `cstl_heap_get` -/
def get (h : Heap) : Option Elem :=
  match h.t with
  | nil => none
  | node _ e _ => some e

/-- `cstl_heap_size` -/
def size (h : Heap) : Nat := h.size

/-! ### pop -/

/-- `n = find(…)`, then unlink `n` from its parent (`root = NULL` when it has
none).  Returns the remaining tree and `n`'s element; whatever hangs below `n`
is lost with it (`*n = *root` overwrites `n`'s child pointers).
`none`: `n` is NULL and `n->p` is read. -/
def removeAt : Tree → List Bool → Option (Tree × Elem)
  | nil, _ => none
  | node _ x _, [] => some (nil, x)
  | node l x r, d :: ds =>
    if d then (removeAt r ds).map (fun (r', n) => (node l x r', n))
    else (removeAt l ds).map (fun (l', n) => (node l' x r, n))

/-- `*n = *root; root = n;` followed by the do/while of `cstl_heap_pop`:
`n` takes the root position of the given tree (whose root element is the one
being returned) and is exchanged with the chosen child until it is its own
candidate.  Candidate rule of the C code: `c = n`; `c = l` if `l != NULL` and
`l > c`; then `c = r` if `r != NULL` and `r > c` (so the left child is taken
only if it is `>` n, the right child only if it is `>` the current candidate). -/
def siftInto (n : Elem) : Tree → Tree
  | nil => nil
  | node l _ r =>
    match l, r with
    | nil, nil => node nil n nil
    | nil, node _ y _ =>
      if y.key > n.key then node nil y (siftInto n r) else node nil n r
    | node _ x _, nil =>
      if x.key > n.key then node (siftInto n l) x nil else node l n nil
    | node _ x _, node _ y _ =>
      let ck : Int := if x.key > n.key then x.key else n.key
      if y.key > ck then node l y (siftInto n r)
      else if x.key > n.key then node (siftInto n l) x r
      else node l n r

/-- `cstl_heap_pop`: new state and result (`none` = NULL) -/
def pop (h : Heap) : Option (Heap × Option Elem) :=
  match h.t with
  | nil => some (h, none)
  | node _ res _ =>
    if h.size = 0 then none          -- (size - 1) wraps
    else
      match removeAt h.t (path h.size) with    -- find(h, size - 1): loc = size
      | none => none
      | some (t1, n) =>
        match t1 with
        | nil => some ({ t := nil, size := h.size - 1 }, some res)
        | node _ _ _ => some ({ t := siftInto n t1, size := h.size - 1 }, some res)

/-! ### clear (`cstl_bintree_clear` through `cstl_heap_clear`) -/

/-- what the traversal does with element `id`: `touch` = its child pointers are
read (once, at entry of `__cstl_bintree_foreach`), `cb` = the clear callback is
called on it (LEAF visit, or POST visit of a non-leaf). -/
inductive Ev where
  | touch (id : Nat)
  | cb (id : Nat)
deriving DecidableEq, Repr

def clearTrace : Tree → List Ev
  | nil => []
  | node l e r => Ev.touch e.id :: (clearTrace l ++ clearTrace r ++ [Ev.cb e.id])

/-- callback order -/
def clearOrder : Tree → List Elem
  | nil => []
  | node l e r => clearOrder l ++ clearOrder r ++ [e]

/-- `cstl_heap_clear`: the callbacks in order, and the state afterwards
(`root = NULL; size = 0` only when the root was not NULL) -/
def clear (h : Heap) : Heap × List Elem :=
  match h.t with
  | nil => (h, [])
  | t@(node _ _ _) => ({ t := nil, size := 0 }, clearOrder t)

/-! ### level-order dump (what the harness prints) -/

/-- children of the nodes of one level, with their 1-based level-order
numbers (`2k`, `2k+1`) -/
def nextLevel : List (Nat × Tree) → List (Nat × Tree)
  | [] => []
  | (k, node l _ r) :: q => (2 * k, l) :: (2 * k + 1, r) :: nextLevel q
  | (_, nil) :: q => nextLevel q

def thisLevel : List (Nat × Tree) → List (Nat × Elem)
  | [] => []
  | (k, node _ e _) :: q => (k, e) :: thisLevel q
  | (_, nil) :: q => thisLevel q

def bfs : Nat → List (Nat × Tree) → List (Nat × Elem)
  | 0, _ => []
  | f + 1, q => thisLevel q ++ bfs f (nextLevel q)

/-- nodes in breadth-first order, each with its slot number -/
def levelOrder (t : Tree) : List (Nat × Elem) := bfs (t.height + 1) [(1, t)]

end Cstl.Heap
