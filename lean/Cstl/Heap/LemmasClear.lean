import Cstl.Heap.LemmasOrder
/-
`cstl_heap_clear`: the traversal reads a node's children once, at entry, and
hands the element over after both subtrees are done.
-/
namespace Cstl.Heap
open Tree

def ids (t : Tree) : List Nat := (elems t).map (·.id)

def Ev.involves (i : Nat) : Ev → Bool
  | Ev.touch j => j == i
  | Ev.cb j => j == i

def Ev.cbId : Ev → Option Nat
  | Ev.touch _ => none
  | Ev.cb j => some j

@[simp] theorem ids_nil : ids nil = [] := rfl
@[simp] theorem ids_node (l r : Tree) (e : Elem) : ids (node l e r) = e.id :: (ids l ++ ids r) := by
  simp [ids]

theorem clearOrder_perm : ∀ t : Tree, (clearOrder t).Perm (elems t)
  | nil => .refl _
  | node l e r => List.perm_append_comm.trans (((clearOrder_perm l).append (clearOrder_perm r)).cons e)

theorem clearTrace_cbs : ∀ t : Tree, (clearTrace t).filterMap Ev.cbId = (clearOrder t).map (·.id) := by
  intro t
  induction t with
  | nil => rfl
  | node l e r ihl ihr =>
    show List.filterMap Ev.cbId (Ev.touch e.id :: (clearTrace l ++ clearTrace r ++ [Ev.cb e.id]))
      = List.map (·.id) (clearOrder l ++ clearOrder r ++ [e])
    rw [List.filterMap_cons_none (by rfl), List.filterMap_append, List.filterMap_append, ihl, ihr,
      List.map_append, List.map_append]
    rfl

theorem clearTrace_filter_notin {i : Nat} : ∀ t : Tree, i ∉ ids t →
    (clearTrace t).filter (Ev.involves i) = [] := by
  intro t
  induction t with
  | nil => intro _; rfl
  | node l e r ihl ihr =>
    intro h
    simp only [ids_node, List.mem_cons, List.mem_append, not_or] at h
    have hne : (e.id == i) = false := by
      simp only [beq_eq_false_iff_ne, ne_eq]
      exact fun hc => h.1 hc.symm
    simp [clearTrace, List.filter_append, Ev.involves, hne, ihl h.2.1, ihr h.2.2]

theorem clearTrace_filter {i : Nat} : ∀ t : Tree, (ids t).Nodup → i ∈ ids t →
    (clearTrace t).filter (Ev.involves i) = [Ev.touch i, Ev.cb i] := by
  intro t
  induction t with
  | nil => intro _ h; simp at h
  | node l e r ihl ihr =>
    intro hnd hi
    simp only [ids_node, List.nodup_cons, List.mem_append, not_or, List.nodup_append] at hnd
    obtain ⟨⟨hel, her⟩, hl, hr, hdisj⟩ := hnd
    simp only [ids_node, List.mem_cons, List.mem_append] at hi
    rcases hi with rfl | hi | hi
    · simp [clearTrace, List.filter_append, Ev.involves,
        clearTrace_filter_notin l hel, clearTrace_filter_notin r her]
    · have hne : (e.id == i) = false := by
        simp only [beq_eq_false_iff_ne, ne_eq]
        rintro rfl; exact hel hi
      have hir : i ∉ ids r := fun hc => hdisj i hi i hc rfl
      simp [clearTrace, List.filter_append, Ev.involves, hne,
        ihl hl hi, clearTrace_filter_notin r hir]
    · have hne : (e.id == i) = false := by
        simp only [beq_eq_false_iff_ne, ne_eq]
        rintro rfl; exact her hi
      have hil : i ∉ ids l := fun hc => hdisj i hc i hi rfl
      simp [clearTrace, List.filter_append, Ev.involves, hne,
        ihr hr hi, clearTrace_filter_notin l hil]

end Cstl.Heap
