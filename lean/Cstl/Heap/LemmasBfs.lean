import Cstl.Heap.LemmasShape
/-
The slot numbering is the breadth-first (level) order: on a complete tree the
breadth-first traversal from the root (`levelOrder`, which is what the harness
dump prints from the real pointers) lists the slots `1, 2, …, n` in this order.
-/
namespace Cstl.Heap
open Tree

/-- a queue of the traversal: the subtrees hanging at slots `a … a+len-1` -/
def slotsQ (t : Tree) (a len : Nat) : List (Nat × Tree) :=
  (List.range' a len).map (fun k => (k, walk t (path k)))

theorem slotsQ_zero (t : Tree) (a : Nat) : slotsQ t a 0 = [] := rfl

theorem slotsQ_succ (t : Tree) (a len : Nat) :
    slotsQ t a (len + 1) = (a, walk t (path a)) :: slotsQ t (a + 1) len := by
  simp [slotsQ, List.range'_succ]

theorem slotElems_zero (t : Tree) (a : Nat) : slotElems t a 0 = [] := rfl

theorem slotElems_succ (t : Tree) (a len : Nat) :
    slotElems t a (len + 1) =
      (match elemAt t (path a) with | some e => [(a, e)] | none => []) ++ slotElems t (a + 1) len := by
  unfold slotElems
  rw [List.range'_succ, List.filterMap_cons]
  cases elemAt t (path a) <;> simp

theorem slotElems_append (t : Tree) (a m k : Nat) :
    slotElems t a m ++ slotElems t (a + m) k = slotElems t a (m + k) := by
  unfold slotElems
  rw [← List.filterMap_append, List.range'_append_1]

theorem walk_nil (ds : List Bool) : walk nil ds = nil := by cases ds <;> rfl

theorem walk_append : ∀ (ds es : List Bool) (t : Tree), walk t (ds ++ es) = walk (walk t ds) es
  | ds, es, nil => by rw [walk_nil, walk_nil, walk_nil]
  | [], _, node .. => rfl
  | d :: ds, es, node l x r => walk_append ds es (sub d l r)

theorem walk_children {t l r : Tree} {e : Elem} {k : Nat} (hk : 0 < k) (hlt : 2 * k + 1 < 2 ^ 64)
    (h : walk t (path k) = node l e r) :
    walk t (path (2 * k)) = l ∧ walk t (path (2 * k + 1)) = r := by
  have h0 := path_double false hk (by simpa using (by omega : 2 * k < 2 ^ 64))
  have h1 := path_double true hk (by simpa using hlt)
  simp only [Bool.toNat_false, Nat.add_zero, Bool.toNat_true] at h0 h1
  rw [h0, h1, walk_append, walk_append, h]
  constructor
  · cases l <;> simp [walk]
  · cases r <;> simp [walk]

theorem thisLevel_slotsQ (t : Tree) : ∀ (len a : Nat), thisLevel (slotsQ t a len) = slotElems t a len := by
  intro len
  induction len with
  | zero => intro a; rfl
  | succ len ih =>
    intro a
    rw [slotsQ_succ, slotElems_succ]
    cases hw : walk t (path a) with
    | nil =>
      rw [elemAt_walk, hw]
      simp [thisLevel, ih]
    | node l e r =>
      rw [elemAt_walk, hw]
      simp [thisLevel, ih]

theorem bfs_nil : ∀ f : Nat, bfs f [] = [] := by
  intro f
  induction f with
  | zero => rfl
  | succ f ih => simp [bfs, thisLevel, nextLevel, ih]

theorem walk_beyond {t : Tree} {n a : Nat} (hc : Complete t n) (ha : n < a) (hlt : a < 2 ^ 64) :
    walk t (path a) = nil :=
  walk_eq_nil_iff.2 fun ho => absurd ((hc.occ_path (by omega) hlt).1 ho) (by omega)

theorem slotElems_beyond {t : Tree} {n : Nat} (hc : Complete t n) :
    ∀ (len a : Nat), n < a → a + len ≤ 2 ^ 64 → slotElems t a len = [] := by
  intro len
  induction len with
  | zero => intro a _ _; rfl
  | succ len ih =>
    intro a ha hb
    rw [slotElems_succ, ih (a + 1) (by omega) (by omega)]
    have hw := walk_beyond hc ha (by omega)
    rw [elemAt_walk, hw]
    rfl

theorem nextLevel_beyond {t : Tree} {n : Nat} (hc : Complete t n) :
    ∀ (len a : Nat), n < a → a + len ≤ 2 ^ 64 → nextLevel (slotsQ t a len) = [] := by
  intro len
  induction len with
  | zero => intro a _ _; rfl
  | succ len ih =>
    intro a ha hb
    have hw := walk_beyond hc ha (by omega)
    rw [slotsQ_succ, hw]
    simp [nextLevel, ih (a + 1) (by omega) (by omega)]

theorem bfs_beyond {t : Tree} {n : Nat} (hc : Complete t n) (f len a : Nat) (ha : n < a) (hb : a + len ≤ 2 ^ 64) :
    bfs f (slotsQ t a len) = [] := by
  cases f with
  | zero => rfl
  | succ f =>
    rw [bfs, thisLevel_slotsQ, slotElems_beyond hc _ _ ha hb, nextLevel_beyond hc _ _ ha hb, bfs_nil]
    rfl

/-- of a run of slots, only those up to `n` count -/
theorem slotElems_clip {t : Tree} {n a len : Nat} (hc : Complete t n) (hb : a + len ≤ 2 ^ 64) (h : n + 1 - a ≤ len) :
    slotElems t a len = slotElems t a (n + 1 - a) := by
  have := slotElems_append t a (n + 1 - a) (len - (n + 1 - a))
  rw [slotElems_beyond hc (len - (n + 1 - a)) (a + (n + 1 - a)) (by omega) (by omega), List.append_nil] at this
  rw [this]
  congr 1
  omega

/-- the children of the occupied slots among `a … a+len-1` are the subtrees at
slots `2a … 2a+2m-1`, `m` the number of occupied ones -/
theorem nextLevel_slotsQ {t : Tree} {n : Nat} (hc : Complete t n) :
    ∀ (len a : Nat), 0 < a → 2 * (a + len) ≤ 2 ^ 64 →
      nextLevel (slotsQ t a len) = slotsQ t (2 * a) (2 * min len (n + 1 - a)) := by
  intro len
  induction len with
  | zero => intro a _ _; simp [slotsQ_zero, nextLevel]
  | succ len ih =>
    intro a ha hb
    by_cases hn : a ≤ n
    · have ho : Occ t (path a) := (hc.occ_path ha (by omega)).2 hn
      cases hw : walk t (path a) with
      | nil => exact absurd ho (walk_eq_nil_iff.1 hw)
      | node l e r =>
        obtain ⟨hl, hr⟩ := walk_children ha (by omega) hw
        have hm : 2 * min (len + 1) (n + 1 - a) = 2 * min len (n + 1 - (a + 1)) + 1 + 1 := by omega
        rw [slotsQ_succ, hw, hm, slotsQ_succ, slotsQ_succ, hl, hr]
        simp only [nextLevel]
        rw [ih (a + 1) (by omega) (by omega)]
        have : 2 * (a + 1) = 2 * a + 1 + 1 := by omega
        rw [this]
    · have hm : min (len + 1) (n + 1 - a) = 0 := by omega
      rw [hm, nextLevel_beyond hc (len + 1) a (by omega) (by omega)]
      rfl

/-- breadth-first traversal of the levels from slot `a` on (`a` a power of
two: the first slot of a level).  The bound `2^62` on `n + 1`: the queue built for the level after
next is addressed up to slot `2 * (a + a)`, with `a ≤ n + 1`, and slot numbers must stay below
`2^64` for `path`. -/
theorem bfs_slotsQ {t : Tree} {n : Nat} (hc : Complete t n) (hn : n + 1 < 2 ^ 62) :
    ∀ (fuel a : Nat), 0 < a → a ≤ n + 1 → n + 1 < a * 2 ^ fuel →
      bfs fuel (slotsQ t a a) = slotElems t a (n + 1 - a) := by
  intro fuel
  induction fuel with
  | zero => intro a _ h1 h2; simp at h2; omega
  | succ fuel ih =>
    intro a ha h1 h2
    rw [bfs, thisLevel_slotsQ, nextLevel_slotsQ hc a a ha (by omega)]
    by_cases hfull : 2 * a ≤ n + 1
    · have hm : min a (n + 1 - a) = a := by omega
      have e0 : a * 2 ^ (fuel + 1) = 2 * a * 2 ^ fuel := by
        rw [Nat.pow_succ, Nat.mul_comm (2 ^ fuel) 2, ← Nat.mul_assoc, Nat.mul_comm a 2]
      rw [hm, ih (2 * a) (by omega) hfull (by rw [← e0]; exact h2)]
      have e1 : 2 * a = a + a := by omega
      have e2 : n + 1 - a = a + (n + 1 - 2 * a) := by omega
      rw [e2, ← slotElems_append, e1]
    · -- the last level: the next queue is beyond `n` and contributes nothing
      rw [bfs_beyond hc _ _ _ (by omega) (by omega), List.append_nil, slotElems_clip hc (by omega) (by omega)]

theorem length_add_one_le_pow_height : ∀ t : Tree, (elems t).length + 1 ≤ 2 ^ t.height := by
  intro t
  induction t with
  | nil => simp [height]
  | node l e r ihl ihr =>
    have h1 : 2 ^ l.height ≤ 2 ^ max l.height r.height :=
      Nat.pow_le_pow_right (by decide) (Nat.le_max_left _ _)
    have h2 : 2 ^ r.height ≤ 2 ^ max l.height r.height :=
      Nat.pow_le_pow_right (by decide) (Nat.le_max_right _ _)
    simp only [elems_node, List.length_cons, List.length_append, height, Nat.pow_succ]
    omega

theorem levelOrder_complete {t : Tree} {n : Nat} (hc : Complete t n) (hn : n + 1 < 2 ^ 62) :
    levelOrder t = slotElems t 1 n := by
  have hq : [(1, t)] = slotsQ t 1 1 := by
    rw [slotsQ_succ, slotsQ_zero, path_one]
    cases t <;> rfl
  unfold levelOrder
  rw [hq]
  have hlen := complete_length n t (by omega) hc
  have hh := length_add_one_le_pow_height t
  have := bfs_slotsQ hc hn (t.height + 1) 1 (by decide) (by omega) (by
    rw [Nat.pow_succ]; omega)
  simpa using this

/-- where every slot is occupied nothing is filtered out -/
theorem slotElems_eq_map {t : Tree} {f : Nat → Elem} : ∀ (len a : Nat),
    (∀ k, a ≤ k → k < a + len → elemAt t (path k) = some (f k)) →
    slotElems t a len = (List.range' a len).map fun k => (k, f k)
  | 0, _, _ => rfl
  | len + 1, a, h => by
    rw [slotElems_succ, h a (Nat.le_refl _) (by omega), List.range'_succ, List.map_cons,
      slotElems_eq_map len (a + 1) fun k h1 h2 => h k (by omega) (by omega)]
    rfl

end Cstl.Heap
