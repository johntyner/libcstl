import Cstl.Heap.LemmasPath
import Cstl.Heap.LemmasOrder
/-
Occupied positions under `attachAt` / `removeAt`, and completeness; what `removeAt` keeps
(elements, heap order), `push` and `pop` on a non-empty heap (`push_node`, `pop_node`), `walk` and
`elemAt` against `Occ`.
-/
namespace Cstl.Heap
open Tree

@[simp] theorem occ_nil (ds : List Bool) : Occ nil ds = False := by
  cases ds <;> rfl

@[simp] theorem occ_node_nil (l r : Tree) (e : Elem) : Occ (node l e r) [] = True := rfl

@[simp] theorem occ_node_cons (l r : Tree) (e : Elem) (d : Bool) (ds : List Bool) :
    Occ (node l e r) (d :: ds) = Occ (if d then r else l) ds := rfl

theorem shape_eq_nil {t : Tree} (h : shape t = nil) : t = nil := by
  cases t with
  | nil => rfl
  | node l e r => simp [shape] at h

theorem occ_of_shape : ∀ {t t' : Tree}, shape t = shape t' → ∀ ds, Occ t ds ↔ Occ t' ds := by
  intro t
  induction t with
  | nil =>
    intro t' h ds
    have : t' = nil := shape_eq_nil h.symm
    subst this; exact Iff.rfl
  | node l e r ihl ihr =>
    intro t' h ds
    cases t' with
    | nil => simp [shape] at h
    | node l' e' r' =>
      simp only [shape, node.injEq, true_and] at h
      cases ds with
      | nil => simp
      | cons d ds =>
        cases d with
        | true => simpa using ihr h.2 ds
        | false => simpa using ihl h.1 ds

theorem occ_leaf (e : Elem) (ds : List Bool) : Occ (leaf e) ds ↔ ds = [] := by
  cases ds with
  | nil => simp [leaf]
  | cons d ds => cases d <;> simp [leaf]

theorem occ_setSub_cons (d d' : Bool) (l : Tree) (x : Elem) (r c : Tree) (ds : List Bool) :
    Occ (setSub d l x r c) (d' :: ds) = if d' = d then Occ c ds else Occ (sub d' l r) ds := by
  cases d <;> cases d' <;> rfl

theorem occ_node_sub (l r : Tree) (x : Elem) (d : Bool) (ds : List Bool) :
    Occ (node l x r) (d :: ds) = Occ (sub d l r) ds := rfl

theorem attachAt_some {side : Bool} {e : Elem} : ∀ {pp : List Bool} {t : Tree}, Occ t pp →
    ∃ t1, attachAt t pp side e = some t1
  | _, nil, h => by simp at h
  | [], node l x r, _ => ⟨_, rfl⟩
  | d :: ds, node l x r, h => by
    obtain ⟨c1, hc⟩ := attachAt_some (side := side) (e := e) (t := sub d l r) h
    exact ⟨_, by rw [attachAt_cons, hc]; rfl⟩

theorem occ_setSub_gain {d : Bool} {l r c1 : Tree} {x : Elem} {q : List Bool}
    (h : ∀ ds, Occ c1 ds ↔ Occ (sub d l r) ds ∨ ds = q) :
    ∀ ds, Occ (setSub d l x r c1) ds ↔ Occ (node l x r) ds ∨ ds = d :: q
  | [] => by
    obtain ⟨_, _, hn⟩ := setSub_eq_node d l x r c1
    simp [hn]
  | d' :: ds => by
    rw [occ_setSub_cons, occ_node_sub]
    by_cases hd : d' = d
    · subst hd; simp [h]
    · simp [hd]

theorem attachAt_occ {side : Bool} {e : Elem} : ∀ {pp : List Bool} {t t1 : Tree},
    attachAt t pp side e = some t1 → ¬ Occ t (pp ++ [side]) →
    ∀ ds, Occ t1 ds ↔ (Occ t ds ∨ ds = pp ++ [side])
  | pp, nil, _, hat, _ => by cases pp <;> cases hat
  | [], node l x r, _, hat, hocc => by
    obtain rfl : setSub side l x r (leaf e) = _ := Option.some.inj hat
    have hn : sub side l r = nil := not_occ_nil_iff.1 hocc
    exact occ_setSub_gain fun ds => by simp [hn, occ_leaf]
  | d :: pp, node l x r, _, hat, hocc => by
    rw [attachAt_cons] at hat
    obtain ⟨c1, hat1, rfl⟩ := Option.map_eq_some_iff.1 hat
    exact occ_setSub_gain (attachAt_occ hat1 hocc)

theorem removeAt_induction {n : Elem} {motive : List Bool → Tree → Tree → Prop}
    (last : ∀ l r, motive [] (node l n r) nil)
    (step : ∀ d q l x r c1, removeAt (sub d l r) q = some (c1, n) → motive q (sub d l r) c1 →
      motive (d :: q) (node l x r) (setSub d l x r c1)) :
    ∀ {p : List Bool} {t t' : Tree}, removeAt t p = some (t', n) → motive p t t'
  | p, nil, _, h => by cases p <;> cases h
  | [], node l x r, _, h => by cases h; exact last l r
  | d :: q, node l x r, _, h => by
    rw [removeAt_cons] at h
    obtain ⟨⟨c1, z⟩, h1, he⟩ := Option.map_eq_some_iff.1 h
    cases he
    exact step d q l x r c1 h1 (removeAt_induction last step h1)

theorem removeAt_some : ∀ {p : List Bool} {t : Tree}, Occ t p → ∃ t' x, removeAt t p = some (t', x)
  | _, nil, h => by simp at h
  | [], node l x r, _ => ⟨_, _, rfl⟩
  | d :: ds, node l x r, h => by
    obtain ⟨c1, y, hc⟩ := removeAt_some (t := sub d l r) h
    exact ⟨_, y, by rw [removeAt_cons, hc]; rfl⟩

theorem removeAt_occ {p : List Bool} {t t' : Tree} {x : Elem} (h : removeAt t p = some (t', x)) :
    ∀ ds, Occ t' ds ↔ (Occ t ds ∧ ¬ p <+: ds) := by
  refine removeAt_induction (motive := fun p t t' => ∀ ds, Occ t' ds ↔ (Occ t ds ∧ ¬ p <+: ds)) ?_ ?_ h
  · intro l r ds
    simp
  · intro d q l y r c1 _ IH ds
    cases ds with
    | nil =>
      obtain ⟨_, _, hn⟩ := setSub_eq_node d l y r c1
      simp [hn]
    | cons d' ds =>
      rw [occ_setSub_cons, occ_node_sub, List.cons_prefix_cons]
      by_cases hd : d' = d
      · subst hd; simp [IH]
      · simp [hd, Ne.symm hd]

theorem removeAt_perm {p : List Bool} {t t' : Tree} {x : Elem} (h : removeAt t p = some (t', x))
    (hleaf : ∀ d, ¬ Occ t (p ++ [d])) : (elems t).Perm (x :: elems t') := by
  refine removeAt_induction
    (motive := fun p t t' => (∀ d, ¬ Occ t (p ++ [d])) → (elems t).Perm (x :: elems t')) ?_ ?_ h hleaf
  · intro l r hleaf
    have hl : l = nil := not_occ_nil_iff.1 (hleaf false)
    have hr : r = nil := not_occ_nil_iff.1 (hleaf true)
    rw [hl, hr]
    exact .refl _
  · intro d q l y r c1 _ IH hleaf
    exact setSub_sub d l y r ▸ perm_setSub (IH hleaf)

theorem complete_nil : Complete nil 0 := by
  intro ds
  have := locOf_pos ds
  simp; omega

theorem complete_zero {t : Tree} (h : Complete t 0) : t = nil := by
  apply not_occ_nil_iff.1
  intro hc
  have := (h []).1 hc
  simp [locOf, locFrom] at this

theorem Complete.root {t : Tree} {n : Nat} (h : Complete t n) (hn : 0 < n) : Occ t [] :=
  (h []).2 (by simp [locOf, locFrom]; omega)

theorem Complete.occ_path {t : Tree} {n a : Nat} (hc : Complete t n) (h0 : 0 < a) (hlt : a < 2 ^ 64) :
    Occ t (path a) ↔ a ≤ n := by
  rw [hc, locOf_path a h0 hlt]

theorem complete_leaf (e : Elem) : Complete (leaf e) 1 := by
  intro ds
  rw [occ_leaf]
  constructor
  · rintro rfl; simp [locOf, locFrom]
  · intro h
    apply Classical.byContradiction
    intro hne
    have := locFrom_gt (k := 1) (by decide) hne
    unfold locOf at h
    omega

theorem Complete.of_shape {t t' : Tree} {n : Nat} (h : Complete t n) (hs : shape t' = shape t) :
    Complete t' n :=
  fun ds => (occ_of_shape hs ds).trans (h ds)

theorem locOf_parent_child (n : Nat) (hn : 1 ≤ n) (hlt : n + 1 < 2 ^ 64) :
    locOf (path ((n - 1) / 2 + 1) ++ [n % 2 == 0]) = n + 1 := by
  rw [locOf_snoc, locOf_path _ (by omega) (by omega)]
  cases hb : (n % 2 == 0) with
  | true =>
    have : n % 2 = 0 := by simpa using hb
    simp; omega
  | false =>
    have : ¬ n % 2 = 0 := by simpa using hb
    simp; omega

/-- where `cstl_heap_push` puts the new node: the parent slot is occupied, the child slot below it is free -/
theorem Complete.next_slot {t : Tree} {n : Nat} (hc : Complete t n) (hn : 1 ≤ n) (hlt : n + 1 < 2 ^ 64) :
    Occ t (path ((n - 1) / 2 + 1)) ∧ ¬ Occ t (path ((n - 1) / 2 + 1) ++ [n % 2 == 0]) := by
  refine ⟨(hc.occ_path (by omega) (by omega)).2 (by omega), fun h => ?_⟩
  · have := (hc _).1 h
    rw [locOf_parent_child n hn hlt] at this
    omega

/-- the node `cstl_heap_pop` unlinks: the last slot is occupied and has no children -/
theorem Complete.last_slot {t : Tree} {n : Nat} (hc : Complete t (n + 1)) (hlt : n + 1 < 2 ^ 64) :
    Occ t (path (n + 1)) ∧ ∀ d, ¬ Occ t (path (n + 1) ++ [d]) := by
  refine ⟨(hc.occ_path (by omega) hlt).2 (Nat.le_refl _), fun d hd => ?_⟩
  have h1 := (hc _).1 hd
  rw [locOf_snoc, locOf_path _ (by omega) hlt] at h1
  omega

/-- the slot `cstl_heap_push` computes is the first free one, its parent
exists, and attaching there keeps the tree complete -/
theorem complete_attach {t : Tree} {n : Nat} (e : Elem) (hc : Complete t n) (hn : 1 ≤ n)
    (hlt : n + 1 < 2 ^ 64) :
    ¬ Occ t (path ((n - 1) / 2 + 1) ++ [n % 2 == 0]) ∧
    ∃ t1, attachAt t (path ((n - 1) / 2 + 1)) (n % 2 == 0) e = some t1 ∧ Complete t1 (n + 1) := by
  have hloc := locOf_parent_child n hn hlt
  obtain ⟨hpar, hfree⟩ := hc.next_slot hn hlt
  obtain ⟨t1, ht1⟩ := attachAt_some (side := n % 2 == 0) (e := e) hpar
  refine ⟨hfree, t1, ht1, ?_⟩
  intro ds
  rw [attachAt_occ ht1 hfree ds, hc ds]
  constructor
  · rintro (h | rfl)
    · omega
    · omega
  · intro h
    by_cases h1 : locOf ds ≤ n
    · exact Or.inl h1
    · right
      have he : locOf ds = locOf (path ((n - 1) / 2 + 1) ++ [n % 2 == 0]) := by omega
      exact locOf_inj he (by omega)

/-- the node `cstl_heap_pop` unlinks is the last one, it is a leaf, and the
rest is complete -/
theorem complete_remove {t : Tree} {n : Nat} (hc : Complete t (n + 1)) (hlt : n + 1 < 2 ^ 64) :
    ∃ t' x, removeAt t (path (n + 1)) = some (t', x) ∧ Complete t' n ∧
      (elems t).Perm (x :: elems t') := by
  have hloc : locOf (path (n + 1)) = n + 1 := locOf_path _ (by omega) hlt
  obtain ⟨hocc, hleaf⟩ := hc.last_slot hlt
  obtain ⟨t', x, hrm⟩ := removeAt_some hocc
  refine ⟨t', x, hrm, ?_, ?_⟩
  · intro ds
    rw [removeAt_occ hrm ds, hc ds]
    constructor
    · rintro ⟨h1, h2⟩
      by_cases h3 : locOf ds = n + 1
      · exfalso
        apply h2
        have : ds = path (n + 1) := locOf_inj (by omega) (by omega)
        rw [this]
        exact List.prefix_refl _
      · omega
    · intro h
      refine ⟨by omega, ?_⟩
      rintro ⟨rest, rfl⟩
      have : locOf (path (n + 1) ++ rest) = locFrom (n + 1) rest := by
        unfold locOf at hloc ⊢
        rw [locFrom_append, hloc]
      have hge := locFrom_ge rest (n + 1)
      omega
  · exact removeAt_perm hrm hleaf

theorem complete_length : ∀ (n : Nat) (t : Tree), n < 2 ^ 64 → Complete t n → (elems t).length = n := by
  intro n
  induction n with
  | zero =>
    intro t _ h
    rw [complete_zero h]; rfl
  | succ n ih =>
    intro t hlt h
    obtain ⟨t', x, _, hc', hp⟩ := complete_remove h hlt
    rw [hp.length_eq, List.length_cons, ih t' (by omega) hc']

theorem Inv.size_zero_iff {h : Heap} (hi : Inv h) : h.size = 0 ↔ h.t = nil := by
  constructor
  · intro h0
    exact complete_zero (h0 ▸ hi.2)
  · intro ht
    have hc := hi.2
    rw [ht] at hc
    apply Classical.byContradiction
    intro hn
    have := hc.root (by omega)
    simp at this

theorem mem_elems_setSub {d : Bool} {l r c : Tree} {x z : Elem} :
    z ∈ elems (setSub d l x r c) ↔ z = x ∨ z ∈ elems c ∨ z ∈ elems (sub (!d) l r) := by
  rw [(elems_setSub d l x r c).mem_iff, List.mem_cons, List.mem_append]

theorem removeAt_mem {p : List Bool} {t t' : Tree} {x : Elem} (h : removeAt t p = some (t', x)) :
    ∀ z ∈ elems t', z ∈ elems t := by
  refine removeAt_induction (motive := fun _ t t' => ∀ z ∈ elems t', z ∈ elems t) ?_ ?_ h
  · nofun
  · intro d q l y r c1 _ IH z hz
    rw [← setSub_sub d l y r, mem_elems_setSub]
    exact (mem_elems_setSub.1 hz).imp_right (Or.imp_left (IH z))

theorem removeAt_heapOrdered {p : List Bool} {t t' : Tree} {x : Elem} (h : removeAt t p = some (t', x))
    (ho : HeapOrdered t) : HeapOrdered t' := by
  refine removeAt_induction (motive := fun _ t t' => HeapOrdered t → HeapOrdered t') ?_ ?_ h ho
  · exact fun _ _ _ => trivial
  · intro d q l y r c1 h1 IH ho
    obtain ⟨⟨hle, hod⟩, hlo, hoo⟩ := (heapOrdered_node_sub d).1 ho
    exact heapOrdered_setSub.2 ⟨⟨fun z hz => hle z (removeAt_mem h1 z hz), IH hod⟩, hlo, hoo⟩

theorem removeAt_root {l r t' : Tree} {x n : Elem} {p : List Bool}
    (h : removeAt (node l x r) p = some (t', n)) :
    (t' = nil ∧ n = x) ∨ ∃ l' r', t' = node l' x r' := by
  cases p with
  | nil => cases h; exact .inl ⟨rfl, rfl⟩
  | cons d q =>
    rw [removeAt_cons] at h
    obtain ⟨⟨c1, z⟩, _, he⟩ := Option.map_eq_some_iff.1 h
    cases he
    exact .inr (setSub_eq_node ..)

theorem push_node {t t1 t2 : Tree} {sz : Nat} {e : Elem} {b : Bool} (hsz : sz ≠ 0)
    (ha : attachAt t (path ((sz - 1) / 2 + 1)) (sz % 2 == 0) e = some t1)
    (hs : siftUp t1 (path ((sz - 1) / 2 + 1) ++ [sz % 2 == 0]) = some (t2, b)) :
    push ⟨t, sz⟩ e = some ⟨t2, sz + 1⟩ := by
  cases t with
  | nil => cases ha
  | node l x r =>
    simp only [push]
    rw [if_neg hsz]
    simp only [ha, hs]

/-- one equation for both branches of `pop`: `siftInto n nil = nil` when the last slot was the root -/
theorem pop_node {l r t1 : Tree} {res n : Elem} {sz : Nat} (hsz : sz ≠ 0)
    (hr : removeAt (node l res r) (path sz) = some (t1, n)) :
    pop ⟨node l res r, sz⟩ = some (⟨siftInto n t1, sz - 1⟩, some res) := by
  simp only [pop]
  rw [if_neg hsz]
  simp only [hr]
  cases t1 <;> rfl

theorem walk_eq_nil_iff : ∀ {ds : List Bool} {t : Tree}, walk t ds = nil ↔ ¬ Occ t ds
  | _, nil => by simp [walk]
  | [], node .. => by simp [walk]
  | d :: ds, node l x r => walk_eq_nil_iff (ds := ds) (t := sub d l r)

theorem elemAt_walk : ∀ (ds : List Bool) (t : Tree),
    elemAt t ds = match walk t ds with | nil => none | node _ e _ => some e
  | ds, nil => by cases ds <;> rfl
  | [], node .. => rfl
  | d :: ds, node l x r => elemAt_walk ds (sub d l r)

end Cstl.Heap
