import Cstl.SList.Model
import Cstl.Tree.Model
/-
Link-level model of src/bintree.c and src/rbtree.c (core Lean only).

Memory is the three link fields `p`, `l`, `r` of every `struct
cstl_bintree_node` as functions from addresses to addresses (`0` = NULL), the
colour member of the enclosing `struct cstl_rbtree_node`, and the key the
comparison function reads from the element.  A tree header is the root pointer
and `size`.  One update per C assignment, in the C order.

The `__cstl_bintree_child_func_t * l, * r` parameters of rotate / fix_insertion
/ fix_deletion are a `Bool`: `d = true` means `l = __cstl_bintree_left`,
`r = __cstl_bintree_right`; `d = false` is the call with the two exchanged.

`none` = the C code would read or write through NULL at that point, or a loop
did not finish within its fuel (neither happens from a state that represents a
tree: BtRefine, RbInsert, RbErase for the single operations, Props.lean for histories).  NULL checks are placed exactly where the C code
dereferences a pointer that no dominating test of the C code has compared
with NULL.
-/
namespace Cstl.TreeL
open Cstl.SList (Mem upd)
open Cstl.Tree (Color Elem Tree)
open Cstl.Tree.Color

/-- memory: link fields, colour, key (the key is never written by the library) -/
structure TM where
  pr : Mem
  lf : Mem
  rt : Mem
  cl : Nat → Color
  key : Nat → Int

/-- `struct cstl_bintree` (`off`, `cmp` are constants and not modelled) -/
structure Hd where
  root : Nat
  size : Nat
deriving Repr, DecidableEq, Inhabited

def updC (f : Nat → Color) (a : Nat) (c : Color) : Nat → Color := fun x => if x = a then c else f x
def updK (f : Nat → Int) (a : Nat) (k : Int) : Nat → Int := fun x => if x = a then k else f x

@[simp] theorem updC_same (f : Nat → Color) (a : Nat) (c : Color) : updC f a c a = c := by simp [updC]
theorem updC_other (f : Nat → Color) (a : Nat) (c : Color) (x : Nat) (h : x ≠ a) : updC f a c x = f x := by
  simp [updC, h]

/-- `a->p = v` -/
def setP (m : TM) (a v : Nat) : TM := { m with pr := upd m.pr a v }
/-- `a->l = v` -/
def setLf (m : TM) (a v : Nat) : TM := { m with lf := upd m.lf a v }
/-- `a->r = v` -/
def setRt (m : TM) (a v : Nat) : TM := { m with rt := upd m.rt a v }
/-- `*BN_COLOR(a) = c` -/
def setC (m : TM) (a : Nat) (c : Color) : TM := { m with cl := updC m.cl a c }

/-- `*l(a)` -/
def chL (m : TM) (d : Bool) (a : Nat) : Nat := if d then m.lf a else m.rt a
/-- `*r(a)` -/
def chR (m : TM) (d : Bool) (a : Nat) : Nat := if d then m.rt a else m.lf a
/-- `*l(a) = v` -/
def setChL (m : TM) (d : Bool) (a v : Nat) : TM := if d then setLf m a v else setRt m a v
/-- `*r(a) = v` -/
def setChR (m : TM) (d : Bool) (a v : Nat) : TM := if d then setRt m a v else setLf m a v

/-- the element a node address stands for -/
def elemAt (m : TM) (a : Nat) : Elem := { key := m.key a, id := a }

/-! ### cstl_bintree_insert -/

/-- what `bc` points at: `&bt->root`, the local `bp`, `&a->l`, `&a->r` -/
inductive Loc where
  | root
  | bp
  | lf (a : Nat)
  | rt (a : Nat)
deriving Repr, DecidableEq

/-- `*bc` -/
def rdLoc (m : TM) (h : Hd) (bp : Nat) : Loc → Nat
  | .root => h.root
  | .bp => bp
  | .lf a => m.lf a
  | .rt a => m.rt a

/-- `while (*bc != NULL) { bp = *bc; bc = cmp(bn, bp) < 0 ? &bp->l : &bp->r; }` -/
def insLoop (m : TM) (h : Hd) (bn : Nat) : Nat → Nat → Loc → Option (Nat × Loc)
  | 0, bp, bc => if rdLoc m h bp bc = 0 then some (bp, bc) else none
  | fuel + 1, bp, bc =>
    if rdLoc m h bp bc = 0 then some (bp, bc)
    else
      let bp' := rdLoc m h bp bc
      if m.key bn < m.key bp' then insLoop m h bn fuel bp' (.lf bp')
      else insLoop m h bn fuel bp' (.rt bp')

/-- `bn->p = bp; bn->l = NULL; bn->r = NULL; *bc = bn; bt->size++` -/
def attach (m : TM) (h : Hd) (bn bp : Nat) (bc : Loc) : TM × Hd :=
  let m1 := setP m bn bp
  let m2 := setLf m1 bn 0
  let m3 := setRt m2 bn 0
  match bc with
  | .root => (m3, { root := bn, size := h.size + 1 })
  | .bp => (m3, { h with size := h.size + 1 })          -- the store goes to the local variable
  | .lf a => (setLf m3 a bn, { h with size := h.size + 1 })
  | .rt a => (setRt m3 a bn, { h with size := h.size + 1 })

/-- `cstl_bintree_insert(bt, e, p)`; `p = 0` is the call without a hint.
The key of the new element is already in `m.key bn`. -/
def btInsert (m : TM) (h : Hd) (bn p : Nat) : Option (TM × Hd) :=
  let start : Nat × Loc := if p ≠ 0 then (p, .bp) else (h.root, .root)
  match insLoop m h bn (h.size + 1) start.1 start.2 with
  | none => none
  | some (bp, bc) => some (attach m h bn bp bc)

/-! ### cstl_bintree_find -/

/-- the loop of `cstl_bintree_find` for a probe with key `k`: (node found or 0, `p`) -/
def findLoop (m : TM) (k : Int) : Nat → Nat → Nat → Option (Nat × Nat)
  | 0, bn, p => if bn = 0 then some (0, p) else none
  | fuel + 1, bn, p =>
    if bn = 0 then some (0, p)
    else if k = m.key bn then some (bn, p)
    else if k < m.key bn then findLoop m k fuel (m.lf bn) bn
    else findLoop m k fuel (m.rt bn) bn

def btFind (m : TM) (h : Hd) (k : Int) : Option (Nat × Nat) := findLoop m k (h.size + 1) h.root 0

/-! ### __cstl_bintree_erase -/

/-- `cstl_bintree_slide(bn, ch)`: `while ((c = *ch(bn)) != NULL) bn = c;` -/
def slide (m : TM) (d : Bool) : Nat → Nat → Option Nat
  | 0, a => if chL m d a = 0 then some a else none
  | fuel + 1, a => if chL m d a = 0 then some a else slide m d fuel (chL m d a)

/-- replace `y` by `x` as a child of `y`'s parent:
`if (y->p == NULL) bt->root = x; else if (y == y->p->l) y->p->l = x; else y->p->r = x;` -/
def replaceChild (m : TM) (h : Hd) (y x : Nat) : TM × Hd :=
  (if m.pr y = 0 then m else if y = m.lf (m.pr y) then setLf m (m.pr y) x else setRt m (m.pr y) x,
   if m.pr y = 0 then { h with root := x } else h)

/-- `__cstl_bintree_erase(bt, bn)`: the new memory and header, and the returned `y`.
`__cstl_bintree_next(bn)` is called under `bn->r != NULL`, where it is the
slide to the leftmost node of the right subtree. -/
def btEraseNode (m : TM) (h : Hd) (bn : Nat) : Option (TM × Hd × Nat) :=
  match (if m.lf bn ≠ 0 ∧ m.rt bn ≠ 0 then slide m true h.size (m.rt bn) else some bn) with
  | none => none
  | some y =>
    let x := if m.lf y ≠ 0 then m.lf y else m.rt y
    let m1 := if x ≠ 0 then setP m x (m.pr y) else m             -- x->p = y->p
    let r2 := replaceChild m1 h y x
    let m2 := r2.1
    let h2 := r2.2
    if y ≠ bn then
      let tp := m2.pr y                                           -- t = *y
      let tl := m2.lf y
      let tr := m2.rt y
      let r3 := replaceChild m2 h2 bn y
      let m3 := r3.1
      let h3 := r3.2
      let m4 := if m3.lf bn ≠ 0 then setP m3 (m3.lf bn) y else m3  -- bn->l->p = y
      let m5 := if m4.rt bn ≠ 0 then setP m4 (m4.rt bn) y else m4  -- bn->r->p = y
      let m6 := setRt (setLf (setP m5 y (m5.pr bn)) y (m5.lf bn)) y (m5.rt bn)   -- *y = *bn
      let m7 := setRt (setLf (setP m6 bn tp) bn tl) bn tr                        -- *bn = t
      let m8 := if m7.pr bn = bn then setP m7 bn y else m7
      some (m8, { h3 with size := h3.size - 1 }, y)
    else some (m2, { h2 with size := h2.size - 1 }, y)

/-- `cstl_bintree_erase` for a probe with key `k`: the erased node (0 = NULL) -/
def btErase (m : TM) (h : Hd) (k : Int) : Option (TM × Hd × Nat) :=
  match btFind m h k with
  | none => none
  | some (n, _) =>
    if n = 0 then some (m, h, 0)
    else
      match btEraseNode m h n with
      | none => none
      | some (m', h', _) => some (m', h', n)

/-! ### __cstl_bintree_rotate -/

/-- `__cstl_bintree_rotate(bt, x, l, r)`.  `assert(y != NULL)` is compiled out
(NDEBUG); with `y == NULL` the next statement reads `*l(y)` through NULL. -/
def rotate (m : TM) (h : Hd) (x : Nat) (d : Bool) : Option (TM × Hd) :=
  if x = 0 then none else
  let y := chR m d x
  if y = 0 then none else
  let m1 := setChR m d x (chL m d y)                              -- *r(x) = *l(y)
  let m2 := if chL m1 d y ≠ 0 then setP m1 (chL m1 d y) x else m1  -- (*l(y))->p = x
  let m3 := setP m2 y (m2.pr x)                                   -- y->p = x->p
  let m4 :=                                                       -- x's parent (or the root) points at y
    if m3.pr x = 0 then m3
    else if x = chL m3 d (m3.pr x) then setChL m3 d (m3.pr x) y
    else setChR m3 d (m3.pr x) y
  let h4 := if m3.pr x = 0 then { h with root := y } else h
  let m5 := setChL m4 d y x                                       -- *l(y) = x
  let m6 := setP m5 x y                                           -- x->p = y
  some (m6, h4)

/-! ### cstl_rbtree_insert -/

/-- `cstl_rbtree_fix_insertion(t, x, l, r)`; the caller has tested `x->p != NULL` -/
def fixInsertion (m : TM) (h : Hd) (x : Nat) (d : Bool) : Option (TM × Hd × Nat) :=
  let p := m.pr x
  if p = 0 then none else
  let g := m.pr p
  if g = 0 then none else
  let y := chR m d g
  if y ≠ 0 ∧ m.cl y = red then
    let m1 := setC m p black
    let m2 := setC m1 y black
    let m3 := setC m2 g red
    some (m3, h, g)
  else
    match (if x = chR m d p then
             match rotate m h p d with                     -- x = x->p; rotate(t, x, l, r)
             | none => none
             | some (m', h') => some (m', h', p)
           else some (m, h, x)) with
    | none => none
    | some (m1, h1, x1) =>
      let p1 := m1.pr x1
      if p1 = 0 then none else
      let m2 := setC m1 p1 black
      let g1 := m2.pr p1
      if g1 = 0 then none else
      let m3 := setC m2 g1 red
      match rotate m3 h1 g1 (!d) with                       -- rotate(t, x->p->p, r, l)
      | none => none
      | some (m4, h4) => some (m4, h4, x1)

/-- `while (x->p != NULL && *BN_COLOR(x->p) == R) { … }` -/
def insFixLoop : Nat → TM → Hd → Nat → Option (TM × Hd)
  | 0, m, h, x => if m.pr x ≠ 0 ∧ m.cl (m.pr x) = red then none else some (m, h)
  | fuel + 1, m, h, x =>
    if m.pr x ≠ 0 ∧ m.cl (m.pr x) = red then
      let p := m.pr x
      let g := m.pr p
      if g = 0 then none                                    -- reads x->p->p->l
      else
        match fixInsertion m h x (decide (p = m.lf g)) with
        | none => none
        | some (m', h', x') => insFixLoop fuel m' h' x'
    else some (m, h)

/-- `cstl_rbtree_insert(t, e, p)` -/
def rbInsert (m : TM) (h : Hd) (n p : Nat) : Option (TM × Hd) :=
  match btInsert m h n p with
  | none => none
  | some (m1, h1) =>
    let m2 := setC m1 n red
    match insFixLoop (h1.size + 1) m2 h1 n with
    | none => none
    | some (m3, h3) =>
      if h3.root = 0 then none else some (setC m3 h3.root black, h3)

/-! ### __cstl_rbtree_erase -/

/-- `x == NULL || *BN_COLOR(x) == B` -/
def blackOrNull (m : TM) (a : Nat) : Bool := a = 0 || m.cl a = black

/-- first part of `cstl_rbtree_fix_deletion(t, x, l, r)`: `w = *r(x->p)`; a red sibling is rotated
above the parent (`w` then is the new sibling).  Returns the memory, header and `w`.
The caller has tested `x->p != NULL`. -/
def fixDelSibling (m : TM) (h : Hd) (x : Nat) (d : Bool) : Option (TM × Hd × Nat) :=
  let w := chR m d (m.pr x)
  if w = 0 then none else
  if m.cl w = red then
    let m1 := setC m w black
    let m2 := setC m1 (m1.pr x) red
    match rotate m2 h (m2.pr x) d with
    | none => none
    | some (m3, h3) => some (m3, h3, chR m3 d (m3.pr x))
  else some (m, h, w)

/-- last part: the far child of `w` is red: recolour, rotate the parent, `x = t->root` -/
def fixDelFar (m2 : TM) (h2 : Hd) (x : Nat) (d : Bool) (w2 : Nat) : Option (TM × Hd × Nat) :=
  if w2 = 0 then none else
  let m3 := setC m2 w2 (m2.cl (m2.pr x))
  let m4 := setC m3 (m3.pr x) black
  if chR m4 d w2 = 0 then none else
  let m5 := setC m4 (chR m4 d w2) black
  match rotate m5 h2 (m5.pr x) d with
  | none => none
  | some (m6, h6) => some (m6, h6, h6.root)

/-- second part: `w` has two black children / a red near child only / a red far child -/
def fixDelCases (m1 : TM) (h1 : Hd) (x : Nat) (d : Bool) (w1 : Nat) : Option (TM × Hd × Nat) :=
  if w1 = 0 then none else
  if blackOrNull m1 (chL m1 d w1) && blackOrNull m1 (chR m1 d w1) then
    let m2 := setC m1 w1 red
    some (m2, h1, m2.pr x)
  else
    match (if blackOrNull m1 (chR m1 d w1) then
             if chL m1 d w1 = 0 then none else
             let m2 := setC m1 (chL m1 d w1) black
             let m3 := setC m2 w1 red
             match rotate m3 h1 w1 (!d) with
             | none => none
             | some (m4, h4) => some (m4, h4, chR m4 d (m4.pr x))
           else some (m1, h1, w1)) with
    | none => none
    | some (m2, h2, w2) => fixDelFar m2 h2 x d w2

/-- `cstl_rbtree_fix_deletion(t, x, l, r)` -/
def fixDeletion (m : TM) (h : Hd) (x : Nat) (d : Bool) : Option (TM × Hd × Nat) :=
  match fixDelSibling m h x d with
  | none => none
  | some (m1, h1, w1) => fixDelCases m1 h1 x d w1

/-- `while (x->p != NULL && *BN_COLOR(x) == B) { … }`; `sx` is the address of
the stack-local stand-in `_x.n` -/
def delFixLoop (sx : Nat) : Nat → TM → Hd → Nat → Option (TM × Hd × Nat)
  | 0, m, h, x =>
    if x = 0 then none
    else if m.pr x ≠ 0 ∧ m.cl x = black then none else some (m, h, x)
  | fuel + 1, m, h, x =>
    if x = 0 then none
    else if m.pr x ≠ 0 ∧ m.cl x = black then
      let d := decide (x = m.lf (m.pr x)) || (decide (x = sx) && decide (m.lf (m.pr x) = 0))
      match fixDeletion m h x d with
      | none => none
      | some (m', h', x') => delFixLoop sx fuel m' h' x'
    else some (m, h, x)

/-- the `if (c == CSTL_RBTREE_COLOR_B) { … }` block of `__cstl_rbtree_erase`: pick `x` (a child
the erased node `n` is left with, or the stand-in `_x` with `x->p = n->n.p` and colour black), run
the loop, paint `x` black -/
def rbEraseFix (m2 : TM) (h1 : Hd) (n sx fuel : Nat) : Option (TM × Hd) :=
  let r3 : TM × Nat :=
    if m2.lf n ≠ 0 then (m2, m2.lf n)
    else if m2.rt n ≠ 0 then (m2, m2.rt n)
    else (setC (setP m2 sx (m2.pr n)) sx black, sx)
  match delFixLoop sx fuel r3.1 h1 r3.2 with
  | none => none
  | some (m4, h4, x4) => some (setC m4 x4 black, h4)

/-- `__cstl_rbtree_erase(t, n)`; `sx` = address of the local `_x.n` -/
def rbEraseNode (m : TM) (h : Hd) (n sx : Nat) : Option (TM × Hd) :=
  match btEraseNode m h n with
  | none => none
  | some (m1, h1, y) =>
    let c := m1.cl y
    let m2 := setC m1 y (m1.cl n)
    if c = black then rbEraseFix m2 h1 n sx (h.size + 1)
    else some (m2, h1)

/-- `cstl_rbtree_erase` for a probe with key `k` -/
def rbErase (m : TM) (h : Hd) (k : Int) (sx : Nat) : Option (TM × Hd × Nat) :=
  match btFind m h k with
  | none => none
  | some (n, _) =>
    if n = 0 then some (m, h, 0)
    else
      match rbEraseNode m h n sx with
      | none => none
      | some (m', h') => some (m', h', n)

/-! ### cstl_heap_promote_child (src/heap.c) -/

/-- `cstl_heap_promote_child(h, c)`: the node `c` and its parent `p` exchange positions; the six
neighbours (grandparent, sibling, `c`'s two children) are re-linked.  `assert(p != NULL)` is
compiled out; the callers test `n->p != NULL` first.  The two `cstl_swap` calls exchange one
pointer member through a temporary. -/
def promoteChild (m : TM) (h : Hd) (c : Nat) : TM × Hd :=
  let p := m.pr c
  let m1 :=                                                       -- p's parent (or the root) points at c
    if m.pr p = 0 then m
    else if m.lf (m.pr p) = p then setLf m (m.pr p) c
    else setRt m (m.pr p) c
  let h1 := if m.pr p = 0 then { h with root := c } else h
  let m2 := if m1.lf c ≠ 0 then setP m1 (m1.lf c) p else m1       -- c->l->p = p
  let m3 := if m2.rt c ≠ 0 then setP m2 (m2.rt c) p else m2       -- c->r->p = p
  let m4 := if m3.rt p ≠ 0 then setP m3 (m3.rt p) c else m3       -- p->r->p = c
  let m5 := if m4.lf p ≠ 0 then setP m4 (m4.lf p) c else m4       -- p->l->p = c
  let m6 := setP m5 c (m5.pr p)                                   -- c->p = p->p
  let m7 := setP m6 p c                                           -- p->p = c
  let m8 :=
    if m7.lf p = c then
      let a1 := setLf m7 p (m7.lf c)                              -- p->l = c->l
      let a2 := setLf a1 c p                                      -- c->l = p
      let sw := a2.rt c                                           -- cstl_swap(&c->r, &p->r, …)
      let a3 := setRt a2 c (a2.rt p)
      setRt a3 p sw
    else
      let a1 := setRt m7 p (m7.rt c)                              -- p->r = c->r
      let a2 := setRt a1 c p                                      -- c->r = p
      let sw := a2.lf c                                           -- cstl_swap(&c->l, &p->l, …)
      let a3 := setLf a2 c (a2.lf p)
      setLf a3 p sw
  (m8, h1)

/-! ### operation histories on one container (the step functions of the history theorems; the
driver executes every standard operation through them) -/

/-- one container: memory and header -/
structure LS where
  m : TM
  h : Hd

inductive LOp where
  /-- store `key` in element `n`, then insert(n, NULL) -/
  | ins (n : Nat) (key : Int)
  /-- store `key` in element `n`, find(key, &par), insert(n, par) -/
  | insHint (n : Nat) (key : Int)
  | find (key : Int)
  | erase (key : Int)
  /-- cstl_bintree_clear: the header part (`root = NULL; size = 0` when the tree is not empty);
  the traversal does not write (it is evaluated on the tree read off the links) -/
  | clear

/-- the harness stores the key in the element before handing it to the library -/
def setKey (m : TM) (n : Nat) (key : Int) : TM := { m with key := updK m.key n key }

def clearHd (h : Hd) : Hd := if h.root ≠ 0 then { root := 0, size := 0 } else h

/-- one operation on a `struct cstl_bintree`: new state, the node found / erased (0 = NULL, 0 for
inserts) and find's `par` / the hint used (0 otherwise); `none` = NULL dereference or loop overrun -/
def btStepL (s : LS) : LOp → Option (LS × Nat × Nat)
  | .ins n key =>
    match btInsert (setKey s.m n key) s.h n 0 with
    | none => none
    | some (m', h') => some (⟨m', h'⟩, 0, 0)
  | .insHint n key =>
    match btFind s.m s.h key with
    | none => none
    | some (_, par) =>
      match btInsert (setKey s.m n key) s.h n par with
      | none => none
      | some (m', h') => some (⟨m', h'⟩, 0, par)
  | .find key =>
    match btFind s.m s.h key with
    | none => none
    | some (n, par) => some (s, n, par)
  | .erase key =>
    match btErase s.m s.h key with
    | none => none
    | some (m', h', n) => some (⟨m', h'⟩, n, 0)
  | .clear => some (⟨s.m, clearHd s.h⟩, 0, 0)

/-- one operation on a `struct cstl_rbtree`; `sx` = address of the stand-in node of erase -/
def rbStepL (sx : Nat) (s : LS) : LOp → Option (LS × Nat × Nat)
  | .ins n key =>
    match rbInsert (setKey s.m n key) s.h n 0 with
    | none => none
    | some (m', h') => some (⟨m', h'⟩, 0, 0)
  | .insHint n key =>
    match btFind s.m s.h key with
    | none => none
    | some (_, par) =>
      match rbInsert (setKey s.m n key) s.h n par with
      | none => none
      | some (m', h') => some (⟨m', h'⟩, 0, par)
  | .find key =>
    match btFind s.m s.h key with
    | none => none
    | some (n, par) => some (s, n, par)
  | .erase key =>
    match rbErase s.m s.h key sx with
    | none => none
    | some (m', h', n) => some (⟨m', h'⟩, n, 0)
  | .clear => some (⟨s.m, clearHd s.h⟩, 0, 0)

/-- run a history, collecting the results -/
def runL (step : LS → LOp → Option (LS × Nat × Nat)) : LS → List LOp → Option (LS × List (Nat × Nat))
  | s, [] => some (s, [])
  | s, op :: ops =>
    match step s op with
    | none => none
    | some (s', o) =>
      match runL step s' ops with
      | none => none
      | some (s'', os) => some (s'', o :: os)

/-! ### reading a tree off the links (used by the driver's dump and by Props) -/

/-- walk the links below `a`, whose parent must be `p`; `.error id` = the parent
link of node `id` does not point back (`-2`: more nodes than the budget, i.e. a
cycle).  Pre-order, like `verify` in harness/tree.c.  Returns the tree and the
remaining node budget. -/
def readTree (m : TM) : Nat → Nat → Nat → Nat → Except Int (Tree × Nat)
  | 0, a, _, b => if a = 0 then .ok (.nil, b) else .error (-2)
  | fuel + 1, a, p, b =>
    if a = 0 then .ok (.nil, b)
    else if b = 0 then .error (-2)
    else if m.pr a ≠ p then .error (Int.ofNat a)
    else
      match readTree m fuel (m.lf a) a (b - 1) with
      | .error e => .error e
      | .ok (l, b1) =>
        match readTree m fuel (m.rt a) a b1 with
        | .error e => .error e
        | .ok (r, b2) => .ok (.node (m.cl a) l (elemAt m a) r, b2)

end Cstl.TreeL
