import Cstl.Gen.TreeLC2
import Cstl.TreeL.Model
import Cstl.TreeL.Lemmas
import Cstl.TreeL.Foreach
import Cstl.Tree.Events
/-
Translator tie, part 2, for the pointer-manipulating code of src/bintree.c and src/rbtree.c.

`Cstl/Gen/TreeLC2.lean` is regenerated from /repo's current sources by tools/c2lean_tree.py on every
check run (tools/areas/treel_tie.py: `tie2_run`); the fixed theorems below are re-checked by the kernel
against the regenerated definitions.

Form of the ties.  The translation is total (a read through NULL reads address 0, as in TreeLC); the
hand-written model (TreeL/Model.lean) stops with `none` where the C code would dereference NULL and where a
loop runs out of fuel.  Every tie says: WHEREVER THE MODEL DOES NOT STOP IT IS THE TRANSLATION,

    model … = some r  →  translation … = some r          (loop-free C functions:  translation … = r)

with the fuel the model uses (`h.size`, `h.size + 1`, …) handed to the translated loops; loops by induction
on the fuel.  `rb_history_no_stop` / `bt_history_refines` (Props) show that the model never stops on a
reachable state, so on those states model and translation are equal.

Parameters of the translation and how the ties instantiate them
* `d : Bool` – the `(l, r)` child-selector pair (`true`: `l = __cstl_bintree_left`); the loops of
  `cstl_rbtree_insert` / `__cstl_rbtree_erase` call the fix-up translation with `true` / `false` where the
  model computes `decide …`.
* `cmp : Nat → Nat → Int` – `__cstl_bintree_cmp` on node addresses; insert needs `cmp a b < 0 ↔ key a < key b`,
  find needs `CmpProbe` (the probe element orders like the key `k` the model is given).
* `adr_x` – the address of the stack-local stand-in `_x` of `__cstl_rbtree_erase` = the model's `sx`.
* `par`, `par_cell` – the out parameter of `cstl_bintree_find` (address, content before); the content after
  is an extra result.
* `visit : σ → TM → Nat → Nat → σ × TM × Int` – the callback of `__cstl_bintree_foreach`.  The only
  link-level text of the traversal is its one-level equation (`foreachStep` of Foreach.lean, `foreach_unfold` by
  `rfl`); `foreach_refines` ties the translation to the functional
  `Cstl.Tree.walk` (the function the C01 traversal theorems are about) on every memory that represents a
  tree (`Shape`), for the callback `visitL visit` that logs the visit and leaves the links alone.
-/
namespace Cstl.TreeL.Tie2
open Cstl.TreeL Cstl.Gen.TreeLC2
open Cstl.Tree (Color Elem Tree Ord Ev WSt walk doVisit)
open Cstl.Tree.Color Cstl.Tree.Tree

theorem rotate_tie (m : TM) (h : Hd) (x : Nat) (d : Bool) :
    rotate m h x d =
      if x = 0 then none else if chR m d x = 0 then none else some (c_priv_cstl_bintree_rotate m h x d) := by
  by_cases hx : x = 0
  · simp [rotate, hx]
  · by_cases hy : chR m d x = 0
    · simp [rotate, hx, hy]
    · simp only [rotate, c_priv_cstl_bintree_rotate, hx, hy, if_false]

-- TreeL/Lemmas.lean (imported) has the same five; the statements of a tie module are fixed, so its own stay
@[simp] theorem setC_pr (m : TM) (a : Nat) (c : Color) : (setC m a c).pr = m.pr := rfl
@[simp] theorem setC_lf (m : TM) (a : Nat) (c : Color) : (setC m a c).lf = m.lf := rfl
@[simp] theorem setC_rt (m : TM) (a : Nat) (c : Color) : (setC m a c).rt = m.rt := rfl
@[simp] theorem chL_setC (m : TM) (a : Nat) (c : Color) (d : Bool) (x : Nat) : chL (setC m a c) d x = chL m d x := rfl
@[simp] theorem chR_setC (m : TM) (a : Nat) (c : Color) (d : Bool) (x : Nat) : chR (setC m a c) d x = chR m d x := rfl

theorem ite_none_some {α : Type} {c : Prop} [Decidable c] {a r : α}
    (h : (if c then none else some a) = some r) : a = r :=
  Option.some.inj (Option.ite_none_left_eq_some.mp h).2

theorem fixInsertion_tie (m : TM) (h : Hd) (x : Nat) (d : Bool) (r : TM × Hd × Nat)
    (hr : fixInsertion m h x d = some r) : c_cstl_rbtree_fix_insertion m h x d = r := by
  unfold fixInsertion at hr
  simp only [rotate_tie] at hr
  unfold c_cstl_rbtree_fix_insertion
  by_cases hp : m.pr x = 0
  · simp [hp] at hr
  by_cases hg : m.pr (m.pr x) = 0
  · simp [hp, hg] at hr
  simp only [hp, hg, if_false] at hr
  by_cases hy : chR m d (m.pr (m.pr x)) ≠ 0 ∧ m.cl (chR m d (m.pr (m.pr x))) = red
  · rw [if_pos hy] at hr
    cases hr
    simp [hy]
  rw [if_neg hy] at hr
  simp only [if_neg hy]
  by_cases hc : x = chR m d (m.pr x)
  · simp only [if_pos hc] at hr ⊢
    by_cases h0 : chR m d (m.pr x) = 0
    · simp [h0] at hr
    simp only [h0, if_false] at hr
    generalize c_priv_cstl_bintree_rotate m h (m.pr x) d = R at hr ⊢
    obtain ⟨m1, h1⟩ := R
    simp only [setC_pr] at hr ⊢
    by_cases hp1 : m1.pr (m.pr x) = 0
    · simp [hp1] at hr
    by_cases hg1 : m1.pr (m1.pr (m.pr x)) = 0
    · simp [hp1, hg1] at hr
    simp only [hp1, hg1, if_false] at hr
    split at hr
    · cases hr
    · rename_i heq
      cases hr
      rw [ite_none_some heq]
  · simp only [if_neg hc] at hr ⊢
    simp only [setC_pr, hp, hg, if_false] at hr ⊢
    split at hr
    · cases hr
    · rename_i heq
      cases hr
      rw [ite_none_some heq]

theorem insFixLoop_tie (fuel : Nat) (m : TM) (h : Hd) (x : Nat) (r : TM × Hd)
    (hr : insFixLoop fuel m h x = some r) :
    (c_cstl_rbtree_insert_loop1 fuel m h x).map (fun s => (s.1, s.2.1)) = some r := by
  induction fuel generalizing m h x with
  | zero =>
    unfold insFixLoop at hr
    unfold c_cstl_rbtree_insert_loop1
    by_cases hc : m.pr x ≠ 0 ∧ m.cl (m.pr x) = red
    · rw [if_pos hc] at hr; cases hr
    · rw [if_neg hc] at hr; rw [if_neg hc]; cases hr; rfl
  | succ f ih =>
    unfold insFixLoop at hr
    unfold c_cstl_rbtree_insert_loop1
    by_cases hc : m.pr x ≠ 0 ∧ m.cl (m.pr x) = red
    · rw [if_pos hc] at hr; rw [if_pos hc]
      by_cases hg : m.pr (m.pr x) = 0
      · simp [hg] at hr
      simp only [hg, if_false] at hr
      by_cases hd : m.pr x = m.lf (m.pr (m.pr x))
      · rw [decide_eq_true hd] at hr
        simp only [if_pos hd]
        split at hr
        · cases hr
        · rename_i m' h' x' heq
          rw [fixInsertion_tie _ _ _ _ _ heq]
          exact ih _ _ _ hr
      · rw [decide_eq_false hd] at hr
        simp only [if_neg hd]
        split at hr
        · cases hr
        · rename_i m' h' x' heq
          rw [fixInsertion_tie _ _ _ _ _ heq]
          exact ih _ _ _ hr
    · rw [if_neg hc] at hr; rw [if_neg hc]; cases hr; rfl


theorem insLoop_tie (cmp : Nat → Nat → Int) (m : TM) (h : Hd) (bn : Nat)
    (hcmp : ∀ a b, cmp a b < 0 ↔ m.key a < m.key b) (fuel bp : Nat) (bc : Loc) (r : Nat × Loc)
    (hr : insLoop m h bn fuel bp bc = some r) :
    c_cstl_bintree_insert_loop1 cmp m h bn fuel bc bp = some (r.2, r.1) := by
  induction fuel generalizing bp bc with
  | zero =>
    unfold insLoop at hr
    unfold c_cstl_bintree_insert_loop1
    by_cases hc : rdLoc m h bp bc = 0
    · rw [if_pos hc] at hr; cases hr; simp [hc]
    · rw [if_neg hc] at hr; cases hr
  | succ f ih =>
    unfold insLoop at hr
    unfold c_cstl_bintree_insert_loop1
    by_cases hc : rdLoc m h bp bc = 0
    · rw [if_pos hc] at hr; cases hr; simp [hc]
    · rw [if_neg hc] at hr
      rw [if_pos (by simpa using hc)]
      by_cases hk : m.key bn < m.key (rdLoc m h bp bc)
      · simp only [hk, if_true] at hr
        simp only [(hcmp _ _).2 hk, if_true]
        exact ih _ _ hr
      · simp only [hk, if_false] at hr
        simp only [mt (hcmp _ _).1 hk, if_false]
        exact ih _ _ hr

theorem btInsert_tie (cmp : Nat → Nat → Int) (m : TM) (h : Hd) (bn p : Nat)
    (hcmp : ∀ a b, cmp a b < 0 ↔ m.key a < m.key b) (r : TM × Hd)
    (hr : btInsert m h bn p = some r) :
    c_cstl_bintree_insert cmp (h.size + 1) m h bn p = some r := by
  unfold btInsert at hr
  unfold c_cstl_bintree_insert
  by_cases hp : p ≠ 0
  · simp only [if_pos hp] at hr ⊢
    split at hr
    · cases hr
    · rename_i bp bc heq
      rw [insLoop_tie cmp m h bn hcmp _ _ _ _ heq]
      cases hr
      cases bc <;> rfl
  · simp only [if_neg hp, rdLoc] at hr ⊢
    split at hr
    · cases hr
    · rename_i bp bc heq
      rw [insLoop_tie cmp m h bn hcmp _ _ _ _ heq]
      cases hr
      cases bc <;> rfl

theorem btInsert_size (m : TM) (h : Hd) (bn p : Nat) (r : TM × Hd) (hr : btInsert m h bn p = some r) :
    r.2.size = h.size + 1 := by
  unfold btInsert at hr
  simp only at hr
  split at hr
  · cases hr
  · rename_i bp bc heq
    cases hr
    cases bc <;> rfl

theorem rbInsert_tie (cmp : Nat → Nat → Int) (m : TM) (h : Hd) (n p : Nat)
    (hcmp : ∀ a b, cmp a b < 0 ↔ m.key a < m.key b) (r : TM × Hd)
    (hr : rbInsert m h n p = some r) :
    c_cstl_rbtree_insert cmp (h.size + 1) (h.size + 2) m h n p = some r := by
  unfold rbInsert at hr
  unfold c_cstl_rbtree_insert
  split at hr
  · cases hr
  · rename_i m1 h1 heq
    rw [btInsert_tie cmp m h n p hcmp _ heq]
    have hs := btInsert_size _ _ _ _ _ heq
    simp only at hs
    rw [hs] at hr
    simp only at hr
    split at hr
    · cases hr
    · rename_i m3 h3 heq2
      have hl := insFixLoop_tie _ _ _ _ _ heq2
      simp only
      cases hc : c_cstl_rbtree_insert_loop1 (h.size + 1 + 1) (setC m1 n red) h1 n with
      | none => simp [hc] at hl
      | some s =>
        obtain ⟨m6, t5, x5⟩ := s
        simp [hc] at hl
        obtain ⟨e1, e2⟩ := hl
        subst e1; subst e2
        split at hr
        · cases hr
        · cases hr; rfl


theorem rotate_some (m : TM) (h : Hd) (x : Nat) (d : Bool) (r : TM × Hd) (hr : rotate m h x d = some r) :
    c_priv_cstl_bintree_rotate m h x d = r := by
  rw [rotate_tie] at hr
  split at hr
  · cases hr
  · exact ite_none_some hr

theorem fixDeletion_tie (m : TM) (h : Hd) (x : Nat) (d : Bool) (r : TM × Hd × Nat)
    (hr : fixDeletion m h x d = some r) : c_cstl_rbtree_fix_deletion m h x d = r := by
  unfold fixDeletion at hr
  split at hr
  · cases hr
  rename_i m1 h1 w1 hs
  unfold c_cstl_rbtree_fix_deletion
  extract_lets w ma mb R1 m4 t2 m3 w3 m6 m7 R2 m9 t4 m8 w5 m10 m11 m12 R3 m14 t6 m5 t5 x3
  have key : m4 = m1 ∧ t2 = h1 ∧ w3 = w1 := by
    unfold fixDelSibling at hs
    simp only at hs
    split at hs
    · cases hs
    split at hs
    · rename_i hred
      split at hs
      · cases hs
      · rename_i ma' ha' heq
        have := rotate_some _ _ _ _ _ heq
        cases hs
        simp only [m4, t2, w3, m3, if_pos hred, R1, mb, ma, w]
        simp only [setC_pr] at this ⊢
        rw [this]
        simp
    · rename_i hred
      cases hs
      simp only [m4, t2, w3, if_neg hred, w]
      simp
  obtain ⟨e1, e2, e3⟩ := key
  clear_value m4 t2 w3
  subst e1 e2 e3
  clear hs
  unfold fixDelCases at hr
  have hb : ∀ a, blackOrNull m4 a = true ↔ (a = 0 ∨ m4.cl a = black) := by
    intro a; simp [blackOrNull]
  split at hr
  · cases hr
  split at hr
  · rename_i hbb
    simp only [Bool.and_eq_true, hb] at hbb
    cases hr
    simp only [m14, t6, x3, if_pos hbb, m5]
  · rename_i hbb
    simp only [Bool.and_eq_true, hb] at hbb
    split at hr
    · cases hr
    rename_i m2' h2' w2' hn
    have key2 : m9 = m2' ∧ t4 = h2' ∧ w5 = w2' := by
      split at hn
      · rename_i hbr
        rw [hb] at hbr
        split at hn
        · cases hn
        simp only at hn
        split at hn
        · cases hn
        rename_i mr hr' heq
        have := rotate_some _ _ _ _ _ heq
        cases hn
        simp only [m9, t4, w5, if_pos hbr, m8, R2, m7, m6]
        rw [this]
        simp
      · rename_i hbr
        rw [hb] at hbr
        cases hn
        simp only [m9, t4, w5, if_neg hbr]
        simp
    obtain ⟨e1, e2, e3⟩ := key2
    clear_value m9 t4 w5
    subst e1 e2 e3
    clear hn
    unfold fixDelFar at hr
    split at hr
    · cases hr
    simp only at hr
    split at hr
    · cases hr
    split at hr
    · cases hr
    rename_i m6' h6' heq
    have := rotate_some _ _ _ _ _ heq
    cases hr
    simp only [m14, t6, x3, if_neg hbb, t5, R3, m12, m11, m10]
    simp only [setC_pr, chR_setC] at this ⊢
    rw [this]

theorem delFixLoop_tie (sx fuel : Nat) (m : TM) (h : Hd) (x : Nat) (r : TM × Hd × Nat)
    (hr : delFixLoop sx fuel m h x = some r) :
    c_priv_cstl_rbtree_erase_loop1 sx fuel m h x = some r := by
  induction fuel generalizing m h x with
  | zero =>
    unfold delFixLoop at hr
    unfold c_priv_cstl_rbtree_erase_loop1
    split at hr
    · cases hr
    split at hr
    · cases hr
    · rename_i hc; rw [if_neg hc]; exact hr
  | succ f ih =>
    unfold delFixLoop at hr
    unfold c_priv_cstl_rbtree_erase_loop1
    split at hr
    · cases hr
    split at hr
    · rename_i hc
      rw [if_pos hc]
      simp only at hr
      by_cases hD : x = m.lf (m.pr x) ∨ (x = sx ∧ m.lf (m.pr x) = 0)
      · have hd : (decide (x = m.lf (m.pr x)) || (decide (x = sx) && decide (m.lf (m.pr x) = 0))) = true := by
          simpa using hD
        rw [hd] at hr
        simp only [if_pos hD]
        split at hr
        · cases hr
        · rename_i m' h' x' heq
          rw [fixDeletion_tie _ _ _ _ _ heq]
          exact ih _ _ _ hr
      · have hd : (decide (x = m.lf (m.pr x)) || (decide (x = sx) && decide (m.lf (m.pr x) = 0))) = false := by
          simpa using hD
        rw [hd] at hr
        simp only [if_neg hD]
        split at hr
        · cases hr
        · rename_i m' h' x' heq
          rw [fixDeletion_tie _ _ _ _ _ heq]
          exact ih _ _ _ hr
    · rename_i hc; rw [if_neg hc]; exact hr


theorem slide_tie (m : TM) (d : Bool) (fuel a c : Nat) (r : Nat) (hr : slide m d fuel a = some r) :
    c_cstl_bintree_slide_loop1 m d fuel a c = some (r, 0) := by
  induction fuel generalizing a c with
  | zero =>
    unfold slide at hr
    unfold c_cstl_bintree_slide_loop1
    split at hr
    · rename_i hc; cases hr; simp [hc]
    · cases hr
  | succ f ih =>
    unfold slide at hr
    unfold c_cstl_bintree_slide_loop1
    split at hr
    · rename_i hc; cases hr; simp [hc]
    · rename_i hc
      simp only [ne_eq, hc, not_false_eq_true, if_true]
      exact ih _ _ hr

/-- `__cstl_bintree_next(bn)` under `bn->r != NULL` (the only way `__cstl_bintree_erase` calls it) is the
slide to the leftmost node of the right subtree; the walk-up loop (fuel `f2`) is not entered -/
theorem next_tie (m : TM) (fuel f2 bn y : Nat) (hrt : m.rt bn ≠ 0) (hs : slide m true fuel (m.rt bn) = some y) :
    c_priv_cstl_bintree_next fuel f2 m bn = some (m, y) := by
  unfold c_priv_cstl_bintree_next c_priv_cstl_bintree_adjacent c_cstl_bintree_slide
  have h1 : chL m false bn = m.rt bn := rfl
  simp only [h1, if_pos hrt, Bool.not_false]
  rw [slide_tie m true fuel (m.rt bn) 0 y hs]

theorem btEraseNode_tie (m : TM) (h : Hd) (bn f2 : Nat) (r : TM × Hd × Nat)
    (hr : btEraseNode m h bn = some r) :
    c_priv_cstl_bintree_erase h.size f2 m h bn = some r := by
  rw [← hr]
  unfold btEraseNode at hr
  unfold btEraseNode c_priv_cstl_bintree_erase
  -- once `y` is known the two sides differ in where the test `y != bn` stands: `dsimp` brings both to
  -- the same `let`-free form (also inside the `Decidable` arguments, where `simp` does not rewrite)
  by_cases hc : m.lf bn ≠ 0 ∧ m.rt bn ≠ 0
  · rw [if_pos hc] at hr
    rw [if_pos hc, if_pos hc]
    cases hs : slide m true h.size (m.rt bn) with
    | none => rw [hs] at hr; cases hr
    | some y =>
      rw [next_tie m h.size f2 bn y hc.2 hs]
      dsimp only [replaceChild]
      by_cases hy : y ≠ bn
      · simp only [if_pos hy]
      · simp only [if_neg hy]
  · rw [if_neg hc, if_neg hc]
    dsimp only [replaceChild]
    simp only [if_neg (fun e : bn ≠ bn => e rfl)]


theorem rbEraseNode_tie (m : TM) (h : Hd) (n sx f2 : Nat) (r : TM × Hd)
    (hr : rbEraseNode m h n sx = some r) :
    c_priv_cstl_rbtree_erase h.size f2 (h.size + 1) m h n sx = some r := by
  unfold rbEraseNode at hr
  unfold c_priv_cstl_rbtree_erase
  split at hr
  · cases hr
  rename_i m1 h1 y he
  rw [btEraseNode_tie m h n f2 _ he]
  simp only at hr ⊢
  by_cases hc : m1.cl y = black
  · rw [if_pos hc] at hr
    simp only [if_pos hc]
    unfold rbEraseFix at hr
    simp only at hr
    by_cases hl : (setC m1 y (m1.cl n)).lf n ≠ 0
    · simp only [if_pos hl] at hr ⊢
      split at hr
      · cases hr
      rename_i m4 h4 x4 hd
      rw [delFixLoop_tie _ _ _ _ _ _ hd]
      exact hr
    · simp only [if_neg hl] at hr ⊢
      by_cases hrt : (setC m1 y (m1.cl n)).rt n ≠ 0
      · simp only [if_pos hrt] at hr ⊢
        split at hr
        · cases hr
        rename_i m4 h4 x4 hd
        rw [delFixLoop_tie _ _ _ _ _ _ hd]
        exact hr
      · simp only [if_neg hrt] at hr ⊢
        split at hr
        · cases hr
        rename_i m4 h4 x4 hd
        rw [delFixLoop_tie _ _ _ _ _ _ hd]
        exact hr
  · rw [if_neg hc] at hr
    simp only [if_neg hc]
    exact hr


/-- what the tie needs of the comparison function: on the probe element `f` it orders like the key `k` -/
def CmpProbe (cmp : Nat → Nat → Int) (m : TM) (f : Nat) (k : Int) : Prop :=
  ∀ b, (cmp f b = 0 ↔ k = m.key b) ∧ (cmp f b < 0 ↔ k < m.key b)

theorem findLoop_tie (cmp : Nat → Nat → Int) (m : TM) (f : Nat) (k : Int) (hcmp : CmpProbe cmp m f k)
    (fuel bn p : Nat) (r : Nat × Nat) (hr : findLoop m k fuel bn p = some r) :
    c_cstl_bintree_find_loop1 cmp m f fuel bn p = some r := by
  induction fuel generalizing bn p with
  | zero =>
    unfold findLoop at hr
    unfold c_cstl_bintree_find_loop1
    split at hr
    · rename_i hb; subst hb; simpa using hr
    · cases hr
  | succ n ih =>
    unfold findLoop at hr
    unfold c_cstl_bintree_find_loop1
    split at hr
    · rename_i hb; subst hb; simpa using hr
    rename_i hb
    rw [if_pos (by simpa using hb)]
    simp only
    split at hr
    · rename_i he
      rw [if_pos ((hcmp bn).1.2 he)]
      exact hr
    rename_i he
    rw [if_neg (mt (hcmp bn).1.1 he)]
    split at hr
    · rename_i hlt
      simp only [if_pos ((hcmp bn).2.2 hlt)]
      exact ih _ _ hr
    · rename_i hlt
      simp only [if_neg (mt (hcmp bn).2.1 hlt)]
      exact ih _ _ hr

theorem btFind_tie (cmp : Nat → Nat → Int) (m : TM) (h : Hd) (f : Nat) (k : Int) (hcmp : CmpProbe cmp m f k)
    (par cell : Nat) (r : Nat × Nat) (hr : btFind m h k = some r) :
    c_cstl_bintree_find cmp (h.size + 1) m h f par cell =
      some (m, h, r.1, if par ≠ 0 then r.2 else cell) := by
  unfold btFind at hr
  unfold c_cstl_bintree_find
  simp only
  rw [findLoop_tie cmp m f k hcmp _ _ _ _ hr]
  obtain ⟨n, p⟩ := r
  simp only
  have hp : (if p = 0 then 0 else p) = p := by split <;> simp_all
  rw [hp]
  split
  · rfl
  · rename_i hn
    have : n = 0 := by simpa using hn
    subst this; rfl

theorem rbFind_tie (cmp : Nat → Nat → Int) (m : TM) (h : Hd) (f : Nat) (k : Int) (hcmp : CmpProbe cmp m f k)
    (par cell : Nat) (r : Nat × Nat) (hr : btFind m h k = some r) :
    c_cstl_rbtree_find cmp (h.size + 1) m h f par cell =
      some (m, h, r.1, if par ≠ 0 then r.2 else cell) := by
  unfold c_cstl_rbtree_find
  rw [btFind_tie cmp m h f k hcmp par cell r hr]

theorem btErase_tie (cmp : Nat → Nat → Int) (m : TM) (h : Hd) (f : Nat) (k : Int) (hcmp : CmpProbe cmp m f k)
    (f3 : Nat) (r : TM × Hd × Nat) (hr : btErase m h k = some r) :
    c_cstl_bintree_erase cmp (h.size + 1) h.size f3 m h f = some r := by
  unfold btErase at hr
  unfold c_cstl_bintree_erase
  split at hr
  · cases hr
  rename_i n p hf
  rw [btFind_tie cmp m h f k hcmp 0 0 _ hf]
  simp only
  split at hr
  · rename_i hn; subst hn; cases hr; rfl
  rename_i hn
  simp only [ne_eq, hn, not_false_eq_true, if_true]
  split at hr
  · cases hr
  rename_i m' h' y he
  rw [btEraseNode_tie m h n f3 _ he]
  exact hr

theorem rbErase_tie (cmp : Nat → Nat → Int) (m : TM) (h : Hd) (f : Nat) (k : Int) (hcmp : CmpProbe cmp m f k)
    (sx f3 : Nat) (r : TM × Hd × Nat) (hr : rbErase m h k sx = some r) :
    c_cstl_rbtree_erase cmp (h.size + 1) h.size f3 (h.size + 1) m h f sx = some r := by
  unfold rbErase at hr
  unfold c_cstl_rbtree_erase
  split at hr
  · cases hr
  rename_i n p hf
  rw [rbFind_tie cmp m h f k hcmp 0 0 _ hf]
  simp only
  split at hr
  · rename_i hn; subst hn; cases hr; rfl
  rename_i hn
  simp only [ne_eq, hn, not_false_eq_true, if_true]
  split at hr
  · cases hr
  rename_i m' h' he
  rw [rbEraseNode_tie m h n sx f3 _ he]
  exact hr


/-- the numbers of `cstl_bintree_visit_order_t` -/
def ordOf : Nat → Ord
  | 0 => .pre
  | 1 => .mid
  | 2 => .post
  | _ => .leaf

/-- the callback of the translated traversal that stands for a functional visit function: it logs the
visit, leaves the link memory alone and answers what `visit` answers -/
def visitL (visit : Nat → Elem → Ord → Int) (log : List Ev) (m : TM) (a o : Nat) : List Ev × TM × Int :=
  (log ++ [(elemAt m a, ordOf o)], m, visit log.length (elemAt m a) (ordOf o))

-- all that Foreach.lean is told of the translated recursion (no doc comment: `translator_tie` of tools/vlib.py
-- attributes an error to the last `theorem` line above its position)
theorem foreach_unfold {σ : Type} (v : σ → TM → Nat → Nat → σ × TM × Int) (fuel : Nat) (st : σ) (m : TM) (a : Nat)
    (d : Bool) :
    c_priv_cstl_bintree_foreach v (fuel + 1) st m a d =
      foreachStep v (c_priv_cstl_bintree_foreach v fuel) st m a d := rfl

theorem foreach_refines (visit : Nat → Elem → Ord → Int) (d : Bool) (m : TM) (t : Tree) :
    ∀ (a p : Nat) (log : List Ev) (fuel : Nat), Shape m a p t → a ≠ 0 → t.height ≤ fuel →
      c_priv_cstl_bintree_foreach (visitL visit) fuel log m a d =
        some ((walk d visit t (0, log)).2, m, (walk d visit t (0, log)).1) :=
  fun _ _ log _ hS ha hh =>
    foreach_walk (od := ordOf) (fun o => by cases o <;> rfl) (fun _ _ _ => rfl) (foreach_unfold (visitL visit)) log
      hS ha hh


/-- `cstl_bintree_foreach` on a memory that represents the tree `t`: the recursion started at the root
(`bt->root != NULL`) with fuel `t.height` makes exactly the visits of the functional `foreach` -/
theorem foreach_root_refines (visit : Nat → Elem → Ord → Int) (fwd : Bool) (m : TM) (h : Hd) (t : Tree)
    (ht : IsTree m h.root 0 t) (hroot : h.root ≠ 0) :
    c_priv_cstl_bintree_foreach (visitL visit) t.height [] m h.root fwd =
      some ((Cstl.Tree.foreach fwd visit t).2, m, (Cstl.Tree.foreach fwd visit t).1) :=
  foreach_refines visit fwd m t h.root 0 [] t.height ht.shape hroot (Nat.le_refl _)

/-! ### the hypotheses on `cmp` are satisfiable (the comparison the harness installs: by key) -/

example (m : TM) : ∀ a b, (fun a b => m.key a - m.key b) a b < 0 ↔ m.key a < m.key b := by
  intro a b; simp only; omega

example (m : TM) (f : Nat) : CmpProbe (fun a b => m.key a - m.key b) m f (m.key f) := by
  intro b; simp only; constructor <;> omega

end Cstl.TreeL.Tie2
