import Cstl.TreeL.BtRefine
import Cstl.TreeL.RbErase
/-
Operation histories at link level (`btStepL`, `rbStepL` of Model.lean — the
step functions the driver executes) refine the functional histories of
Cstl/Tree/History.lean step by step.
-/
namespace Cstl.TreeL
open Cstl.SList (Mem upd upd_same upd_other)
open Cstl.Tree (Color Elem Tree TS Op Out)
open Cstl.Tree.Color Cstl.Tree.Tree

/-- the functional operation a link-level operation stands for -/
def toOp : LOp → Op
  | .ins n key => .ins { key := key, id := n }
  | .insHint n key => .insHint { key := key, id := n }
  | .find key => .find key
  | .erase key => .erase key
  | .clear => .clear

/-- the address a functional result stands for -/
def outAddr : Out → Nat
  | .done => 0
  | .found r => idOpt r
  | .erased r => idOpt r
  | .visited _ _ => 0
  | .cleared _ => 0

/-- the elements handed to insert are objects (non-NULL) other than the stand-in node `sx` of the red-black erase;
the bintree has no stand-in and uses `OpOk 0` -/
def OpOk (sx : Nat) : LOp → Prop
  | .ins n _ => n ≠ 0 ∧ n ≠ sx
  | .insHint n _ => n ≠ 0 ∧ n ≠ sx
  | _ => True

/-- a link-level container represents a functional one -/
structure Rep (s : LS) (ts : TS) : Prop where
  tree : IsTree s.m s.h.root 0 ts.t
  size : s.h.size = ts.t.size

theorem Rep.init (m : TM) : Rep ⟨m, ⟨0, 0⟩⟩ {} := ⟨⟨rfl, by simp⟩, rfl⟩

theorem IsTree.clear {m : TM} {t : Tree} {h : Hd} (ht : IsTree m h.root 0 t) (hsz : h.size = t.size) :
    IsTree m (clearHd h).root 0 .nil ∧ (clearHd h).size = 0 := by
  unfold clearHd
  split
  · exact ⟨⟨rfl, by simp⟩, rfl⟩
  · rename_i h0
    have h0' : h.root = 0 := by simpa using h0
    have : t = .nil := ht.shape.zero_iff.mp h0'
    subst this
    exact ⟨⟨h0', by simp⟩, by simpa [Tree.size] using hsz⟩

/-- the bintree never writes colours; its functional model paints every node black -/
def AllBlack (m : TM) : Prop := ∀ a, m.cl a = black

/-! ### what a functional step does to the tree and what it answers

`Rep` reads only the tree of a functional state, so these are all the dispatchers below need of `btStep` / `rbStep`;
a hinted insert is an insert (`Tree.btStep_insHint`, `Tree.rbStep_insHint`). -/

theorem btStep_ins_ok {ts ts' : TS} {x : Elem} {o : Out} (hf : Cstl.Tree.btStep ts (.ins x) = .ok (ts', o)) :
    x.id ∉ ts.t.ids ∧ ts'.t = Cstl.Tree.btIns x ts.t ∧ o = .done := by
  simp only [Cstl.Tree.btStep] at hf
  split at hf
  · cases hf
  · cases hf; exact ⟨‹_›, rfl, rfl⟩

theorem btStep_erase_ok {ts ts' : TS} {k : Int} {o : Out} (hf : Cstl.Tree.btStep ts (.erase k) = .ok (ts', o)) :
    ts'.t = (Cstl.Tree.btErase k ts.t).1 ∧ o = .erased (Cstl.Tree.btErase k ts.t).2 := by
  simp only [Cstl.Tree.btStep] at hf
  split at hf <;> rename_i he <;> cases hf <;> rw [he]
  · exact ⟨rfl, rfl⟩
  · exact ⟨by simpa [he] using (Cstl.Tree.btErase_fst_of_none (k := k) (t := ts.t) (by rw [he])).symm, rfl⟩

theorem rbStep_ins_ok {ts ts' : TS} {x : Elem} {o : Out} (hf : Cstl.Tree.rbStep ts (.ins x) = .ok (ts', o)) :
    x.id ∉ ts.t.ids ∧ Cstl.Tree.rbInsert x ts.t = some ts'.t ∧ o = .done := by
  simp only [Cstl.Tree.rbStep] at hf
  split at hf
  · cases hf
  · split at hf <;> cases hf
    exact ⟨‹_›, ‹_›, rfl⟩

theorem rbStep_erase_ok {ts ts' : TS} {k : Int} {o : Out} (hf : Cstl.Tree.rbStep ts (.erase k) = .ok (ts', o)) :
    ∃ r, Cstl.Tree.rbErase k ts.t = some (ts'.t, r) ∧ o = .erased r := by
  simp only [Cstl.Tree.rbStep] at hf
  split at hf <;> rename_i he <;> cases hf
  · exact ⟨_, he, rfl⟩
  · exact ⟨none, by rw [he, Cstl.Tree.rbErase_fst_of_none he], rfl⟩

/-- `cstl_bintree_insert` without a hint (`par = none`) or with the parent `find` reports -/
theorem btIns_step {n : Nat} (key : Int) {m : TM} {h : Hd} {t : Tree} (ht : IsTree m h.root 0 t)
    (hsz : h.size = t.size) (hn0 : n ≠ 0) (hnt : n ∉ t.ids) (hb : AllBlack m) {par : Option Elem}
    (hpar : par = none ∨ par = (Cstl.Tree.find key t).2) :
    ∃ m' h', btInsert (setKey m n key) h n (idOpt par) = some (m', h') ∧
      IsTree m' h'.root 0 (Cstl.Tree.btIns { key := key, id := n } t) ∧
      h'.size = (Cstl.Tree.btIns { key := key, id := n } t).size ∧ AllBlack m' := by
  have hsp := (Cstl.Tree.btInsert_spec { key := key, id := n } t).2.2
  cases par with
  | none =>
    obtain ⟨m', h', g1, g2, g3, g4, _, _⟩ := bintree_insert_refines (n := n) (ht.setKey hnt key) hsz hn0 hnt (hb n)
    rw [elemAt_setKey] at g2 g3
    exact ⟨m', h', g1, g2, g3, fun a => by rw [g4]; exact hb a⟩
  | some p =>
    have hp := (hpar.resolve_left (by simp)).symm
    obtain ⟨m', h', t', g0, g1, g2, g3, g4, _, _⟩ := bintree_insert_hint_refines (n := n) (hint := p.id)
      (ht.setKey hnt key) hsz hn0 hnt (hb n) (Cstl.Tree.find_par_id_mem hp)
    rw [elemAt_setKey, Cstl.Tree.btInsertAt_find_eq { key := key, id := n } ht.nodup hp, Option.some.injEq] at g0
    subst g0
    exact ⟨m', h', g1, g2, by rw [g3, hsp, hsz], fun a => by rw [g4]; exact hb a⟩

theorem btStepL_refines {s : LS} {ts ts' : TS} {op : LOp} {o : Out} (hr : Rep s ts) (hb : AllBlack s.m)
    (hop : OpOk 0 op) (hf : Cstl.Tree.btStep ts (toOp op) = .ok (ts', o)) :
    ∃ s' r, btStepL s op = some (s', r) ∧ Rep s' ts' ∧ AllBlack s'.m ∧ r.1 = outAddr o := by
  obtain ⟨ht, hsz⟩ := hr
  have hfind := fun key => find_refines key ht hsz
  cases op with
  | ins n key =>
    obtain ⟨hnt, ht', rfl⟩ := btStep_ins_ok hf
    obtain ⟨m', h', g1, g2, g3, g4⟩ := btIns_step key ht hsz hop.1 hnt hb (Or.inl rfl)
    exact ⟨⟨m', h'⟩, (0, 0), by simp [btStepL, show btInsert _ _ n 0 = _ from g1], ⟨ht' ▸ g2, ht' ▸ g3⟩, g4, rfl⟩
  | insHint n key =>
    rw [toOp, Cstl.Tree.btStep_insHint ht.nodup] at hf
    obtain ⟨hnt, ht', rfl⟩ := btStep_ins_ok hf
    obtain ⟨m', h', g1, g2, g3, g4⟩ := btIns_step key ht hsz hop.1 hnt hb (Or.inr rfl)
    exact ⟨⟨m', h'⟩, (0, idOpt (Cstl.Tree.find key ts.t).2), by simp [btStepL, hfind, g1], ⟨ht' ▸ g2, ht' ▸ g3⟩, g4, rfl⟩
  | find key =>
    cases hf
    exact ⟨s, (idOpt (Cstl.Tree.find key ts.t).1, idOpt (Cstl.Tree.find key ts.t).2), by simp [btStepL, hfind],
      ⟨ht, hsz⟩, hb, rfl⟩
  | erase key =>
    obtain ⟨ht', rfl⟩ := btStep_erase_ok hf
    obtain ⟨m', h', g1, g2, g3, g4, _, _⟩ := bintree_erase_refines key ht hsz hb
    exact ⟨⟨m', h'⟩, (idOpt (Cstl.Tree.btErase key ts.t).2, 0), by simp [btStepL, g1], ⟨ht' ▸ g2, ht' ▸ g3⟩,
      fun a => by rw [g4]; exact hb a, rfl⟩
  | clear =>
    cases hf
    obtain ⟨c1, c2⟩ := ht.clear hsz
    exact ⟨_, _, rfl, ⟨c1, by simpa [Tree.size] using c2⟩, hb, rfl⟩

theorem rootBlack_blacken {t : Tree} (h : Cstl.Tree.RootBlack t) : t.blacken = t := by
  cases t with
  | nil => rfl
  | node c l e r => simp only [Cstl.Tree.RootBlack] at h; subst h; rfl

/-- `cstl_rbtree_insert` without a hint (`par = none`) or with the parent `find` reports -/
theorem rbIns_step {sx n : Nat} (key : Int) {m : TM} {h : Hd} {t T : Tree} (ht : IsTree m h.root 0 t)
    (hsz : h.size = t.size) (hop : n ≠ 0 ∧ n ≠ sx) (hnt : n ∉ t.ids) (hsx : sx ∉ t.ids)
    (hi : Cstl.Tree.rbInsert { key := key, id := n } t = some T) {par : Option Elem}
    (hpar : par = none ∨ par = (Cstl.Tree.find key t).2) :
    ∃ m' h', rbInsert (setKey m n key) h n (idOpt par) = some (m', h') ∧ IsTree m' h'.root 0 T ∧ h'.size = T.size ∧
      sx ∉ T.ids := by
  have hsp := Cstl.Tree.rbInsert_spec hi
  have hsx' := Cstl.Tree.not_mem_ids_of_perm_cons hsp.1 (Ne.symm hop.2) hsx
  cases par with
  | none =>
    rw [← elemAt_setKey m n key] at hi
    obtain ⟨m', h', g1, g2, g3, _, _⟩ := rb_insert_refines (n := n) (ht.setKey hnt key) hsz hop.1 hnt hi
    exact ⟨m', h', g1, g2, by rw [g3, hsp.2.2, hsz], hsx'⟩
  | some p =>
    have hp := (hpar.resolve_left (by simp)).symm
    have hi' := Cstl.Tree.rbInsertAt_find_eq { key := key, id := n } ht.nodup hp
    rw [hi, ← elemAt_setKey m n key] at hi'
    obtain ⟨m', h', g1, g2, g3, _, _⟩ := rb_insert_hint_refines (n := n) (hint := p.id) (ht.setKey hnt key) hsz
      hop.1 hnt (Cstl.Tree.find_par_id_mem hp) hi'
    exact ⟨m', h', g1, g2, by rw [g3, hsp.2.2, hsz], hsx'⟩

theorem rbStepL_refines {sx : Nat} {s : LS} {ts ts' : TS} {op : LOp} {o : Out} (hr : Rep s ts)
    (hinv : Cstl.Tree.Inv ts.t) (hsx0 : sx ≠ 0) (hsx : sx ∉ ts.t.ids) (hop : OpOk sx op)
    (hf : Cstl.Tree.rbStep ts (toOp op) = .ok (ts', o)) :
    ∃ s' r, rbStepL sx s op = some (s', r) ∧ Rep s' ts' ∧ sx ∉ ts'.t.ids ∧ r.1 = outAddr o := by
  obtain ⟨ht, hsz⟩ := hr
  have hfind := fun key => find_refines key ht hsz
  cases op with
  | ins n key =>
    obtain ⟨hnt, hi, rfl⟩ := rbStep_ins_ok hf
    obtain ⟨m', h', g1, g2, g3, g4⟩ := rbIns_step key ht hsz hop hnt hsx hi (Or.inl rfl)
    exact ⟨⟨m', h'⟩, (0, 0), by simp [rbStepL, show rbInsert _ _ n 0 = _ from g1], ⟨g2, g3⟩, g4, rfl⟩
  | insHint n key =>
    rw [toOp, Cstl.Tree.rbStep_insHint ht.nodup] at hf
    obtain ⟨hnt, hi, rfl⟩ := rbStep_ins_ok hf
    obtain ⟨m', h', g1, g2, g3, g4⟩ := rbIns_step key ht hsz hop hnt hsx hi (Or.inr rfl)
    exact ⟨⟨m', h'⟩, (0, idOpt (Cstl.Tree.find key ts.t).2), by simp [rbStepL, hfind, g1], ⟨g2, g3⟩, g4, rfl⟩
  | find key =>
    cases hf
    exact ⟨s, (idOpt (Cstl.Tree.find key ts.t).1, idOpt (Cstl.Tree.find key ts.t).2), by simp [rbStepL, hfind],
      ⟨ht, hsz⟩, hsx, rfl⟩
  | erase key =>
    obtain ⟨r, he, rfl⟩ := rbStep_erase_ok hf
    obtain ⟨T, r', he', hinv'⟩ := Cstl.Tree.rbErase_inv key hinv
    cases he.symm.trans he'
    obtain ⟨m', h', g1, g2, g3, _, _⟩ := rb_erase_refines key sx ht hsz hsx0 hsx he (rootBlack_blacken hinv'.1)
    exact ⟨⟨m', h'⟩, (idOpt r, 0), by simp [rbStepL, g1], ⟨g2, g3⟩, Cstl.Tree.rbErase_not_mem_ids he hsx, rfl⟩
  | clear =>
    cases hf
    obtain ⟨c1, c2⟩ := ht.clear hsz
    exact ⟨_, _, rfl, ⟨c1, by simpa [Tree.size] using c2⟩, by simp, rfl⟩

/-- histories simulate step by step: if every link-level step from related states (`I`) refines the functional
step, keeps `I` and returns the address of the functional result, then so does every history -/
theorem runL_refines {stepL : LS → LOp → Option (LS × Nat × Nat)}
    {step : TS → Op → Except Cstl.Tree.Stop (TS × Out)} {I : LS → TS → Prop} {ok : LOp → Prop}
    (hstep : ∀ {s ts ts' op o}, I s ts → ok op → step ts (toOp op) = .ok (ts', o) →
      ∃ s' r, stepL s op = some (s', r) ∧ I s' ts' ∧ r.1 = outAddr o) :
    ∀ (ops : List LOp) (s : LS) (ts ts' : TS) (outs : List Out), I s ts → (∀ op ∈ ops, ok op) →
      Cstl.Tree.runFrom step ts (ops.map toOp) = .ok (ts', outs) →
      ∃ s' rs, runL stepL s ops = some (s', rs) ∧ I s' ts' ∧ rs.map (·.1) = outs.map outAddr := by
  intro ops
  induction ops with
  | nil =>
    intro s ts ts' outs hi _ hf
    simp only [List.map_nil, Cstl.Tree.runFrom, Except.ok.injEq, Prod.mk.injEq] at hf
    obtain ⟨rfl, rfl⟩ := hf
    exact ⟨s, [], rfl, hi, rfl⟩
  | cons op ops ih =>
    intro s ts ts' outs hi hok hf
    rw [List.map_cons, Cstl.Tree.runFrom_cons_ok] at hf
    obtain ⟨ts1, o, os, h1, h2, rfl⟩ := hf
    obtain ⟨s1, r, g1, g2, g4⟩ := hstep hi (hok op (by simp)) h1
    obtain ⟨s', rs, l1, l2, l4⟩ := ih s1 ts1 ts' os g2 (fun op' h' => hok op' (by simp [h'])) h2
    exact ⟨s', r :: rs, by simp [runL, g1, l1], l2, by simp [g4, l4]⟩

/-- a bintree history at link level refines the functional history (`btRun` when started from the
empty tree) operation by operation: it never dereferences NULL or overruns a loop, every state
represents the functional state, every result is the address of the functional result -/
theorem bt_runL_refines : ∀ (ops : List LOp) (s : LS) (ts ts' : TS) (outs : List Out),
    Rep s ts → AllBlack s.m → (∀ op ∈ ops, OpOk 0 op) →
    Cstl.Tree.runFrom Cstl.Tree.btStep ts (ops.map toOp) = .ok (ts', outs) →
    ∃ s' rs, runL btStepL s ops = some (s', rs) ∧ Rep s' ts' ∧ AllBlack s'.m ∧
      rs.map (·.1) = outs.map outAddr := by
  intro ops s ts ts' outs hr hb hok hf
  obtain ⟨s', rs, h1, ⟨h2, h3⟩, h4⟩ := runL_refines (I := fun s ts => Rep s ts ∧ AllBlack s.m) (ok := OpOk 0)
    (fun hi hop hs => by
      obtain ⟨s', r, g1, g2, g3, g4⟩ := btStepL_refines hi.1 hi.2 hop hs
      exact ⟨s', r, g1, ⟨g2, g3⟩, g4⟩) ops s ts ts' outs ⟨hr, hb⟩ hok hf
  exact ⟨s', rs, h1, h2, h3, h4⟩

/-- the same for the red-black tree -/
theorem rb_runL_refines {sx : Nat} (hsx0 : sx ≠ 0) : ∀ (ops : List LOp) (s : LS) (ts ts' : TS) (outs : List Out),
    Rep s ts → Cstl.Tree.Inv ts.t → sx ∉ ts.t.ids → (∀ op ∈ ops, OpOk sx op) →
    Cstl.Tree.runFrom Cstl.Tree.rbStep ts (ops.map toOp) = .ok (ts', outs) →
    ∃ s' rs, runL (rbStepL sx) s ops = some (s', rs) ∧ Rep s' ts' ∧ Cstl.Tree.Inv ts'.t ∧
      rs.map (·.1) = outs.map outAddr := by
  intro ops s ts ts' outs hr hinv hsx hok hf
  obtain ⟨s', rs, h1, ⟨h2, h3, _⟩, h4⟩ :=
    runL_refines (I := fun s ts => Rep s ts ∧ Cstl.Tree.Inv ts.t ∧ sx ∉ ts.t.ids) (ok := OpOk sx)
      (fun {s ts ts' op o} hi hop hs => by
        obtain ⟨s', r, g1, g2, g3, g4⟩ := rbStepL_refines hi.1 hi.2.1 hsx0 hi.2.2 hop hs
        exact ⟨s', r, g1, ⟨g2, (Cstl.Tree.rbStep_inv hi.2.1 (toOp op)).2 ts' o hs, g3⟩, g4⟩)
      ops s ts ts' outs ⟨hr, hinv, hsx⟩ hok hf
  exact ⟨s', rs, h1, h2, h3, h4⟩

end Cstl.TreeL
