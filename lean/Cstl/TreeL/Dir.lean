import Cstl.TreeL.Prim
/-
What the fix-up code reads at a focus and the moves it makes from there, for a direction `d`: `d = true` is the
code path called with (`l`, `r`) = (left, right), `d = false` the mirrored call.
-/
namespace Cstl.TreeL
open Cstl.SList (Mem upd upd_same upd_other)
open Cstl.Tree (Color Elem Tree InsRes)
open Cstl.Tree.Color Cstl.Tree.Tree

theorem Zip.downD' {m : TM} {root a p : Nat} {d : Bool} {c : Color} {e : Elem} {l r : Tree} {K : Ctx}
    (h : Zip m root K a p (mkNode d c l e r)) : Zip m root (mkFrame (!d) c e l :: K) (chR m d a) a r := by
  cases d
  · exact h.downL
  · exact h.downR

theorem Zip.setC_rootD {m : TM} {root a p : Nat} {K : Ctx} {d : Bool} {c : Color} {l r : Tree} {e : Elem}
    (h : Zip m root K a p (mkNode d c l e r)) (c' : Color) :
    Zip (setC m a c') root K a p (mkNode d c' l e r) := by
  cases d
  · exact h.setC_root c'
  · exact h.setC_root c'

/-- back to a focus known from before a surgery: the subtree `t`, untouched, now sits at the hole of the inner
context `k`; its address and its parent's are read off the old focus `h0` -/
theorem Zip.unplug_at {m m0 : TM} {root root0 a p a' p' : Nat} {K K0 : Ctx} (k : Ctx) {t : Tree}
    (h : Zip m root K a' p' (plug k t)) (h0 : Zip m0 root0 K0 a p t) (hp : ctxParent (k ++ K) = ctxParent K0) :
    Zip m root (k ++ K) a p t := by
  rw [h0.sub.root_eq, h0.ctx.parent_eq, ← hp]
  exact Zip.unplug k h

/-- what the code reads at the hole's parent -/
theorem Zip.frameD {m : TM} {root a p : Nat} {d : Bool} {c : Color} {e : Elem} {s t : Tree} {K : Ctx}
    (h : Zip m root (mkFrame d c e s :: K) a p t) :
    p ≠ 0 ∧ e.id = p ∧ m.cl p = c ∧ chL m d p = a ∧ Shape m (chR m d p) p s ∧ (a ≠ 0 → chR m d p ≠ a) := by
  obtain ⟨h1, h2, h3, h4, h5, _⟩ := (CtxShape_mkFrame ..).mp h.ctx
  exact ⟨h1, by simp [h2], h3, h4, h5, fun ha => (h.slotD ha).2.2⟩

theorem Zip.siblingD {m : TM} {root a p : Nat} {d : Bool} {c cw : Color} {pe we : Elem} {t wn wf : Tree} {K : Ctx}
    (h : Zip m root (mkFrame d c pe (mkNode d cw wn we wf) :: K) a p t) :
    p ≠ 0 ∧ pe.id = p ∧ m.cl p = c ∧ chR m d p ≠ 0 ∧ we.id = chR m d p ∧ m.cl (chR m d p) = cw ∧
      m.pr (chR m d p) = p ∧ Shape m (chL m d (chR m d p)) (chR m d p) wn ∧
      Shape m (chR m d (chR m d p)) (chR m d p) wf := by
  obtain ⟨hp0, hpid, hpc, _, hsw, _⟩ := h.frameD
  rw [Shape_mkNode] at hsw
  exact ⟨hp0, hpid, hpc, hsw.1, by simp [hsw.2.1], hsw.2.2.1, hsw.2.2.2.1, hsw.2.2.2.2.1, hsw.2.2.2.2.2⟩

theorem Zip.focusD {m : TM} {root a p : Nat} {K : Ctx} {d : Bool} {c : Color} {l r : Tree} {e : Elem}
    (h : Zip m root K a p (mkNode d c l e r)) : m.cl a = c ∧ a ≠ 0 := by
  have hs := h.sub
  rw [Shape_mkNode] at hs
  exact ⟨hs.2.2.1, hs.1⟩

theorem Zip.pr_focus {m : TM} {root a p : Nat} {K : Ctx} {t : Tree} (h : Zip m root K a p t) (ha : a ≠ 0) :
    m.pr a = p := h.sub.parent ha

/-- which side of its parent the focus is on, as the C test `x->p == x->p->p->l` sees it -/
theorem Zip.side_test {m : TM} {root a p : Nat} {d : Bool} {c : Color} {e : Elem} {s t : Tree} {K : Ctx}
    (h : Zip m root (mkFrame d c e s :: K) a p t) (ha : a ≠ 0) : decide (a = m.lf p) = d := by
  cases d
  · have := (h.slot_R ha).2.2
    simp only [decide_eq_false_iff_not]
    exact fun e' => this e'.symm
  · have := (h.slot_L ha).2.1
    simp [this]

theorem isRed_iff {m : TM} {a p : Nat} {t : Tree} (h : Shape m a p t) : t.isRed = true ↔ (a ≠ 0 ∧ m.cl a = red) := by
  cases t with
  | nil => simp [Tree.isRed]; intro h0; exact absurd h h0
  | node c l e r =>
    simp only [Shape_node] at h
    cases c <;> simp [Tree.isRed, h.1, h.2.2.1]

theorem blackOrNull_iff {m : TM} {a p : Nat} {t : Tree} (h : Shape m a p t) :
    blackOrNull m a = !t.isRed := by
  cases t with
  | nil => have : a = 0 := h; simp [blackOrNull, this, Tree.isRed]
  | node c l e r =>
    simp only [Shape_node] at h
    cases c <;> simp [blackOrNull, Tree.isRed, h.1, h.2.2.1]

end Cstl.TreeL
