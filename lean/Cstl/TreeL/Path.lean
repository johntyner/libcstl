import Cstl.TreeL.Ctx
/-
Functional facts that connect the recursive model of Cstl.Tree (insert / find / erase
written as recursion over the tree) with contexts: the path an operation takes
from the root (`insPath`, `DelPath`, `spine`), what the recursion does on the way back up (`unwind`), and
what the bintree erase leaves at the node found (`onlyChild`, `btEraseRoot_*`).  No memory here.
-/
namespace Cstl.TreeL
open Cstl.Tree Cstl.Tree.Color Cstl.Tree.Tree

/-- the path the insert descent takes in `t` (innermost frame first); the hole it ends at is empty -/
def insPath (key : Int) : Tree → Ctx
  | .nil => []
  | .node c l e r => if key < e.key then insPath key l ++ [.L c e r] else insPath key r ++ [.R c l e]

theorem plug_insPath (key : Int) (t u : Tree) (k : Ctx) :
    plug (insPath key t ++ k) u = plug k (plug (insPath key t) u) := plug_append _ _ _

theorem plug_insPath_nil (key : Int) (t : Tree) : plug (insPath key t) .nil = t := by
  induction t with
  | nil => rfl
  | node c l e r ihl ihr =>
    simp only [insPath]
    split
    · rw [plug_append, ihl]; rfl
    · rw [plug_append, ihr]; rfl

theorem insPath_ids_sub {key : Int} {t : Tree} {z : Nat} (h : z ∈ ctxIds (insPath key t)) : z ∈ t.ids := by
  have := (mem_plug_ids (K := insPath key t) (t := .nil)).mpr (Or.inr h)
  rwa [plug_insPath_nil] at this

theorem btIns_plug (x : Elem) (t : Tree) : btIns x t = plug (insPath x.key t) (.node black .nil x .nil) := by
  induction t with
  | nil => rfl
  | node c l e r ihl ihr =>
    simp only [btIns, insPath]
    split
    · rw [plug_append, ← ihl]; rfl
    · rw [plug_append, ← ihr]; rfl

/-- what the recursion of `ins` does on the way back up through a context -/
def unwind : Ctx → InsRes → InsRes
  | [], res => res
  | .L c e r :: k, res => unwind k (balInsL c res e r)
  | .R c l e :: k, res => unwind k (balInsR c l e res)

theorem unwind_mkFrame (d : Bool) (c : Color) (e : Elem) (s : Tree) (K : Ctx) (res : InsRes) :
    unwind (mkFrame d c e s :: K) res =
      unwind K (if d then Cstl.Tree.balInsL c res e s else Cstl.Tree.balInsR c s e res) := by
  cases d <;> rfl

theorem unwind_append (k1 k2 : Ctx) (res : InsRes) : unwind (k1 ++ k2) res = unwind k2 (unwind k1 res) := by
  induction k1 generalizing res with
  | nil => rfl
  | cons f k ih => cases f <;> simp [unwind, ih]

theorem ins_unwind (x : Elem) (t : Tree) : ins x t = unwind (insPath x.key t) (.newRed .nil x .nil) := by
  induction t with
  | nil => rfl
  | node c l e r ihl ihr =>
    simp only [ins, insPath]
    split
    · rw [unwind_append, ← ihl]; rfl
    · rw [unwind_append, ← ihr]; rfl

/-- once the loop is over, the rest of the way up only rebuilds the tree -/
theorem unwind_ok (k : Ctx) (t : Tree) : unwind k (.ok t) = .ok (plug k t) := by
  induction k generalizing t with
  | nil => rfl
  | cons f k ih => cases f <;> simp [unwind, balInsL, balInsR, ih]

/-! ### `unwind` from a red node: where the way up ends, and the two frames one call of
`cstl_rbtree_fix_insertion` handles -/

/-- a black parent ends the way up -/
theorem unwind_blackFrame (d : Bool) (pe : Elem) (ps a b : Tree) (xe : Elem) (K : Ctx) :
    unwind (mkFrame d black pe ps :: K) (.newRed a xe b) =
      .ok (plug (mkFrame d black pe ps :: K) (.node red a xe b)) := by
  cases d <;> simp [unwind, balInsL, balInsR, unwind_ok]

/-- functional side, uncle `u` red (the `if (y != NULL && *BN_COLOR(y) == R)` branch): parent and uncle are
recoloured black, the grandparent red, and the grandparent is the new red node handed further up -/
theorem unwind_redUncle (d' d : Bool) (cg : Color) (pe ge : Elem) (ps u : Tree) (a b : Tree) (xe : Elem) (K : Ctx)
    (hu : u.isRed = true) :
    unwind (mkFrame d' red pe ps :: mkFrame d cg ge u :: K) (.newRed a xe b) =
      unwind K (if d then .newRed (mkNode d' black (.node red a xe b) pe ps) ge u.blacken
                else .newRed u.blacken ge (mkNode d' black (.node red a xe b) pe ps)) := by
  cases d <;> cases d' <;> simp [unwind, balInsL, balInsR, hu]

/-- functional side, uncle black, `x` on the same side of `p` as `p` of `g`: one rotation at `g` ends the way up -/
theorem unwind_outer (d : Bool) (cg : Color) (pe ge : Elem) (ps u : Tree) (a b : Tree) (xe : Elem) (K : Ctx)
    (hu : u.isRed = false) :
    unwind (mkFrame d red pe ps :: mkFrame d cg ge u :: K) (.newRed a xe b) =
      .ok (plug K (mkNode d black (.node red a xe b) pe (mkNode d red ps ge u))) := by
  cases d <;> simp [unwind, balInsL, balInsR, hu, unwind_ok]

/-- functional side, uncle black, `x` on the other side (`x == *r(x->p)`): rotation at `p`, then at `g` -/
theorem unwind_inner (d : Bool) (cg : Color) (pe ge : Elem) (ps u : Tree) (xa xb : Tree) (xe : Elem) (K : Ctx)
    (hu : u.isRed = false) :
    unwind (mkFrame (!d) red pe ps :: mkFrame d cg ge u :: K)
        (if d then .newRed xa xe xb else .newRed xb xe xa) =
      .ok (plug K (mkNode d black (mkNode d red ps pe xa) xe (mkNode d red xb ge u))) := by
  cases d <;> simp [unwind, balInsL, balInsR, hu, unwind_ok]

theorem btInsAt_plug {h : Nat} (x : Elem) (k : Ctx) : ∀ {t t' : Tree}, h ∉ ctxIds k → btInsAt h x t = some t' →
    btInsAt h x (plug k t) = some (plug k t') := by
  induction k with
  | nil => intro t t' _ ht; exact ht
  | cons f k ih =>
    intro t t' hk ht
    cases f with
    | L c e r =>
      simp only [ctxIds_cons, Frame.ids_L, List.cons_append, List.mem_cons, List.mem_append, not_or] at hk
      refine ih (by simp [hk.2.2]) ?_
      simp only [btInsAt]
      rw [if_neg (fun e' => hk.1 e'.symm), ht]
    | R c l e =>
      simp only [ctxIds_cons, Frame.ids_R, List.cons_append, List.mem_cons, List.mem_append, not_or] at hk
      refine ih (by simp [hk.2.2]) ?_
      simp only [btInsAt]
      rw [if_neg (fun e' => hk.1 e'.symm), btInsAt_eq_none.2 hk.2.1, ht]

theorem insAt_plug {h : Nat} (x : Elem) (k : Ctx) : ∀ {t : Tree} {res : InsRes}, h ∉ ctxIds k →
    insAt h x t = some res → insAt h x (plug k t) = some (unwind k res) := by
  induction k with
  | nil => intro t res _ ht; exact ht
  | cons f k ih =>
    intro t res hk ht
    cases f with
    | L c e r =>
      simp only [ctxIds_cons, Frame.ids_L, List.cons_append, List.mem_cons, List.mem_append, not_or] at hk
      refine ih (by simp [hk.2.2]) ?_
      simp only [insAt]
      rw [if_neg (fun e' => hk.1 e'.symm), ht]
    | R c l e =>
      simp only [ctxIds_cons, Frame.ids_R, List.cons_append, List.mem_cons, List.mem_append, not_or] at hk
      refine ih (by simp [hk.2.2]) ?_
      simp only [insAt]
      rw [if_neg (fun e' => hk.1 e'.symm), insAt_eq_none.2 hk.2.1, ht]

theorem exists_ctx_of_mem {t : Tree} {h : Nat} (hm : h ∈ t.ids) :
    ∃ k c l e r, t = plug k (.node c l e r) ∧ e.id = h := by
  induction t with
  | nil => simp at hm
  | node c l e r ihl ihr =>
    simp only [ids_node, List.mem_append, List.mem_cons] at hm
    rcases hm with hm | hm | hm
    · obtain ⟨k, c', l', e', r', ht, he⟩ := ihl hm
      exact ⟨k ++ [.L c e r], c', l', e', r', by rw [plug_append, ← ht]; rfl, he⟩
    · exact ⟨[], c, l, e, r, rfl, hm.symm⟩
    · obtain ⟨k, c', l', e', r', ht, he⟩ := ihr hm
      exact ⟨k ++ [.R c l e], c', l', e', r', by rw [plug_append, ← ht]; rfl, he⟩

/-- the path `find` takes to a key: every frame's key differs from `key` and the hole is on the side the
comparison selects -/
def DelPath (key : Int) : Ctx → Prop
  | [] => True
  | .L _ e _ :: k => key ≠ e.key ∧ key < e.key ∧ DelPath key k
  | .R _ _ e :: k => key ≠ e.key ∧ ¬ key < e.key ∧ DelPath key k

theorem DelPath_append {key : Int} {k1 k2 : Ctx} (h1 : DelPath key k1) (h2 : DelPath key k2) :
    DelPath key (k1 ++ k2) := by
  induction k1 with
  | nil => exact h2
  | cons f k ih =>
    cases f with
    | L c e r => exact ⟨h1.1, h1.2.1, ih h1.2.2⟩
    | R c l e => exact ⟨h1.1, h1.2.1, ih h1.2.2⟩

theorem find_decomp {key : Int} {t : Tree} {e : Elem} : ∀ {q : Option Elem},
    (findAux key q t).1 = some e →
    ∃ k c l r, t = plug k (.node c l e r) ∧ DelPath key k ∧ key = e.key := by
  induction t with
  | nil => intro q h; simp [findAux] at h
  | node c l e' r ihl ihr =>
    intro q h
    simp only [findAux] at h
    by_cases h1 : key = e'.key
    · simp only [h1, if_true, Option.some.injEq] at h
      subst h
      exact ⟨[], c, l, r, rfl, trivial, h1⟩
    · simp only [h1, if_false] at h
      by_cases h2 : key < e'.key
      · simp only [h2, if_true] at h
        obtain ⟨k, c', l', r', ht, hp, hk⟩ := ihl h
        exact ⟨k ++ [.L c e' r], c', l', r', by rw [plug_append, ← ht]; rfl,
          DelPath_append hp (by simp [DelPath, h1, h2]), hk⟩
      · simp only [h2, if_false] at h
        obtain ⟨k, c', l', r', ht, hp, hk⟩ := ihr h
        exact ⟨k ++ [.R c l e'], c', l', r', by rw [plug_append, ← ht]; rfl,
          DelPath_append hp (by simp [DelPath, h1, h2]), hk⟩

theorem btDel_plug {key : Int} (k : Ctx) : ∀ (t : Tree), DelPath key k →
    btDel key (plug k t) = plug k (btDel key t) := by
  induction k with
  | nil => intro t _; rfl
  | cons f k ih =>
    intro t hp
    cases f with
    | L c e r =>
      obtain ⟨h1, h2, h3⟩ := hp
      rw [plug_L, ih _ h3]
      simp [btDel, h1, h2]
    | R c l e =>
      obtain ⟨h1, h2, h3⟩ := hp
      rw [plug_R, ih _ h3]
      simp [btDel, h1, h2]

theorem btDel_found {key : Int} {K : Ctx} {c : Color} {l r : Tree} {e : Elem} (hp : DelPath key K) (hk : key = e.key) :
    btDel key (plug K (.node c l e r)) = plug K (btEraseRoot c l e r) := by
  rw [btDel_plug K _ hp]; simp [btDel, hk]

/-! ### the in-order successor: leftmost node of a subtree -/

/-- frames from the leftmost node's parent up to the root of `t` (innermost first) -/
def spine : Tree → Ctx
  | .nil => []
  | .node _ .nil _ _ => []
  | .node c (.node lc ll le lr) e r => spine (.node lc ll le lr) ++ [.L c e r]

/-- the subtree rooted at the leftmost node -/
def minSub : Tree → Tree
  | .nil => .nil
  | .node c .nil e r => .node c .nil e r
  | .node _ (.node lc ll le lr) _ _ => minSub (.node lc ll le lr)

theorem plug_spine (t : Tree) : plug (spine t) (minSub t) = t := by
  induction t with
  | nil => rfl
  | node c l e r ihl _ =>
    cases l with
    | nil => rfl
    | node lc ll le lr => simp only [spine, minSub, plug_append, ihl]; rfl

theorem minSub_form {t : Tree} (ht : t ≠ .nil) : ∃ cy ye ry, minSub t = .node cy .nil ye ry := by
  induction t with
  | nil => exact absurd rfl ht
  | node c l e r ihl _ =>
    cases l with
    | nil => exact ⟨c, e, r, rfl⟩
    | node lc ll le lr => simpa [minSub] using ihl (by simp)

theorem btPopMin_eq {t : Tree} {cy : Color} {ye : Elem} {ry : Tree} (hm : minSub t = .node cy .nil ye ry) :
    btPopMin t = some (ye, plug (spine t) ry) := by
  induction t with
  | nil => simp [minSub] at hm
  | node c l e r ihl _ =>
    cases l with
    | nil =>
      simp only [minSub, Tree.node.injEq] at hm
      obtain ⟨rfl, _, rfl, rfl⟩ := hm
      simp [btPopMin, spine]
    | node lc ll le lr =>
      simp only [minSub] at hm
      have h1 := ihl hm
      rw [show btPopMin (.node c (.node lc ll le lr) e r) =
        (match btPopMin (.node lc ll le lr) with
          | none => some (e, r)
          | some (m, l') => some (m, .node c l' e r)) from rfl, h1]
      simp only [spine, plug_append]
      rfl

theorem insPath_length_le (key : Int) (t : Tree) : (insPath key t).length ≤ t.height := by
  induction t with
  | nil => simp [insPath]
  | node c l e r ihl ihr =>
    simp only [insPath, Tree.height]
    split <;> simp only [List.length_append, List.length_singleton] <;> omega

theorem spine_ids_sub (r : Tree) : ∀ z ∈ ctxIds (spine r), z ∈ r.ids := by
  intro z hz
  have := plug_ids_perm (spine r) (minSub r)
  rw [plug_spine] at this
  exact this.mem_iff.mpr (by simp [hz])

/-- the parent of the leftmost node of `r`, where `r` hangs below the frame `.R c l e`: that frame's node if the
root of `r` is the leftmost node itself; else a node of `r`, whatever the frame is -/
theorem ctxParent_spine (r : Tree) (c : Color) (l : Tree) (e : Elem) (k : Ctx) :
    (spine r = [] ∧ ctxParent (spine r ++ .R c l e :: k) = e.id) ∨
      (ctxParent (spine r ++ .R c l e :: k) ∈ r.ids ∧
        ∀ c' l' e', ctxParent (spine r ++ .R c' l' e' :: k) = ctxParent (spine r ++ .R c l e :: k)) := by
  cases hsp : spine r with
  | nil => exact Or.inl ⟨rfl, rfl⟩
  | cons f s =>
    exact Or.inr ⟨spine_ids_sub r _ (by rw [hsp]; cases f <;> simp [ctxParent]), fun _ _ _ => by cases f <;> rfl⟩

theorem minSub_ids {r ry : Tree} {cy : Color} {ye : Elem} (hm : minSub r = .node cy .nil ye ry) (z : Nat) :
    z ∈ r.ids ↔ z = ye.id ∨ z ∈ (plug (spine r) ry).ids := by
  have h1 : z ∈ (plug (spine r) (minSub r)).ids ↔ z ∈ r.ids := by rw [plug_spine]
  rw [← h1, hm, mem_plug_ids, mem_plug_ids]
  simp only [ids_node, ids_nil, List.nil_append, List.mem_cons]
  grind

theorem ctxParent_append_R (s k : Ctx) (c1 c2 : Color) (l : Tree) (e : Elem) :
    ctxParent (s ++ .R c1 l e :: k) = ctxParent (s ++ .R c2 l e :: k) := by
  cases s with
  | nil => rfl
  | cons f s => cases f <;> rfl

theorem spine_length_lt {r : Tree} (hr : r ≠ .nil) : (spine r).length + 1 ≤ r.size := by
  have h1 := length_add_size_le_plug (spine r) (minSub r)
  rw [plug_spine] at h1
  obtain ⟨cy, ye, ry, hm⟩ := minSub_form hr
  rw [hm] at h1
  simp only [Tree.size] at h1
  omega

/-- the child that takes the place of a node with at most one child -/
def onlyChild (l r : Tree) : Tree := if l.isNil then r else l

theorem onlyChild_ids_sub {l r : Tree} {z : Nat} (h : z ∈ (onlyChild l r).ids) : z ∈ l.ids ∨ z ∈ r.ids := by
  unfold onlyChild at h
  split at h
  · exact Or.inr h
  · exact Or.inl h

theorem onlyChild_ids_node {l r : Tree} (c : Color) (e : Elem) (z : Nat) (h : z ∈ (onlyChild l r).ids) :
    z ∈ (Tree.node c l e r).ids := by
  rcases onlyChild_ids_sub h with h' | h' <;> simp [h']

theorem btEraseRoot_one (c : Color) (l r : Tree) (e : Elem) (hone : l = .nil ∨ r = .nil) :
    btEraseRoot c l e r = onlyChild l r := by
  rcases hone with rfl | rfl
  · rfl
  · cases l <;> rfl

theorem btEraseRoot_two (c : Color) {l r ry : Tree} (e : Elem) {cy : Color} {ye : Elem} (hl : l ≠ .nil)
    (hm : minSub r = .node cy .nil ye ry) :
    btEraseRoot c l e r = .node c l ye (plug (spine r) ry) := by
  cases l with
  | nil => exact absurd rfl hl
  | node lc ll le lr => simp [btEraseRoot, btPopMin_eq hm]

end Cstl.TreeL
