import Cstl.TreeL.Prim
import Cstl.TreeL.Path
/-
The three link surgeries that more than one container calls, each as a transformation of a `Zip` (field table
+ `Zip.replace` + frame): the leaf attach (bintree insert, heap push), taking out a node with at most one child
(bintree erase, heap pop), a node from outside the tree taking the place of the node at the focus (bintree erase
with two children, heap pop at the root).
-/
namespace Cstl.TreeL
open Cstl.SList (Mem upd upd_same upd_other)
open Cstl.Tree (Color Elem Tree)
open Cstl.Tree.Color Cstl.Tree.Tree

/-- the location `bc` that is the slot of the hole of a context -/
def slot : Ctx → Nat → Loc
  | [], _ => .root
  | .L .. :: _, p => .lf p
  | .R .. :: _, p => .rt p

/-- below a frame the store `*bc = bn` goes to a child field of the parent: the root pointer stays -/
theorem attach_root_cons (m : TM) (h : Hd) (n P : Nat) (f : Frame) (k : Ctx) :
    (attach m h n P (slot (f :: k) P)).2.root = h.root := by cases f <;> rfl

/-- leaf attach: `bn->p = bp; bn->l = NULL; bn->r = NULL; *bc = bn; size++` at an empty focus -/
theorem attach_spec {m : TM} {h : Hd} {k : Ctx} {P n : Nat} (hz : Zip m h.root k 0 P .nil) (hn0 : n ≠ 0)
    (hnk : n ∉ ctxIds k) :
    Zip (attach m h n P (slot k P)).1 (attach m h n P (slot k P)).2.root k n P
        (.node (m.cl n) .nil (elemAt m n) .nil) ∧
      (attach m h n P (slot k P)).2.size = h.size + 1 ∧
      (attach m h n P (slot k P)).1.cl = m.cl ∧ (attach m h n P (slot k P)).1.key = m.key ∧
      (∀ z, z ≠ n → z ≠ P → Agree m (attach m h n P (slot k P)).1 z) := by
  have hnP : n ≠ P := hz.parent_ne hn0 hnk
  have hnd : ((Tree.node (m.cl n) .nil (elemAt m n) .nil).ids ++ ctxIds k).Nodup := by
    have := hz.nodup
    simp only [Cstl.Tree.ids_nil, List.nil_append] at this
    simp [this, hnk]
  cases k with
  | nil =>
    refine ⟨?_, ?_, ?_, ?_, ?_⟩
    · refine hz.replace ?_ (by simp) (by simp [SlotUpd, attach, slot]) hnd
      simp [attach, slot, hn0, elemAt]
    · simp [attach, slot]
    · simp [attach, slot]
    · simp [attach, slot]
    · intro z h1 h2; simp [attach, slot, Agree, upd_apply, h1]
  | cons f k =>
    -- `*bc = bn` goes to `P->l` or `P->r` as the frame says; the rest is the same text
    cases f
    all_goals
      refine ⟨?_, ?_, ?_, ?_, ?_⟩
      · refine hz.replace ?_ ?_ ?_ hnd
        · simp [attach, slot, upd_apply, hn0, elemAt, hnP]
        · intro z hz' hzp
          have : z ≠ n := fun e => hnk (e ▸ hz')
          simp [attach, slot, Agree, upd_apply, this, hzp]
        · simp [SlotUpd, attach, slot, upd_apply, hnP.symm]
      · simp [attach, slot]
      · simp [attach, slot]
      · simp [attach, slot]
      · intro z h1 h2; simp [attach, slot, Agree, upd_apply, h1, h2]

/-- first half of `__cstl_bintree_erase`: `y` (at most one child `x`) is taken out of the tree:
`x->p = y->p`, `y`'s parent (or the root) points at `x` -/
def unlink (m : TM) (h : Hd) (y : Nat) : TM × Hd :=
  let x := if m.lf y ≠ 0 then m.lf y else m.rt y
  let m1 := if x ≠ 0 then setP m x (m.pr y) else m
  replaceChild m1 h y x

/-- the fields after `unlink m h y`; `p` is `y`'s parent, `x` its only child (or 0) -/
structure UnlinkRes (m : TM) (h : Hd) (y p x : Nat) (m' : TM) (h' : Hd) : Prop where
  cl : m'.cl = m.cl
  key : m'.key = m.key
  size : h'.size = h.size
  root : h'.root = if p = 0 then x else h.root
  pr : ∀ z, m'.pr z = if z = x ∧ x ≠ 0 then p else m.pr z
  lf : ∀ z, m'.lf z = if z = p ∧ z ≠ 0 ∧ m.lf z = y then x else m.lf z
  rt : ∀ z, m'.rt z = if z = p ∧ z ≠ 0 ∧ m.lf z ≠ y then x else m.rt z

theorem unlink_fields (m : TM) (h : Hd) (y : Nat) {p x : Nat} (hp : m.pr y = p)
    (hx : (if m.lf y ≠ 0 then m.lf y else m.rt y) = x) (hxy : x ≠ y) :
    UnlinkRes m h y p x (unlink m h y).1 (unlink m h y).2 := by
  constructor
  · simp only [unlink, replaceChild_cl, setP_if_cl]
  · simp only [unlink, replaceChild_key, setP_if_key]
  · simp only [unlink, replaceChild_size]
  all_goals
    intros
    simp only [unlink, hx, replaceChild_root, replaceChild_pr, replaceChild_lf, replaceChild_rt, setP_if_pr,
      setP_if_lf, setP_if_rt, hxy.symm, and_false, if_false, hp]
  -- what is left compares two case lists over addresses known to be distinct
  all_goals grind

theorem UnlinkRes.agree {m m' : TM} {h h' : Hd} {y p x : Nat} (R : UnlinkRes m h y p x m' h') {z : Nat}
    (z1 : z ≠ x) (z2 : z ≠ p) : Agree m m' z :=
  ⟨by simp only [R.pr z, z1, false_and, if_false], by simp only [R.lf z, z2, false_and, if_false],
    by simp only [R.rt z, z2, false_and, if_false], by rw [R.cl], by rw [R.key]⟩

/-- `unlink` at the focus: the child the code picks (`y->l` if there is one, else `y->r`) takes `y`'s place;
with two children the right subtree is simply cut off, which is why the callers come with at most one -/
theorem unlink_spec {m : TM} {h : Hd} {K : Ctx} {y py : Nat} {cy : Color} {l r : Tree} {ye : Elem}
    (hz : Zip m h.root K y py (.node cy l ye r)) :
    ∃ x, x = (if m.lf y ≠ 0 then m.lf y else m.rt y) ∧
      Zip (unlink m h y).1 (unlink m h y).2.root K x py (onlyChild l r) ∧
      (unlink m h y).2.size = h.size ∧ (unlink m h y).1.cl = m.cl ∧ (unlink m h y).1.key = m.key ∧
      (∀ z, z ≠ 0 → z ∉ (onlyChild l r).ids → z ≠ py → Agree m (unlink m h y).1 z) := by
  have hs := hz.sub
  simp only [Shape_node] at hs
  obtain ⟨hy0, hye, hcy, hpy, hsl, hsr⟩ := hs
  obtain ⟨x, hx, hsx⟩ : ∃ x, x = (if m.lf y ≠ 0 then m.lf y else m.rt y) ∧ Shape m x y (onlyChild l r) := by
    -- `onlyChild l r` is `r` when `l` is empty (then `y->l` is NULL and the code takes `y->r`), else `l`
    cases l with
    | nil =>
      have : m.lf y = 0 := hsl
      exact ⟨m.rt y, by simp [this], hsr⟩
    | node c' l' e' r' =>
      have : m.lf y ≠ 0 := by simp only [Shape_node] at hsl; exact hsl.1
      exact ⟨m.lf y, by simp [this], hsl⟩
  obtain ⟨hyl, hyr, _, hnl, hnr⟩ := hz.node_sep
  have hin := onlyChild_ids_node (l := l) (r := r) cy ye
  have hcn : (onlyChild l r).ids.Nodup := by unfold onlyChild; split <;> assumption
  have hcnd : ((onlyChild l r).ids ++ ctxIds K).Nodup :=
    List.nodup_append.mpr ⟨hcn, (List.nodup_append.mp hz.nodup).2.1, fun z h1 w h2 e =>
      hz.notin_ctx (hin z h1) (e ▸ h2)⟩
  have hxy : x ≠ y := (hsx.root_ne (fun hc => (onlyChild_ids_sub hc).elim hyl hyr) hy0).symm
  have R := unlink_fields m h y hpy hx.symm hxy
  have hxpy : x ≠ 0 → x ≠ py := fun h0 => hz.sub_ne_parent (hin x (hsx.root_mem h0))
  refine ⟨x, hx, ?_, R.size, R.cl, R.key, fun z hz0 hzc => R.agree (hsx.root_ne hzc hz0)⟩
  refine hz.replace ?_ ?_ ?_ hcnd
  · refine hsx.reparent hcn (fun z hz' hne => R.agree hne (hz.sub_ne_parent (hin z hz'))) (fun h0 => ?_)
    have hne := hxpy h0
    exact ⟨by simp only [R.pr x, h0, ne_eq, not_false_eq_true, and_self, if_true],
      by simp only [R.lf x, hne, false_and, if_false], by simp only [R.rt x, hne, false_and, if_false],
      by rw [R.cl], by rw [R.key]⟩
  · exact fun z hz' hne =>
      R.agree (hsx.root_ne (fun hc => hz.notin_ctx (hin z hc) hz') (hz.ctx.ids_ne_zero z hz')) hne
  · refine hz.slotUpdD hy0 true (by rw [R.root]) (fun hp0 => ?_) (fun hp0 => ?_) (fun hp0 => ?_)
      (by rw [R.cl]) (by rw [R.key])
    · simp only [chL, if_true, R.lf py, hp0, true_and, ne_eq, not_false_eq_true]
    · simp only [chL, chR, if_true, R.rt py, hp0, true_and, ne_eq, not_false_eq_true]
    · have : ¬(py = x ∧ x ≠ 0) := fun e => hxpy e.2 e.1.symm
      simp only [R.pr py, this, if_false]

/-- the fields of every node but `bn` after the node `y` has taken the place of `bn` (`p` is `bn`'s parent): what
`substNode` (Erase.lean) does, and the `*n = *root` of `cstl_heap_pop` (HeapL/Pop.lean).  `bn` itself no longer
belongs to the tree; what its own links are left as is the caller's business (`substNode_self`, Erase.lean) -/
structure SubstRes (m : TM) (h : Hd) (bn p y : Nat) (m' : TM) (h' : Hd) : Prop where
  cl : m'.cl = m.cl
  key : m'.key = m.key
  size : h'.size = h.size
  root : h'.root = if p = 0 then y else h.root
  pr : ∀ z, z ≠ bn → m'.pr z = if z = y then p else if (z = m.lf bn ∨ z = m.rt bn) ∧ z ≠ 0 then y else m.pr z
  lf : ∀ z, z ≠ bn → m'.lf z = if z = y then m.lf bn else if z = p ∧ z ≠ 0 ∧ m.lf z = bn then y else m.lf z
  rt : ∀ z, z ≠ bn → m'.rt z = if z = y then m.rt bn else if z = p ∧ z ≠ 0 ∧ m.lf z ≠ bn then y else m.rt z

theorem SubstRes.agree {m m' : TM} {h h' : Hd} {bn p y : Nat} (R : SubstRes m h bn p y m' h') {z : Nat}
    (z1 : z ≠ bn) (z2 : z ≠ y) (z3 : z ≠ p) (z4 : z = m.lf bn → z = 0) (z5 : z = m.rt bn → z = 0) :
    Agree m m' z := by
  have : ¬((z = m.lf bn ∨ z = m.rt bn) ∧ z ≠ 0) := fun e => e.2 (e.1.elim z4 z5)
  exact ⟨by simp only [R.pr z z1, z2, this, if_false], by simp only [R.lf z z1, z2, z3, false_and, if_false],
    by simp only [R.rt z z1, z2, z3, false_and, if_false], by rw [R.cl], by rw [R.key]⟩

theorem SubstRes.child {m m' : TM} {h h' : Hd} {bn p y : Nat} (R : SubstRes m h bn p y m' h') {z : Nat}
    (z1 : z ≠ bn) (z2 : z ≠ y) (z3 : z ≠ p) (z0 : z ≠ 0) (z4 : z = m.lf bn ∨ z = m.rt bn) :
    m'.pr z = y ∧ m'.lf z = m.lf z ∧ m'.rt z = m.rt z ∧ m'.cl z = m.cl z ∧ m'.key z = m.key z :=
  ⟨by simp only [R.pr z z1, z2, z4, z0, if_false, ne_eq, not_false_eq_true, and_self, if_true],
    by simp only [R.lf z z1, z2, z3, false_and, if_false], by simp only [R.rt z z1, z2, z3, false_and, if_false],
    by rw [R.cl], by rw [R.key]⟩

/-- `y` (not in the tree) takes the place of the node `bn` at the focus, by any writes with the effect `SubstRes`
(asked for under the facts about `bn` the focus provides) -/
theorem Zip.subst {m m' : TM} {h h' : Hd} {k : Ctx} {bn p y : Nat} {c : Color} {l r : Tree} {e : Elem}
    (hz : Zip m h.root k bn p (.node c l e r)) (hy0 : y ≠ 0) (hyt : y ∉ (Tree.node c l e r).ids)
    (hyk : y ∉ ctxIds k)
    (R : m.pr bn = p → y ≠ bn → bn ≠ p → bn ≠ m.lf bn → bn ≠ m.rt bn → SubstRes m h bn p y m' h') :
    Zip m' h'.root k y p (.node (m.cl y) l (elemAt m y) r) ∧ h'.size = h.size ∧ m'.cl = m.cl ∧ m'.key = m.key ∧
      (∀ z, z ≠ bn → z ≠ y → z ≠ p → z ≠ m.lf bn → z ≠ m.rt bn → Agree m m' z) := by
  have hs := hz.sub
  simp only [Shape_node] at hs
  obtain ⟨hb0, he, hc, hpb, hsl, hsr⟩ := hs
  have heid : e.id = bn := by simp [he]
  have hn := hz.nodup
  simp only [Cstl.Tree.ids_node, heid] at hn hyt
  simp only [List.mem_append, List.mem_cons, not_or] at hyt
  obtain ⟨hyl, hyb, hyr⟩ := hyt
  obtain ⟨hbl, hbr, hlr, hnl, hnr⟩ := hz.node_sep
  have hbk : bn ∉ ctxIds k := hz.focus_notin_ctx hb0
  have hinl : ∀ z ∈ l.ids, z ∈ (Tree.node c l e r).ids := fun z h1 => by simp [h1]
  have hinr : ∀ z ∈ r.ids, z ∈ (Tree.node c l e r).ids := fun z h1 => by simp [h1]
  have hy_p : y ≠ p := hz.parent_ne hy0 hyk
  have hb_p : bn ≠ p := hz.parent_ne hb0 hbk
  have R := R hpb hyb hb_p (hsl.root_ne hbl hb0) (hsr.root_ne hbr hb0)
  have hnd' : ((Tree.node (m.cl y) l (elemAt m y) r).ids ++ ctxIds k).Nodup := by
    simp only [Cstl.Tree.ids_node, elemAt_id, List.append_assoc, List.cons_append] at hn ⊢
    rw [List.perm_middle.nodup_iff] at hn ⊢
    exact List.nodup_cons.mpr ⟨by simp [hyl, hyr, hyk], (List.nodup_cons.mp hn).2⟩
  have r1 := R.pr y hyb
  have r2 := R.lf y hyb
  have r3 := R.rt y hyb
  simp only [if_true] at r1 r2 r3
  refine ⟨?_, R.size, R.cl, R.key, ?_⟩
  · refine hz.replace ?_ ?_ ?_ hnd'
    · simp only [Shape_node]
      refine ⟨hy0, by simp [elemAt, R.key], by rw [R.cl], r1, ?_, ?_⟩
      · rw [r2]
        refine hsl.reparent hnl (fun z hz' hne => ?_) (fun h0 => ?_)
        · exact R.agree (fun e' => hbl (e' ▸ hz')) (fun e' => hyl (e' ▸ hz')) (hz.sub_ne_parent (hinl z hz'))
            (fun e' => absurd e' hne) (fun e' => absurd e' (hsr.root_ne (hlr z hz') (hsl.ids_ne_zero z hz')))
        · have hm := hsl.root_mem h0
          exact R.child (fun e' => hbl (e' ▸ hm)) (fun e' => hyl (e' ▸ hm)) (hz.sub_ne_parent (hinl _ hm)) h0
            (Or.inl rfl)
      · rw [r3]
        refine hsr.reparent hnr (fun z hz' hne => ?_) (fun h0 => ?_)
        · exact R.agree (fun e' => hbr (e' ▸ hz')) (fun e' => hyr (e' ▸ hz')) (hz.sub_ne_parent (hinr z hz'))
            (fun e' => absurd e' (hsl.root_ne (fun hc => hlr z hc hz') (hsr.ids_ne_zero z hz')))
            (fun e' => absurd e' hne)
        · have hm := hsr.root_mem h0
          exact R.child (fun e' => hbr (e' ▸ hm)) (fun e' => hyr (e' ▸ hm)) (hz.sub_ne_parent (hinr _ hm)) h0
            (Or.inr rfl)
    · intro z hz' hne
      have z0 := hz.ctx.ids_ne_zero z hz'
      exact R.agree (fun e' => hbk (e' ▸ hz')) (fun e' => hyk (e' ▸ hz')) hne
        (fun e' => absurd e' (hsl.root_ne (fun hc => hz.notin_ctx (hinl z hc) hz') z0))
        (fun e' => absurd e' (hsr.root_ne (fun hc => hz.notin_ctx (hinr z hc) hz') z0))
    · refine hz.slotUpdD hb0 true (by rw [R.root]) (fun hp0 => ?_) (fun hp0 => ?_) (fun hp0 => ?_)
        (by rw [R.cl]) (by rw [R.key])
      · simp only [chL, if_true, R.lf p hb_p.symm, hy_p.symm, hp0, if_false, true_and, ne_eq, not_false_eq_true]
      · simp only [chL, chR, if_true, R.rt p hb_p.symm, hy_p.symm, hp0, if_false, true_and, ne_eq, not_false_eq_true]
      · have g1 := hsl.root_ne (fun h' => hz.sub_ne_parent (hinl _ h') rfl) hp0
        have g2 := hsr.root_ne (fun h' => hz.sub_ne_parent (hinr _ h') rfl) hp0
        simp only [R.pr p hb_p.symm, hy_p.symm, g1, g2, if_false, or_self, false_and]
  · intro z h1 h2 h3 h4 h5
    exact R.agree h1 h2 h3 (fun e' => absurd e' h4) (fun e' => absurd e' h5)

end Cstl.TreeL
