import Cstl.Gen.TreeLC
import Cstl.TreeL.Model
/-
Translator tie for the loop-free link surgery of src/bintree.c:
`Cstl/Gen/TreeLC.lean` is regenerated from /repo's src/bintree.c by
tools/c2lean.py on every check run (symbolic execution of the C statement
list in the vocabulary of Model.lean); these fixed theorems state that the
hand-written model functions are exactly those translations.

* `__cstl_bintree_rotate`: the model stops (`none`) where the C code would
  read through NULL (`x == NULL`, or `y == NULL` with the assert compiled out);
  everywhere else it is the translation.
* `__cstl_bintree_erase`: the call `__cstl_bintree_next(bn)` (a loop) is not
  followed by the translator — its value is a parameter of the translation; the
  model computes it with `slide` and is the translation applied to that value.
  `unlink` (Surgery.lean) / `substNode` (Erase.lean) are the two halves of the same function.
-/
namespace Cstl.TreeL.Tie
open Cstl.TreeL Cstl.Gen.TreeLC

theorem rotate_tie (m : TM) (h : Hd) (x : Nat) (d : Bool) :
    rotate m h x d =
      if x = 0 then none else if chR m d x = 0 then none else some (c_priv_cstl_bintree_rotate m h x d) := by
  by_cases hx : x = 0
  · simp [rotate, hx]
  · by_cases hy : chR m d x = 0
    · simp [rotate, hx, hy]
    · simp only [rotate, c_priv_cstl_bintree_rotate, hx, hy, if_false]

theorem erase_tie (m : TM) (h : Hd) (bn : Nat) :
    btEraseNode m h bn =
      match (if m.lf bn ≠ 0 ∧ m.rt bn ≠ 0 then slide m true h.size (m.rt bn) else some bn) with
      | none => none
      | some y => some (c_priv_cstl_bintree_erase m h bn y) := by
  unfold btEraseNode
  by_cases hc : m.lf bn ≠ 0 ∧ m.rt bn ≠ 0
  · rw [if_pos hc]
    cases slide m true h.size (m.rt bn) with
    | none => rfl
    | some y =>
      by_cases hy : y = bn
      · simp only [c_priv_cstl_bintree_erase, replaceChild, if_pos hc, hy, ne_eq, not_true_eq_false, if_false]
      · simp only [c_priv_cstl_bintree_erase, replaceChild, if_pos hc, hy, ne_eq, not_false_eq_true, if_true]
  · rw [if_neg hc]
    simp only [c_priv_cstl_bintree_erase, replaceChild, if_neg hc, ne_eq, not_true_eq_false, if_false]

end Cstl.TreeL.Tie
