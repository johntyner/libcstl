import Cstl.TreeL.Lemmas
/-
Specifications of the link-mutating primitives as transformations of a focused
tree (`Zip`): reading fields back after guarded writes, the slot of the hole,
colour write at the focus, rotation.
-/
namespace Cstl.TreeL
open Cstl.SList (Mem upd upd_same upd_other)
open Cstl.Tree (Color Elem Tree)
open Cstl.Tree.Color Cstl.Tree.Tree

theorem Agree.setC {m : TM} {a z : Nat} (c : Color) (h : z ≠ a) : Agree m (setC m a c) z :=
  ⟨rfl, rfl, rfl, by simp [updC_apply, h], rfl⟩

theorem Agree.setP {m : TM} {a z : Nat} (v : Nat) (h : z ≠ a) : Agree m (setP m a v) z :=
  ⟨by simp [upd_apply, h], rfl, rfl, rfl, rfl⟩

theorem Agree.setLf {m : TM} {a z : Nat} (v : Nat) (h : z ≠ a) : Agree m (setLf m a v) z :=
  ⟨rfl, by simp [upd_apply, h], rfl, rfl, rfl⟩

theorem Agree.setRt {m : TM} {a z : Nat} (v : Nat) (h : z ≠ a) : Agree m (setRt m a v) z :=
  ⟨rfl, rfl, by simp [upd_apply, h], rfl, rfl⟩

theorem setC_self_agree (m : TM) (a z : Nat) : Agree m (setC m a (m.cl a)) z := by
  refine ⟨rfl, rfl, rfl, ?_, rfl⟩
  simp only [setC_cl, updC_apply]
  split
  · rename_i e; rw [e]
  · rfl

/-! ### reading a field back after a guarded write

The two idioms of the pointer code: `if (x) x->p = v;` and "the parent's child slot (left or
right, or nothing when there is no parent) takes `v`". -/

section
variable (q r : Prop) [Decidable q] [Decidable r] (m : TM) (a v z : Nat)

theorem setP_if_pr : (if q then setP m a v else m).pr z = if q ∧ z = a then v else m.pr z := by
  by_cases hq : q <;> simp [hq, upd_apply]

theorem setP_if_lf : (if q then setP m a v else m).lf = m.lf := by split <;> rfl
theorem setP_if_rt : (if q then setP m a v else m).rt = m.rt := by split <;> rfl
theorem setP_if_cl : (if q then setP m a v else m).cl = m.cl := by split <;> rfl
theorem setP_if_key : (if q then setP m a v else m).key = m.key := by split <;> rfl

theorem relink_swap : (if r then setRt m a v else setLf m a v) = if ¬r then setLf m a v else setRt m a v := by
  by_cases hr : r <;> simp [hr]

theorem relink_pr : (if q then m else if r then setLf m a v else setRt m a v).pr = m.pr := by
  by_cases hq : q <;> by_cases hr : r <;> simp [hq, hr]

theorem relink_cl : (if q then m else if r then setLf m a v else setRt m a v).cl = m.cl := by
  by_cases hq : q <;> by_cases hr : r <;> simp [hq, hr]

theorem relink_key : (if q then m else if r then setLf m a v else setRt m a v).key = m.key := by
  by_cases hq : q <;> by_cases hr : r <;> simp [hq, hr]

theorem relink_lf : (if q then m else if r then setLf m a v else setRt m a v).lf z =
    if ¬q ∧ r ∧ z = a then v else m.lf z := by
  by_cases hq : q <;> by_cases hr : r <;> simp [hq, hr, upd_apply]

theorem relink_rt : (if q then m else if r then setLf m a v else setRt m a v).rt z =
    if ¬q ∧ ¬r ∧ z = a then v else m.rt z := by
  by_cases hq : q <;> by_cases hr : r <;> simp [hq, hr, upd_apply]
end

section
variable (m : TM) (h : Hd) (y x z : Nat)

theorem replaceChild_pr : (replaceChild m h y x).1.pr = m.pr := relink_pr ..
theorem replaceChild_cl : (replaceChild m h y x).1.cl = m.cl := relink_cl ..
theorem replaceChild_key : (replaceChild m h y x).1.key = m.key := relink_key ..
theorem replaceChild_lf :
    (replaceChild m h y x).1.lf z = if ¬m.pr y = 0 ∧ y = m.lf (m.pr y) ∧ z = m.pr y then x else m.lf z := relink_lf ..

theorem replaceChild_rt :
    (replaceChild m h y x).1.rt z = if ¬m.pr y = 0 ∧ ¬y = m.lf (m.pr y) ∧ z = m.pr y then x else m.rt z := relink_rt ..

theorem replaceChild_size : (replaceChild m h y x).2.size = h.size := by
  simp only [replaceChild, apply_ite Hd.size, ite_self]

theorem replaceChild_root : (replaceChild m h y x).2.root = if m.pr y = 0 then x else h.root := by
  simp only [replaceChild, apply_ite Hd.root]
end

theorem Zip.replace {m m' : TM} {root root' a a' p : Nat} {k : Ctx} {t t' : Tree} (h : Zip m root k a p t)
    (hs : Shape m' a' p t') (hag : ∀ z ∈ ctxIds k, z ≠ p → Agree m m' z)
    (hslot : SlotUpd m m' root root' k p a') (hnd : (t'.ids ++ ctxIds k).Nodup) : Zip m' root' k a' p t' :=
  ⟨h.ctx.replace (List.nodup_append.mp h.nodup).2.1 hag hslot, hs, hnd⟩

theorem Zip.frame {m m' : TM} {root a p : Nat} {k : Ctx} {t t' : Tree} (h : Zip m root k a p t)
    (hs : Shape m' a p t') (hag : ∀ z ∈ ctxIds k, Agree m m' z) (hnd : (t'.ids ++ ctxIds k).Nodup) :
    Zip m' root k a p t' :=
  ⟨h.ctx.frame hag, hs, hnd⟩

theorem Zip.parent_ne {m : TM} {root a p z : Nat} {k : Ctx} {t : Tree} (h : Zip m root k a p t) (z0 : z ≠ 0)
    (hz : z ∉ ctxIds k) : z ≠ p :=
  fun e => hz (e ▸ h.ctx.parent_mem (e ▸ z0))

theorem Zip.notin_ctx {m : TM} {root a p z : Nat} {k : Ctx} {t : Tree} (h : Zip m root k a p t) (hz : z ∈ t.ids) :
    z ∉ ctxIds k :=
  fun hk => (List.nodup_append.mp h.nodup).2.2 z hz z hk rfl

theorem Zip.focus_notin_ctx {m : TM} {root a p : Nat} {k : Ctx} {t : Tree} (h : Zip m root k a p t) (ha : a ≠ 0) :
    a ∉ ctxIds k :=
  h.notin_ctx (h.sub.root_mem ha)

theorem Zip.node_sep {m : TM} {root a p : Nat} {k : Ctx} {c : Color} {l r : Tree} {e : Elem}
    (h : Zip m root k a p (.node c l e r)) :
    a ∉ l.ids ∧ a ∉ r.ids ∧ (∀ z ∈ l.ids, z ∉ r.ids) ∧ l.ids.Nodup ∧ r.ids.Nodup := by
  obtain ⟨hl, hr, hal, har, hd⟩ := Cstl.Tree.nodup_ids_node (List.nodup_append.mp h.nodup).1
  rw [h.sub.id_eq] at hal har
  exact ⟨hal, har, hd, hl, hr⟩

theorem Zip.focus_ne_of_mem {m : TM} {root a p z : Nat} {k : Ctx} {c : Color} {l r : Tree} {e : Elem}
    (h : Zip m root k a p (.node c l e r)) (hz : z ∈ l.ids ∨ z ∈ r.ids) : a ≠ z :=
  fun e => hz.elim (e ▸ h.node_sep.1) (e ▸ h.node_sep.2.1)

theorem Zip.sub_ne_parent {m : TM} {root a p z : Nat} {k : Ctx} {t : Tree} (h : Zip m root k a p t) (hz : z ∈ t.ids) :
    z ≠ p :=
  h.parent_ne (h.sub.ids_ne_zero z hz) (h.notin_ctx hz)

/-- a frame stated at the focus (nothing outside the listed nodes of the focused subtree and the hole's parent
is written) is a frame for the whole tree -/
theorem Zip.frame_global {m m' : TM} {root a p : Nat} {k : Ctx} {t : Tree} (hz : Zip m root k a p t) {S : List Nat}
    (hS : ∀ z ∈ S, z ∈ t.ids) (hloc : ∀ z, z ≠ 0 → z ∉ S → z ≠ p → Agree m m' z) :
    ∀ z, z ≠ 0 → z ∉ (plug k t).ids → Agree m m' z :=
  fun z hz0 hzt => hloc z hz0 (fun hs => hzt (mem_plug_ids.mpr (Or.inl (hS z hs))))
    (hz.parent_ne hz0 (fun hc => hzt (mem_plug_ids.mpr (Or.inr hc))))

theorem Zip.transfer {m m' : TM} {root a p : Nat} {K : Ctx} {t : Tree} (h : Zip m root K a p t)
    (hag : ∀ z, z ∈ t.ids ∨ z ∈ ctxIds K → Agree m m' z) : Zip m' root K a p t :=
  h.frame (h.sub.frame fun z hz => hag z (Or.inl hz)) (fun z hz => hag z (Or.inr hz)) h.nodup

/-! ### what the tests `x->p == NULL`, `x == x->p->l` see at a focus -/

theorem Zip.slot_nil {m : TM} {root a p : Nat} {t : Tree} (h : Zip m root [] a p t) : p = 0 ∧ root = a := by
  have := h.ctx; simp at this; simp [this]

theorem Zip.slotD {m : TM} {root a p : Nat} {k : Ctx} {t : Tree} {d : Bool} {c : Color} {e : Elem} {s : Tree}
    (h : Zip m root (mkFrame d c e s :: k) a p t) (ha : a ≠ 0) : p ≠ 0 ∧ chL m d p = a ∧ chR m d p ≠ a := by
  obtain ⟨h1, _, _, h4, h5, _⟩ := (CtxShape_mkFrame ..).mp h.ctx
  refine ⟨h1, h4, fun hr => ?_⟩
  have hm2 : a ∈ s.ids := by rw [← hr]; exact h5.root_mem (by rw [hr]; exact ha)
  exact h.focus_notin_ctx ha (mem_ctxIds_mkFrame.mpr (Or.inr (Or.inl hm2)))

theorem Zip.slot_L {m : TM} {root a p : Nat} {k : Ctx} {t : Tree} {c : Color} {e : Elem} {r : Tree}
    (h : Zip m root (.L c e r :: k) a p t) (ha : a ≠ 0) : p ≠ 0 ∧ m.lf p = a ∧ m.rt p ≠ a :=
  Zip.slotD (d := true) h ha

theorem Zip.slot_R {m : TM} {root a p : Nat} {k : Ctx} {t : Tree} {c : Color} {e : Elem} {l : Tree}
    (h : Zip m root (.R c l e :: k) a p t) (ha : a ≠ 0) : p ≠ 0 ∧ m.rt p = a ∧ m.lf p ≠ a :=
  Zip.slotD (d := false) h ha

/-- the slot of the hole takes `a'` when the parent's link that held `a` (tested as the code does:
is the `l`-side child `a`?) takes `a'` and its other fields stay, or, without a parent, the root does -/
theorem Zip.slotUpdD {m m' : TM} {root root' a a' p : Nat} {k : Ctx} {t : Tree} (h : Zip m root k a p t) (ha : a ≠ 0)
    (d : Bool) (hroot : root' = if p = 0 then a' else root)
    (hl : p ≠ 0 → chL m' d p = if chL m d p = a then a' else chL m d p)
    (hr : p ≠ 0 → chR m' d p = if chL m d p ≠ a then a' else chR m d p)
    (hpr : p ≠ 0 → m'.pr p = m.pr p) (hcl : m'.cl p = m.cl p) (hkey : m'.key p = m.key p) :
    SlotUpd m m' root root' k p a' := by
  cases k with
  | nil => rw [hroot, if_pos h.slot_nil.1]; rfl
  | cons f k =>
    have hp0 : p ≠ 0 := fun e => by have := h.ctx.parent_zero_iff.mp e; simp at this
    have hl := hl hp0
    have hr := hr hp0
    rw [if_neg hp0] at hroot
    cases f with
    | L c0 e0 r0 =>
      obtain ⟨_, s2, s3⟩ := h.slot_L ha
      cases d <;>
        simp only [chL, chR, Bool.false_eq_true, if_false, if_true, s2, s3, ne_eq, not_true_eq_false,
          not_false_eq_true] at hl hr
      · exact ⟨hroot, hr, hl, hpr hp0, hcl, hkey⟩
      · exact ⟨hroot, hl, hr, hpr hp0, hcl, hkey⟩
    | R c0 l0 e0 =>
      obtain ⟨_, s2, s3⟩ := h.slot_R ha
      cases d <;>
        simp only [chL, chR, Bool.false_eq_true, if_false, if_true, s2, s3, ne_eq, not_true_eq_false,
          not_false_eq_true] at hl hr
      · exact ⟨hroot, hl, hr, hpr hp0, hcl, hkey⟩
      · exact ⟨hroot, hr, hl, hpr hp0, hcl, hkey⟩

/-- `*BN_COLOR(a) = c'` at the focus -/
theorem Zip.setC_root {m : TM} {root a p : Nat} {k : Ctx} {c : Color} {l r : Tree} {e : Elem}
    (h : Zip m root k a p (.node c l e r)) (c' : Color) :
    Zip (setC m a c') root k a p (.node c' l e r) := by
  obtain ⟨hal, har, _, _, _⟩ := h.node_sep
  have hak := h.notin_ctx (show a ∈ (Tree.node c l e r).ids by simp [h.sub.id_eq])
  have hs := h.sub
  simp only [Shape_node] at hs
  obtain ⟨h1, h2, h3, h4, h5, h6⟩ := hs
  refine h.frame ?_ (fun z hz => Agree.setC c' (fun e => hak (e ▸ hz))) h.nodup
  simp only [Shape_node, setC_pr, setC_lf, setC_rt, setC_cl, updC_same]
  refine ⟨h1, by simpa [elemAt] using h2, trivial, h4, ?_, ?_⟩
  · exact h5.frame (fun z hz => Agree.setC c' (fun e => hal (e ▸ hz)))
  · exact h6.frame (fun z hz => Agree.setC c' (fun e => har (e ▸ hz)))

/-! ### __cstl_bintree_rotate: the fields after the call -/

structure RotRes (m : TM) (h : Hd) (x : Nat) (d : Bool) (m' : TM) (h' : Hd) : Prop where
  cl : m'.cl = m.cl
  key : m'.key = m.key
  size : h'.size = h.size
  root : h'.root = if m.pr x = 0 then chR m d x else h.root
  pr : ∀ z, m'.pr z = if z = x then chR m d x else if z = chR m d x then m.pr x
        else if z = chL m d (chR m d x) ∧ z ≠ 0 then x else m.pr z
  chl : ∀ z, chL m' d z = if z = chR m d x then x
        else if z = m.pr x ∧ z ≠ 0 ∧ chL m d z = x then chR m d x else chL m d z
  chr : ∀ z, chR m' d z = if z = x then chL m d (chR m d x)
        else if z = m.pr x ∧ z ≠ 0 ∧ chL m d z ≠ x then chR m d x else chR m d z

/-- The code reads `x->p` and `*l(y)` after it has written `*r(x)` and `(*l(y))->p`; the table is the
one of the C text only if those reads see the old values: `x` is not `y`'s `l`-side child (`hbx`) nor
its own parent (`hpx`) -/
theorem rotate_fields (m : TM) (h : Hd) (x : Nat) (d : Bool) (hx0 : x ≠ 0) (hy0 : chR m d x ≠ 0)
    (hxy : x ≠ chR m d x) (hbx : chL m d (chR m d x) ≠ x) (hpx : m.pr x ≠ x) :
    ∃ m' h', rotate m h x d = some (m', h') ∧ RotRes m h x d m' h' := by
  refine ⟨_, _, by simp only [rotate, hx0, hy0, if_false]; rfl, ?_⟩
  cases d
  all_goals
    simp only [chR, chL, Bool.false_eq_true, if_false, if_true] at hy0 hxy hbx
    constructor
    · simp only [setChL, setChR, Bool.false_eq_true, if_false, if_true, setP_cl, setLf_cl, setRt_cl, setP_if_cl,
        relink_cl, relink_swap]
    · simp only [setChL, setChR, Bool.false_eq_true, if_false, if_true, setP_key, setLf_key, setRt_key, setP_if_key,
        relink_key, relink_swap]
    · simp only [apply_ite Hd.size, ite_self]
    all_goals
      intros
      simp only [chL, chR, setChL, setChR, Bool.false_eq_true, relink_swap, setP_pr, setP_lf, setP_rt, setLf_pr,
        setLf_lf, setLf_rt, setRt_pr, setRt_lf, setRt_rt, setP_if_pr, setP_if_lf, setP_if_rt, relink_pr, relink_lf,
        relink_rt, upd_apply, hxy, hxy.symm, hbx.symm, and_false, if_false, if_true]
      -- what is left compares two case lists over addresses known to be distinct
      grind

/-- the rotation does not change the link fields of anything but `x`, `y`, `x`'s parent; of the moved
child only the parent link -/
theorem RotRes.agree_child {m m' : TM} {h h' : Hd} {x : Nat} {d : Bool} (R : RotRes m h x d m' h') {z : Nat}
    (h1 : z ≠ x) (h2 : z ≠ chR m d x) (h3 : z ≠ m.pr x) :
    m'.lf z = m.lf z ∧ m'.rt z = m.rt z ∧ m'.cl z = m.cl z ∧ m'.key z = m.key z := by
  have a2 : chL m' d z = chL m d z := by simp only [R.chl z, h2, h3, false_and, if_false]
  have a3 : chR m' d z = chR m d z := by simp only [R.chr z, h1, h3, false_and, if_false]
  cases d
  · exact ⟨a3, a2, by rw [R.cl], by rw [R.key]⟩
  · exact ⟨a2, a3, by rw [R.cl], by rw [R.key]⟩

theorem RotRes.agree {m m' : TM} {h h' : Hd} {x : Nat} {d : Bool} (R : RotRes m h x d m' h') {z : Nat}
    (h1 : z ≠ x) (h2 : z ≠ chR m d x) (h3 : z ≠ m.pr x) (h4 : z = chL m d (chR m d x) → z = 0) :
    Agree m m' z := by
  have : ¬(z = chL m d (chR m d x) ∧ z ≠ 0) := fun e => e.2 (h4 e.1)
  exact ⟨by simp only [R.pr z, h1, h2, this, if_false], R.agree_child h1 h2 h3⟩

/-- `__cstl_bintree_rotate(t, x, l, r)` at the focus: `x` with `r`-side child `y` becomes `y` with
`l`-side child `x`; `y`'s former `l`-side subtree `b` is re-parented to `x`; the slot of `x` now holds
`y`; nothing else is written -/
theorem rotate_spec {m : TM} {h : Hd} {k : Ctx} {x p : Nat} {d : Bool} {cx cy : Color} {a b c : Tree}
    {ex ey : Elem} (hz : Zip m h.root k x p (mkNode d cx a ex (mkNode d cy b ey c))) :
    ∃ m' h', rotate m h x d = some (m', h') ∧
      Zip m' h'.root k ey.id p (mkNode d cy (mkNode d cx a ex b) ey c) ∧ h'.size = h.size ∧
      m'.cl = m.cl ∧ m'.key = m.key ∧
      (∀ z, z ≠ x → z ≠ ey.id → z ≠ p → z ∉ b.ids → Agree m m' z) := by
  have hs := hz.sub
  simp only [Shape_mkNode] at hs
  obtain ⟨hx0, hex, hcx, hpx, hsa, hy0, hey, hcy, hpy, hsb, hsc⟩ := hs
  have hexid : ex.id = x := by simp [hex]
  have heyid : ey.id = chR m d x := by simp [hey]
  -- distinctness in a canonical order
  have hnd : (x :: chR m d x :: (a.ids ++ (b.ids ++ (c.ids ++ ctxIds k)))).Nodup := by
    refine (List.Perm.nodup_iff (List.perm_iff_count.mpr fun z => ?_)).mp hz.nodup
    simp only [List.count_append, count_mkNode_ids, List.count_cons, hexid, heyid]
    omega
  have hnd' : ((mkNode d cy (mkNode d cx a ex b) ey c).ids ++ ctxIds k).Nodup := by
    refine (List.Perm.nodup_iff (List.perm_iff_count.mpr fun z => ?_)).mpr hz.nodup
    simp only [List.count_append, count_mkNode_ids]
    omega
  simp only [List.nodup_cons, List.mem_cons, List.mem_append, not_or] at hnd
  obtain ⟨⟨hxy, hxa, hxb, hxc, hxk⟩, ⟨hya, hyb, hyc, hyk⟩, hrest⟩ := hnd
  obtain ⟨_, hrest2, dab⟩ := List.nodup_append.mp hrest
  obtain ⟨hbn, hrest3, dbc⟩ := List.nodup_append.mp hrest2
  obtain ⟨_, _, dck⟩ := List.nodup_append.mp hrest3
  have hbm : chL m d (chR m d x) ≠ 0 → chL m d (chR m d x) ∈ b.ids := hsb.root_mem
  have hnp : ∀ {z}, z = x ∨ z = chR m d x ∨ z ∈ a.ids ∨ z ∈ b.ids ∨ z ∈ c.ids → z ≠ p := fun hz' =>
    hz.sub_ne_parent (by simp only [mem_mkNode_ids, hexid, heyid]; rcases hz' with h | h | h | h | h <;> simp [h])
  have hxp : x ≠ p := hnp (.inl rfl)
  have hyp : chR m d x ≠ p := hnp (.inr (.inl rfl))
  obtain ⟨m', h', hrot, R⟩ :=
    rotate_fields m h x d hx0 hy0 hxy (hsb.root_ne hxb hx0).symm (by rw [hpx]; exact hxp.symm)
  have dA : ∀ z ∈ a.ids, z ≠ x ∧ z ≠ chR m d x ∧ z ≠ p ∧ z ∉ b.ids := fun z hz' =>
    ⟨fun e => hxa (e ▸ hz'), fun e => hya (e ▸ hz'), hnp (by simp [hz']), fun hb => dab z hz' z (by simp [hb]) rfl⟩
  have dB : ∀ z ∈ b.ids, z ≠ x ∧ z ≠ chR m d x ∧ z ≠ p := fun z hz' =>
    ⟨fun e => hxb (e ▸ hz'), fun e => hyb (e ▸ hz'), hnp (by simp [hz'])⟩
  have dC : ∀ z ∈ c.ids, z ≠ x ∧ z ≠ chR m d x ∧ z ≠ p ∧ z ∉ b.ids := fun z hz' =>
    ⟨fun e => hxc (e ▸ hz'), fun e => hyc (e ▸ hz'), hnp (by simp [hz']), fun hb => dbc z hb z (by simp [hz']) rfl⟩
  have dK : ∀ z ∈ ctxIds k, z ≠ x ∧ z ≠ chR m d x ∧ z ∉ b.ids := fun z hz' =>
    ⟨fun e => hxk (e ▸ hz'), fun e => hyk (e ▸ hz'), fun hb => dbc z hb z (by simp [hz']) rfl⟩
  have agree_of : ∀ z, z ≠ x → z ≠ chR m d x → z ≠ p → z ∉ b.ids → Agree m m' z := by
    intro z h1 h2 h3 h4
    refine R.agree h1 h2 (by rw [hpx]; exact h3) ?_
    intro e
    by_cases h0 : chL m d (chR m d x) = 0
    · rw [e, h0]
    · rw [← e] at hbm h0; exact absurd (hbm h0) h4
  have r1 := R.pr x
  have r2 := R.pr (chR m d x)
  have r3 := R.chl x
  have r4 := R.chl (chR m d x)
  have r5 := R.chr x
  have r6 := R.chr (chR m d x)
  have hyx : chR m d x ≠ x := fun e => hxy e.symm
  simp only [if_true, hxy, hyx, if_false, hpx, hxp, hyp, false_and] at r1 r2 r3 r4 r5 r6
  refine ⟨m', h', hrot, ?_, R.size, R.cl, R.key, ?_⟩
  · rw [heyid]
    refine hz.replace ?_ ?_ ?_ (by exact hnd')
    · simp only [Shape_mkNode]
      refine ⟨hy0, ?_, by rw [R.cl]; exact hcy, r2, ⟨?_, ?_, by rw [r4, R.cl]; exact hcx, ?_, ?_, ?_⟩, ?_⟩
      · rw [hey]; simp [elemAt, R.key]
      · rw [r4]; exact hx0
      · rw [r4, hex]; simp [elemAt, R.key]
      · rw [r4]; exact r1
      · rw [r4, r3]
        exact hsa.frame (fun z hz' => agree_of z (dA z hz').1 (dA z hz').2.1 (dA z hz').2.2.1 (dA z hz').2.2.2)
      · rw [r4, r5]
        refine hsb.reparent hbn (fun z hz' hne => ?_) (fun h0 => ?_)
        · exact R.agree (dB z hz').1 (dB z hz').2.1 (by rw [hpx]; exact (dB z hz').2.2) (fun e => absurd e hne)
        · have hb := dB _ (hbm h0)
          have r7 := R.pr (chL m d (chR m d x))
          simp only [hb.1, hb.2.1, if_false, h0, ne_eq, not_false_eq_true, and_self, if_true] at r7
          exact ⟨r7, R.agree_child hb.1 hb.2.1 (by rw [hpx]; exact hb.2.2)⟩
      · rw [r6]
        exact hsc.frame (fun z hz' => agree_of z (dC z hz').1 (dC z hz').2.1 (dC z hz').2.2.1 (dC z hz').2.2.2)
    · intro z hz' hzp
      exact agree_of z (dK z hz').1 (dK z hz').2.1 hzp (dK z hz').2.2
    · refine hz.slotUpdD hx0 d (by rw [R.root, hpx]) (fun hp0 => ?_) (fun hp0 => ?_) (fun hp0 => ?_)
        (by rw [R.cl]) (by rw [R.key])
      · simp only [R.chl p, hpx, hyp.symm, hp0, if_false, true_and, ne_eq, not_false_eq_true]
      · simp only [R.chr p, hpx, hxp.symm, hp0, if_false, true_and, ne_eq, not_false_eq_true]
      · have hpb : ¬(p = chL m d (chR m d x) ∧ p ≠ 0) := fun e => hsb.root_ne (fun hb => hnp (by simp [hb]) rfl) e.2 e.1
        simp only [R.pr p, hpx, hxp.symm, hyp.symm, hpb, if_false]
  · intro z h1 h2 h3 h4
    exact agree_of z h1 (by rw [← heyid]; exact h2) h3 h4
end Cstl.TreeL
