import Cstl.TreeL.Path
/-
Functional side of the red-black erase: the recursion of `del` / `popMin` on
the way back up is `unwindD` over the context of the node that was unlinked.
-/
namespace Cstl.TreeL
open Cstl.Tree (Color Elem Tree)
open Cstl.Tree.Color Cstl.Tree.Tree
open Cstl.Tree

/-- what the recursion of `del` does on the way back up through a context -/
def unwindD : Ctx → Tree × Bool → Option (Tree × Bool)
  | [], res => some res
  | .L c e r :: k, res => (afterL c e r res).bind (unwindD k)
  | .R c l e :: k, res => (afterR c l e res).bind (unwindD k)

theorem unwindD_false (k : Ctx) (t : Tree) : unwindD k (t, false) = some (plug k t, false) := by
  induction k generalizing t with
  | nil => rfl
  | cons f k ih => cases f <;> simp [unwindD, afterL, afterR, ih]

theorem unwindD_append (k1 k2 : Ctx) (res : Tree × Bool) :
    unwindD (k1 ++ k2) res = (unwindD k1 res).bind (unwindD k2) := by
  induction k1 generalizing res with
  | nil => simp [unwindD]
  | cons f k ih =>
    cases f with
    | L c e r =>
      simp only [List.cons_append, unwindD]
      cases afterL c e r res <;> simp [ih]
    | R c l e =>
      simp only [List.cons_append, unwindD]
      cases afterR c l e res <;> simp [ih]

theorem del_plug {key : Int} (k : Ctx) : ∀ (t : Tree), DelPath key k →
    del key (plug k t) = (del key t).bind (unwindD k) := by
  induction k with
  | nil => intro t _; simp [unwindD]
  | cons f k ih =>
    intro t hp
    cases f with
    | L c e r =>
      obtain ⟨h1, h2, h3⟩ := hp
      rw [plug_L, ih _ h3]
      simp only [del, h1, h2, if_false, if_true, unwindD]
      cases del key t <;> simp
    | R c l e =>
      obtain ⟨h1, h2, h3⟩ := hp
      rw [plug_R, ih _ h3]
      simp only [del, h1, h2, if_false, unwindD]
      cases del key t <;> simp

theorem del_found {key : Int} {K : Ctx} {c : Color} {l r : Tree} {e : Elem} (hp : DelPath key K) (hk : key = e.key) :
    del key (plug K (.node c l e r)) = (delRoot c l e r).bind (unwindD K) := by
  rw [del_plug K _ hp]; simp [del, hk]

/-- `popMin` on a non-empty tree: unlink the leftmost node, then fix up along the left spine -/
theorem popMin_eq {cy : Color} {ye : Elem} {ry : Tree} : ∀ (l : Tree) (c : Color) (e : Elem) (r : Tree),
    minSub (.node c l e r) = .node cy .nil ye ry →
    popMin c e r l = (unwindD (spine (.node c l e r)) (removeOne cy ry)).map (fun res => (ye, res))
  | .nil, c, e, r, hm => by
    simp only [minSub, Tree.node.injEq] at hm
    obtain ⟨rfl, _, rfl, rfl⟩ := hm
    simp [popMin, spine, unwindD]
  | .node lc ll le lr, c, e, r, hm => by
    simp only [minSub] at hm
    simp only [popMin, popMin_eq ll lc le lr hm, spine, unwindD_append]
    cases unwindD (spine (.node lc ll le lr)) (removeOne cy ry) with
    | none => simp
    | some res =>
      simp only [Option.map_some, Option.bind_some, unwindD]
      cases afterL c e r res <;> simp

theorem delRoot_one (c : Color) (l r : Tree) (e : Elem) (hone : l = .nil ∨ r = .nil) :
    delRoot c l e r = some (removeOne c (onlyChild l r)) := by
  rcases hone with rfl | rfl
  · rfl
  · cases l <;> rfl

theorem delRoot_two (c : Color) {l r ry : Tree} (e : Elem) {cy : Color} {ye : Elem} (hl : l ≠ .nil) (hr : r ≠ .nil)
    (hm : minSub r = .node cy .nil ye ry) :
    delRoot c l e r = unwindD (spine r ++ [.R c l ye]) (removeOne cy ry) := by
  cases l with
  | nil => exact absurd rfl hl
  | node lc ll le lr =>
    cases r with
    | nil => exact absurd rfl hr
    | node rc rl re rr =>
      simp only [delRoot, popMin_eq rl rc re rr hm, unwindD_append]
      cases unwindD (spine (.node rc rl re rr)) (removeOne cy ry) with
      | none => simp
      | some res =>
        simp only [Option.map_some, Option.bind_some, unwindD]
        cases afterR c (.node lc ll le lr) ye res <;> simp

/-- `fixBL` / `fixBR`: `x` (short) on the `l`-side, sibling `w` (taken as black) on the `r`-side -/
def fixBD (d : Bool) (c : Color) (x : Tree) (e : Elem) (w : Tree) : Option (Tree × Bool) :=
  if d then fixBL c x e w else fixBR c w e x

/-- `fixL` / `fixR`, i.e. one whole call of `cstl_rbtree_fix_deletion` seen from the functional side: `x` (one
black node short) on the `l`-side of the node `e`, its sibling `w` of any colour on the `r`-side -/
def fixD (d : Bool) (c : Color) (x : Tree) (e : Elem) (w : Tree) : Option (Tree × Bool) :=
  if d then fixL c x e w else fixR c w e x

theorem unwindD_mkFrame (d : Bool) (c : Color) (e : Elem) (w : Tree) (K : Ctx) (x : Tree) :
    unwindD (mkFrame d c e w :: K) (x, true) = (fixD d c x e w).bind (unwindD K) := by
  cases d <;> rfl

theorem fixD_red (d : Bool) (c : Color) (x : Tree) (e we : Elem) (wn wf : Tree) :
    fixD d c x e (mkNode d red wn we wf) =
      (fixBD d red x e wn).map (fun r => (mkNode d black r.1 we wf, false)) := by
  cases d
  · simp only [fixD, fixBD, mkNode_false, fixR, Bool.false_eq_true, if_false]
    cases fixBR red wn e x <;> simp
  · simp only [fixD, fixBD, mkNode_true, fixL, if_true]
    cases fixBL red x e wn <;> simp

theorem fixD_notRed (d : Bool) (c : Color) (x : Tree) (e : Elem) (w : Tree) (hw : w.isRed = false) :
    fixD d c x e w = fixBD d c x e w := by
  cases d
  · simp only [fixD, fixBD, Bool.false_eq_true, if_false]
    cases w with
    | nil => rfl
    | node cw wl we wr => cases cw <;> simp [Tree.isRed] at hw <;> rfl
  · simp only [fixD, fixBD, if_true]
    cases w with
    | nil => rfl
    | node cw wl we wr => cases cw <;> simp [Tree.isRed] at hw <;> rfl

theorem fixBD_nil (d : Bool) (c : Color) (x : Tree) (e : Elem) : fixBD d c x e .nil = none := by
  cases d <;> rfl

/-- far nephew red -/
theorem fixBD_far (d : Bool) (c cw : Color) (x : Tree) (e we : Elem) (wn wf : Tree) (hf : wf.isRed = true) :
    fixBD d c x e (mkNode d cw wn we wf) = some (mkNode d c (mkNode d black x e wn) we wf.blacken, false) := by
  cases wf with
  | nil => simp [Tree.isRed] at hf
  | node cf fa fe fb =>
    cases cf <;> simp [Tree.isRed] at hf
    cases d <;> simp [fixBD, fixBL, fixBR, Tree.blacken]

/-- far nephew black, near nephew red -/
theorem fixBD_near (d : Bool) (c cw : Color) (x : Tree) (e we ne : Elem) (na nb wf : Tree) (hf : wf.isRed = false) :
    fixBD d c x e (mkNode d cw (mkNode d red na ne nb) we wf) =
      some (mkNode d c (mkNode d black x e na) ne (mkNode d black nb we wf), false) := by
  cases wf with
  | nil => cases d <;> simp [fixBD, fixBL, fixBR]
  | node cf fa fe fb =>
    cases cf <;> simp [Tree.isRed] at hf
    cases d <;> simp [fixBD, fixBL, fixBR]

/-- both nephews black (none of them red); at link level `fixDelCases_black` -/
theorem fixBD_none (d : Bool) (c cw : Color) (x : Tree) (e we : Elem) (wn wf : Tree) (hn : wn.isRed = false)
    (hf : wf.isRed = false) :
    fixBD d c x e (mkNode d cw wn we wf) = some (mkNode d black x e (mkNode d red wn we wf), c == black) := by
  cases wf with
  | nil =>
    cases wn with
    | nil => cases d <;> simp [fixBD, fixBL, fixBR]
    | node cn na ne nb =>
      cases cn <;> simp [Tree.isRed] at hn
      cases d <;> simp [fixBD, fixBL, fixBR]
  | node cf fa fe fb =>
    cases cf <;> simp [Tree.isRed] at hf
    cases wn with
    | nil => cases d <;> simp [fixBD, fixBL, fixBR]
    | node cn na ne nb =>
      cases cn <;> simp [Tree.isRed] at hn
      cases d <;> simp [fixBD, fixBL, fixBR]

end Cstl.TreeL
