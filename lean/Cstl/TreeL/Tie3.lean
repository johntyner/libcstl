import Cstl.Gen.TreeLC3
import Cstl.TreeL.Model
import Cstl.TreeL.Lemmas
import Cstl.TreeL.Foreach
import Cstl.Tree.Events
/-
Translator tie, part 3, for src/bintree.c: the entry points around the traversal.

`Cstl/Gen/TreeLC3.lean` is regenerated from /repo's current src/bintree.c by tools/c2lean_tree2.py on every
check run (tools/areas/hashtree_tie.py); the fixed theorems below are re-checked by the kernel against the
regenerated definitions.

No other Tie module is cited: each is re-elaborated against its own fresh translation.
-/
namespace Cstl.TreeL.Tie3
open Cstl.TreeL Cstl.Gen.TreeLC3
open Cstl.Tree (Color Elem Tree Ord Ev WSt walk doVisit events clearOrder)
open Cstl.Tree.Color Cstl.Tree.Tree

/-- the numbers of `cstl_bintree_visit_order_t` -/
def ordOf : Nat → Ord
  | 0 => .pre
  | 1 => .mid
  | 2 => .post
  | _ => .leaf

/-- the callback of the translated traversal that stands for a functional visit function: it logs the
visit, leaves the link memory alone and answers what `visit` answers -/
def visitL (visit : Nat → Elem → Ord → Int) (log : List Ev) (m : TM) (a o : Nat) : List Ev × TM × Int :=
  (log ++ [(elemAt m a, ordOf o)], m, visit log.length (elemAt m a) (ordOf o))

-- all that Foreach.lean is told of the translated recursion (no doc comment: `translator_tie` of tools/vlib.py
-- attributes an error to the last `theorem` line above its position)
theorem foreach_unfold {σ : Type} (v : σ → TM → Nat → Nat → σ × TM × Int) (fuel : Nat) (st : σ) (m : TM) (a : Nat)
    (d : Bool) :
    c_priv_cstl_bintree_foreach v (fuel + 1) st m a d =
      foreachStep v (c_priv_cstl_bintree_foreach v fuel) st m a d := rfl

theorem foreach_refines (visit : Nat → Elem → Ord → Int) (d : Bool) (m : TM) (t : Tree) :
    ∀ (a p : Nat) (log : List Ev) (fuel : Nat), Shape m a p t → a ≠ 0 → t.height ≤ fuel →
      c_priv_cstl_bintree_foreach (visitL visit) fuel log m a d =
        some ((walk d visit t (0, log)).2, m, (walk d visit t (0, log)).1) :=
  fun _ _ log _ hS ha hh =>
    foreach_walk (od := ordOf) (fun o => by cases o <;> rfl) (fun _ _ _ => rfl) (foreach_unfold (visitL visit)) log
      hS ha hh


/-- `cstl_bintree_foreach` on a memory that represents the tree `t`: the recursion started at the root
(`bt->root != NULL`) with fuel `t.height` makes exactly the visits of the functional `foreach` -/
theorem foreach_root_refines (visit : Nat → Elem → Ord → Int) (fwd : Bool) (m : TM) (h : Hd) (t : Tree)
    (ht : IsTree m h.root 0 t) (hroot : h.root ≠ 0) :
    c_priv_cstl_bintree_foreach (visitL visit) t.height [] m h.root fwd =
      some ((Cstl.Tree.foreach fwd visit t).2, m, (Cstl.Tree.foreach fwd visit t).1) :=
  foreach_refines visit fwd m t h.root 0 [] t.height ht.shape hroot (Nat.le_refl _)

/-- `cstl_bintree_foreach_visit`: node (= element, offset 0) and order go to the client function unchanged -/
theorem foreachVisit_tie {σ : Type} (visit : σ → TM → Nat → Nat → σ × TM × Int) :
    c_cstl_bintree_foreach_visit visit = visit := rfl

/-- `cstl_bintree_foreach(bt, visit, priv, dir)`: an empty tree is not visited; `FWD` runs the recursion with
the selector pair (left, right), `REV` with (right, left); any other `dir`: no visit, result 0 -/
theorem foreachEntry_tie {σ : Type} (visit : σ → TM → Nat → Nat → σ × TM × Int) (f1 f2 : Nat) (st : σ) (m : TM)
    (bt : Hd) (dir : Nat) :
    c_cstl_bintree_foreach visit f1 f2 st m bt dir =
      if bt.root = 0 then some (st, m, 0)
      else if dir = cstl_bintree_foreach_dir_fwd then c_priv_cstl_bintree_foreach visit f1 st m bt.root true
      else if dir = cstl_bintree_foreach_dir_rev then c_priv_cstl_bintree_foreach visit f2 st m bt.root false
      else some (st, m, 0) := by
  unfold c_cstl_bintree_foreach
  rw [foreachVisit_tie]
  by_cases hr : bt.root = 0
  · simp [hr]
  · rcases dir with _ | _ | n
    · simp only [ne_eq, hr, not_false_eq_true, if_true, if_false, cstl_bintree_foreach_dir_fwd]
      cases c_priv_cstl_bintree_foreach visit f1 st m bt.root true <;> rfl
    · simp only [ne_eq, hr, not_false_eq_true, if_true, if_false, cstl_bintree_foreach_dir_fwd,
        cstl_bintree_foreach_dir_rev, Nat.succ_ne_self]
      cases c_priv_cstl_bintree_foreach visit f2 st m bt.root false <;> rfl
    · simp [hr, cstl_bintree_foreach_dir_fwd, cstl_bintree_foreach_dir_rev]

/-- the number of a direction -/
def dirOf (fwd : Bool) : Nat := if fwd then cstl_bintree_foreach_dir_fwd else cstl_bintree_foreach_dir_rev

/-- `cstl_bintree_foreach` on a memory that represents the tree `t` (empty or not), in either direction:
exactly the visits and the result of the functional `Cstl.Tree.foreach` -/
theorem foreachEntry_refines (visit : Nat → Elem → Ord → Int) (fwd : Bool) (m : TM) (h : Hd) (t : Tree)
    (ht : IsTree m h.root 0 t) :
    c_cstl_bintree_foreach (visitL visit) t.height t.height [] m h (dirOf fwd) =
      some ((Cstl.Tree.foreach fwd visit t).2, m, (Cstl.Tree.foreach fwd visit t).1) := by
  rw [foreachEntry_tie]
  by_cases hr : h.root = 0
  · have : t = .nil := (ht.shape.zero_iff).1 hr
    subst this
    simp [hr, Cstl.Tree.foreach, walk]
  · rw [if_neg hr]
    cases fwd
    · simp only [dirOf, Bool.false_eq_true, if_false, cstl_bintree_foreach_dir_fwd, cstl_bintree_foreach_dir_rev,
        Nat.succ_ne_self, if_true]
      exact foreach_root_refines visit false m h t ht hr
    · simp only [dirOf, if_true]
      exact foreach_root_refines visit true m h t ht hr

/-- `__cstl_bintree_foreach` with a quiet callback on a memory that represents `t`: the callback is folded
over the complete visit list `Cstl.Tree.events`, the links are untouched, the result is 0 -/
theorem foreach_quiet {σ : Type} (v : σ → TM → Nat → Nat → σ × TM × Int) (m : TM) (hq : Quiet v m) (d : Bool)
    (t : Tree) : ∀ (a p : Nat) (st : σ) (fuel : Nat), Shape m a p t → a ≠ 0 → t.height ≤ fuel →
      c_priv_cstl_bintree_foreach v fuel st m a d = some (foldEv v m st (events d t), m, 0) :=
  fun _ _ st _ hS ha hh => Cstl.TreeL.foreach_quiet hq (foreach_unfold v) st hS ha hh

/-- `__cstl_bintree_clear_visit`: the client function is called exactly on the POST and the LEAF visit;
its result is ignored, the traversal always goes on -/
theorem clearVisit_tie {σ : Type} (clr : σ → TM → Nat → σ × TM) (st : σ) (m : TM) (a o : Nat) :
    c_priv_cstl_bintree_clear_visit clr st m a o =
      if o = ordCode .post ∨ o = ordCode .leaf then ((clr st m a).1, (clr st m a).2, 0) else (st, m, 0) := by
  unfold c_priv_cstl_bintree_clear_visit
  simp only [ordCode]
  by_cases h : o = 2 ∨ o = 3
  · simp only [h, if_true]
  · simp only [h, if_false]

/-- the client clear function that logs the element it is given and leaves the links alone -/
def clrL (log : List Elem) (m : TM) (a : Nat) : List Elem × TM := (log ++ [elemAt m a], m)

theorem clearVisit_quiet (m : TM) : Quiet (c_priv_cstl_bintree_clear_visit clrL) m := by
  intro st a o
  rw [clearVisit_tie]
  split <;> exact ⟨rfl, rfl⟩

theorem foldEv_clear (m : TM) : ∀ (evs : List Ev) (log : List Elem), (∀ ev ∈ evs, elemAt m ev.1.id = ev.1) →
    foldEv (c_priv_cstl_bintree_clear_visit clrL) m log evs =
      log ++ (evs.filter (fun ev => ev.2 = .post ∨ ev.2 = .leaf)).map (·.1)
  | [], log, _ => by simp [foldEv]
  | ev :: evs, log, h => by
    have h1 := h ev (by simp)
    have ih := foldEv_clear m evs
    simp only [foldEv, List.foldl_cons] at ih ⊢
    rw [ih _ (fun x hx => h x (by simp [hx])), clearVisit_tie]
    obtain ⟨x, o⟩ := ev
    cases o <;> simp_all [ordCode, clrL]

/-- `cstl_bintree_clear(bt, clr, priv)` on a memory that represents `t`: the client function gets exactly
`clearOrder t` (of which `Tree.clear_spec` says that it is a permutation of the elements held: every element
once), the links are not written, the header is re-initialised (`clearHd`: root NULL, size 0) -/
theorem clear_tie (m : TM) (h : Hd) (t : Tree) (hS : Shape m h.root 0 t) :
    c_cstl_bintree_clear clrL t.height [] m h = some (clearOrder t, m, clearHd h) := by
  unfold c_cstl_bintree_clear
  by_cases hr : h.root = 0
  · have : t = .nil := (hS.zero_iff).1 hr
    subst this
    simp [hr, clearHd, clearOrder, events]
  · simp only [ne_eq, hr, not_false_eq_true, if_true]
    rw [foreach_quiet _ m (clearVisit_quiet m) true t h.root 0 [] t.height hS hr (Nat.le_refl _),
      foldEv_clear m _ [] (shape_events_elem m true t _ _ hS)]
    simp [clearHd, hr, clearOrder]

/-- `a` has `k` nodes on its way up to the root through the parent links (itself included; NULL has 0) -/
inductive UpLen (m : TM) : Nat → Nat → Prop where
  | null : UpLen m 0 0
  | step {a k : Nat} : a ≠ 0 → UpLen m (m.pr a) k → UpLen m a (k + 1)

/-- the loop `for (h = 0; bn != NULL; h++, bn = bn->p) ;` of `__cstl_bintree_height` counts the nodes up to
the root -/
theorem upLoop_tie (m : TM) : ∀ (fuel a k h : Nat), UpLen m a k → k ≤ fuel →
    c_priv_cstl_bintree_height_loop1 m fuel h a = some (h + k, 0)
  | 0, a, k, h, hu, hk => by
    cases hu with
    | null => simp [c_priv_cstl_bintree_height_loop1]
    | step _ _ => omega
  | fuel + 1, a, k, h, hu, hk => by
    cases hu with
    | null => simp [c_priv_cstl_bintree_height_loop1]
    | step ha hu' =>
      rename_i k'
      unfold c_priv_cstl_bintree_height_loop1
      rw [if_pos ha, upLoop_tie m fuel _ k' (h + 1) hu' (by omega)]
      congr 2; omega

/-- (min, max) after the LEAF visits of the subtree `t` that hangs below `k` nodes -/
def stepH (k : Nat) (st : HeightP) (t : Tree) : HeightP :=
  if t.isNil then st else { min := min st.min (k + t.minLeaf), max := max st.max (k + t.height) }

theorem stepH_node (k : Nat) (st : HeightP) (c : Color) (l r : Tree) (e : Elem) (h : (l.isNil && r.isNil) = false) :
    stepH (k + 1) (stepH (k + 1) st l) r = stepH k st (.node c l e r) := by
  have e1 : ∀ x, k + 1 + x = k + (x + 1) := fun x => by omega
  cases l <;> cases r
  · cases h
  all_goals
    simp only [stepH, Tree.isNil, Tree.minLeaf, Tree.height, if_true, if_false, Bool.false_eq_true, e1, Nat.zero_max,
      Nat.max_zero, Nat.min_assoc, Nat.max_assoc, Nat.add_min_add_left, Nat.add_max_add_left, Nat.add_min_add_right,
      Nat.add_max_add_right]

/-- `__cstl_bintree_height` on a LEAF visit: the path length folded into min and max -/
theorem heightVisit_leaf (m : TM) (fuel a k : Nat) (st : HeightP) (hu : UpLen m a k) (hk : k ≤ fuel) :
    c_priv_cstl_bintree_height fuel st m a (ordCode .leaf) =
      some ({ min := min st.min k, max := max st.max k }, m, 0) := by
  unfold c_priv_cstl_bintree_height
  simp only [ordCode, if_true, upLoop_tie m fuel a k 0 hu hk, Nat.zero_add]
  have e1 : min st.min k = if k < st.min then k else st.min := by
    by_cases h : k < st.min
    · rw [if_pos h]; omega
    · rw [if_neg h]; omega
  have e2 : max st.max k = if k > st.max then k else st.max := by
    by_cases h : k > st.max
    · rw [if_pos h]; omega
    · rw [if_neg h]; omega
  rw [e1, e2]
  by_cases h1 : k < st.min <;> by_cases h2 : k > st.max <;> simp [h1, h2]

/-- `__cstl_bintree_height` on every other visit: nothing -/
theorem heightVisit_other (m : TM) (fuel a o : Nat) (st : HeightP) (ho : o ≠ ordCode .leaf) :
    c_priv_cstl_bintree_height fuel st m a o = some (st, m, 0) := by
  unfold c_priv_cstl_bintree_height
  simp only [ordCode] at ho
  simp [ho]

theorem ordCode_ne_leaf {o : Ord} (ho : o ≠ .leaf) : ordCode o ≠ ordCode .leaf := by
  cases o <;> simp_all [ordCode]

theorem heightVisit_frame (m : TM) (fuel a o : Nat) (st : HeightP) (r : HeightP × TM × Int)
    (h : c_priv_cstl_bintree_height fuel st m a o = some r) : r.2.1 = m ∧ r.2.2 = 0 := by
  unfold c_priv_cstl_bintree_height at h
  by_cases ho : o = 3
  · simp only [ho, if_true] at h
    cases hl : c_priv_cstl_bintree_height_loop1 m fuel 0 a with
    | none => simp [hl] at h
    | some l =>
      simp only [hl, Option.bind_eq_bind, Option.bind_some, Option.pure_def] at h
      split at h <;> (try simp only [Option.bind_some] at h) <;> split at h <;>
        (try simp only [Option.some.injEq] at h) <;> (subst h; exact ⟨rfl, rfl⟩)
  · simp only [ho, if_false] at h
    cases h; exact ⟨rfl, rfl⟩

theorem heightVisit_quiet (m : TM) (fuel : Nat) : Quiet (liftVisit (c_priv_cstl_bintree_height fuel)) m := by
  intro st a o
  cases st with
  | none => exact ⟨rfl, rfl⟩
  | some hp =>
    simp only [liftVisit]
    cases hv : c_priv_cstl_bintree_height fuel hp m a o with
    | none => exact ⟨rfl, rfl⟩
    | some r => exact heightVisit_frame m fuel a o hp r hv

/-- the LEAF visits of the subtree `t` below a node with `k` nodes above it fold (shortest, longest) root-to-leaf
path into (min, max) -/
theorem foldEv_height (m : TM) (fuel : Nat) (t : Tree) : ∀ (a p k : Nat) (hp : HeightP), Shape m a p t →
    UpLen m p k → k + t.height ≤ fuel →
    foldEv (liftVisit (c_priv_cstl_bintree_height fuel)) m (some hp) (events true t) = some (stepH k hp t) := by
  induction t with
  | nil => intro a p k hp _ _ _; rfl
  | node c l e r ihl ihr =>
    intro a p k hp hS hu hk
    simp only [Shape_node] at hS
    obtain ⟨ha, he, _, hpa, hl, hr⟩ := hS
    have hid : e.id = a := by rw [he]; rfl
    have hua : UpLen m a (k + 1) := UpLen.step ha (hpa ▸ hu)
    simp only [Tree.height] at hk
    have other : ∀ (st : HeightP) (o : Ord), o ≠ .leaf →
        (liftVisit (c_priv_cstl_bintree_height fuel) (some st) m a (ordCode o)).1 = some st := by
      intro st o ho
      simp only [liftVisit]
      rw [heightVisit_other m fuel a (ordCode o) st (ordCode_ne_leaf ho)]
    have subL := fun st => ihl _ _ (k + 1) st hl hua (by omega)
    have subR := fun st => ihr _ _ (k + 1) st hr hua (by omega)
    simp only [events]
    by_cases hleaf : (l.isNil && r.isNil) = true
    · obtain ⟨rfl, rfl⟩ := Cstl.Tree.nil_of_isNil_and hleaf
      simp only [Tree.isNil, Bool.and_self, if_true, foldEv, List.foldl_cons, List.foldl_nil, hid, liftVisit,
        heightVisit_leaf m fuel a (k + 1) hp hua (by omega), stepH, Tree.minLeaf, Tree.height, Bool.false_eq_true,
        if_false]
      congr 2 <;> omega
    · simp only [hleaf, Bool.false_eq_true, if_false, if_true]
      have step : ∀ (st : Option HeightP) (o : Ord) (rest : List Ev),
          foldEv (liftVisit (c_priv_cstl_bintree_height fuel)) m st ((e, o) :: rest) =
            foldEv (liftVisit (c_priv_cstl_bintree_height fuel)) m
              ((liftVisit (c_priv_cstl_bintree_height fuel) st m a (ordCode o)).1) rest := by
        intro st o rest; simp [foldEv, hid]
      rw [foldEv_append, foldEv_append, step (some hp) .pre, other hp .pre (by simp), subL, step (some _) .mid,
        other _ .mid (by simp), subR, step (some _) .post, other _ .post (by simp),
        stepH_node k hp c l r e (Bool.eq_false_iff.mpr hleaf)]
      rfl

/-- `cstl_bintree_height(bt, &min, &max)` on a memory that represents `t`: min = nodes on the shortest
root-to-leaf path (`Tree.minLeaf`), max = on the longest (`Tree.height`); (0, 0) for an empty tree.
(`min` starts at SIZE_MAX: the statement needs `t.minLeaf ≤ SIZE_MAX`.) -/
theorem height_tie (m : TM) (h : Hd) (t : Tree) (f1 f2 : Nat) (hS : Shape m h.root 0 t)
    (h1 : t.height ≤ f1) (h2 : t.height ≤ f2) (hsz : t.minLeaf ≤ 18446744073709551615) :
    c_cstl_bintree_height f1 f2 m h = some (m, t.minLeaf, t.height) := by
  unfold c_cstl_bintree_height
  by_cases hr : h.root = 0
  · have : t = .nil := (hS.zero_iff).1 hr
    subst this
    simp [hr, Tree.minLeaf, Tree.height]
  · simp only [ne_eq, hr, not_false_eq_true, if_true]
    rw [foreach_quiet _ m (heightVisit_quiet m f1) true t h.root 0 _ f2 hS hr h2,
      foldEv_height m f1 t h.root 0 0 _ hS UpLen.null (by omega)]
    have hnil : t.isNil = false := Bool.eq_false_iff.mpr (mt hS.isNil_iff.1 hr)
    simp only [stepH, hnil, Bool.false_eq_true, if_false, Option.bind_eq_bind, Option.bind_some, Option.pure_def,
      Nat.zero_add]
    have e1 : min 18446744073709551615 t.minLeaf = t.minLeaf := by omega
    have e2 : max 0 t.height = t.height := by omega
    rw [e1, e2]

/-- `cstl_bintree_swap(a, b)`: the two headers trade places -/
theorem swap_tie (a b : Hd) : c_cstl_bintree_swap a b = (b, a) := rfl

/-- … and so do the trees they root (nothing else has to move: the root's parent link is NULL) -/
theorem swap_trees (m : TM) (a b : Hd) (ta tb : Tree) (ha : Shape m a.root 0 ta) (hb : Shape m b.root 0 tb) :
    Shape m (c_cstl_bintree_swap a b).1.root 0 tb ∧ Shape m (c_cstl_bintree_swap a b).2.root 0 ta ∧
      (c_cstl_bintree_swap a b).1.size = b.size ∧ (c_cstl_bintree_swap a b).2.size = a.size :=
  ⟨hb, ha, rfl, rfl⟩

/-- the memory with the `l` and `r` links of every node exchanged -/
def mirrorM (m : TM) : TM := { m with lf := m.rt, rt := m.lf }

theorem chL_mirror (m : TM) (d : Bool) (a : Nat) : chL (mirrorM m) d a = chL m (!d) a := by cases d <;> rfl

theorem slideLoop_mirror (m : TM) (d : Bool) : ∀ (fuel bn c : Nat),
    c_cstl_bintree_slide_loop1 (mirrorM m) d fuel bn c = c_cstl_bintree_slide_loop1 m (!d) fuel bn c
  | 0, bn, c => by simp only [c_cstl_bintree_slide_loop1, chL_mirror]
  | fuel + 1, bn, c => by
    simp only [c_cstl_bintree_slide_loop1, chL_mirror]
    split
    · exact slideLoop_mirror m d fuel _ _
    · rfl

theorem adjLoop_mirror (m : TM) (d : Bool) : ∀ (fuel bn : Nat),
    c_priv_cstl_bintree_adjacent_loop1 (mirrorM m) d fuel bn = c_priv_cstl_bintree_adjacent_loop1 m (!d) fuel bn
  | 0, bn => by
    simp only [c_priv_cstl_bintree_adjacent_loop1, chL_mirror]; rfl
  | fuel + 1, bn => by
    simp only [c_priv_cstl_bintree_adjacent_loop1, chL_mirror]
    have hp : (mirrorM m).pr = m.pr := rfl
    simp only [hp]
    split
    · exact adjLoop_mirror m d fuel _
    · rfl

/-- `__cstl_bintree_adjacent` with the selector pair exchanged is `__cstl_bintree_adjacent` on the mirrored memory -/
theorem adjacent_mirror (m : TM) (f1 f2 bn : Nat) (d : Bool) :
    c_priv_cstl_bintree_adjacent f1 f2 m bn (!d) =
      (c_priv_cstl_bintree_adjacent f1 f2 (mirrorM m) bn d).map (fun r => (m, r.2)) := by
  unfold c_priv_cstl_bintree_adjacent c_cstl_bintree_slide
  have hp : (mirrorM m).pr = m.pr := rfl
  simp only [chL_mirror, slideLoop_mirror, adjLoop_mirror, hp]
  split
  · cases c_cstl_bintree_slide_loop1 m (!!d) f1 (chL m (!d) bn) 0 <;> rfl
  · cases c_priv_cstl_bintree_adjacent_loop1 m (!d) f2 bn <;> rfl

/-- `__cstl_bintree_prev` is `__cstl_bintree_next` on the mirrored memory (same node, links untouched) -/
theorem prev_mirror (m : TM) (f1 f2 bn : Nat) :
    c_priv_cstl_bintree_prev f1 f2 m bn = (c_priv_cstl_bintree_next f1 f2 (mirrorM m) bn).map (fun r => (m, r.2)) :=
  adjacent_mirror m f1 f2 bn false

/-- the loop of `cstl_bintree_slide` is the model's `slide` -/
theorem slide_tie (m : TM) (d : Bool) (fuel a c : Nat) (r : Nat) (hr : slide m d fuel a = some r) :
    c_cstl_bintree_slide_loop1 m d fuel a c = some (r, 0) := by
  induction fuel generalizing a c with
  | zero =>
    unfold slide at hr
    unfold c_cstl_bintree_slide_loop1
    split at hr
    · rename_i hc; cases hr; simp [hc]
    · cases hr
  | succ f ih =>
    unfold slide at hr
    unfold c_cstl_bintree_slide_loop1
    split at hr
    · rename_i hc; cases hr; simp [hc]
    · rename_i hc
      simp only [ne_eq, hc, not_false_eq_true, if_true]
      exact ih _ _ hr

/-- `__cstl_bintree_prev(bn)` under `bn->l != NULL`: the slide to the rightmost node of the left subtree
(mirror image of `next_tie` of Tie2.lean) -/
theorem prev_tie (m : TM) (fuel f2 bn y : Nat) (hlf : m.lf bn ≠ 0) (hs : slide m false fuel (m.lf bn) = some y) :
    c_priv_cstl_bintree_prev fuel f2 m bn = some (m, y) := by
  unfold c_priv_cstl_bintree_prev c_priv_cstl_bintree_adjacent c_cstl_bintree_slide
  have h1 : chL m true bn = m.lf bn := rfl
  simp only [h1, if_pos hlf, Bool.not_true]
  rw [slide_tie m false fuel (m.lf bn) 0 y hs]

/-! ### the hypotheses are satisfiable: a three-node tree  2 ← 1 → 3  (root 1) -/

def exM : TM :=
  { pr := fun x => if x = 2 ∨ x = 3 then 1 else 0, lf := fun x => if x = 1 then 2 else 0,
    rt := fun x => if x = 1 then 3 else 0, cl := fun _ => .black, key := fun x => (x : Int) }
def exT : Tree :=
  .node .black (.node .black .nil (elemAt exM 2) .nil) (elemAt exM 1) (.node .black .nil (elemAt exM 3) .nil)
def exH : Hd := { root := 1, size := 3 }

theorem exShape : Shape exM exH.root 0 exT := by simp [Shape, exT, exH, exM]

example : c_cstl_bintree_clear clrL 2 [] exM exH =
    some ([elemAt exM 2, elemAt exM 3, elemAt exM 1], exM, { root := 0, size := 0 }) :=
  clear_tie exM exH exT exShape
example : c_cstl_bintree_height 2 2 exM exH = some (exM, 2, 2) :=
  height_tie exM exH exT 2 2 exShape (by decide) (by decide) (by decide)

end Cstl.TreeL.Tie3
