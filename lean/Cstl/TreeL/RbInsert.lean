import Cstl.TreeL.Dir
import Cstl.TreeL.Insert
/-
cstl_rbtree_insert at link level: one call of cstl_rbtree_fix_insertion is the
grandparent level of the functional `balInsL` / `balInsR`; the loop is the way
back up of the recursion (`unwind`).
-/
namespace Cstl.TreeL
open Cstl.SList (Mem upd upd_same upd_other)
open Cstl.Tree (Color Elem Tree InsRes)
open Cstl.Tree.Color Cstl.Tree.Tree

/-- the two outcomes of one call of `cstl_rbtree_fix_insertion` -/
def InsStep (m' : TM) (h' : Hd) (x' : Nat) (K : Ctx) (res : InsRes) (old : Tree) : Prop :=
  (∃ p' a' e' b', Zip m' h'.root K x' p' (.node red a' e' b') ∧ res = unwind K (.newRed a' e' b') ∧
      (∀ z, z ∈ (plug K (.node red a' e' b')).ids ↔ z ∈ (plug K old).ids)) ∨
  (∃ top p' T, Zip m' h'.root K top p' T ∧ res = .ok (plug K T) ∧ m'.cl (m'.pr x') = black ∧
      (∀ z, z ∈ (plug K T).ids ↔ z ∈ (plug K old).ids))

/-- one call of `cstl_rbtree_fix_insertion(t, x, l, r)` below `K`: it finishes, keeps the size and the keys, writes
only nodes of `old` and of `K`, and ends in one of the two outcomes -/
abbrev FixInsOk (m : TM) (h : Hd) (x : Nat) (d : Bool) (K : Ctx) (res : InsRes) (old : Tree) : Prop :=
  ∃ m' h' x', fixInsertion m h x d = some (m', h', x') ∧ h'.size = h.size ∧ m'.key = m.key ∧
    (∀ z, z ≠ 0 → z ∉ (plug K old).ids → Agree m m' z) ∧ InsStep m' h' x' K res old

/-- `cstl_rbtree_fix_insertion`, red uncle: three colour writes, `x = x->p->p`; the loop goes on from the
grandparent (first alternative of `InsStep`) -/
theorem fixIns_redUncle {m : TM} {h : Hd} {K : Ctx} {x p : Nat} {d' d : Bool} {cg : Color} {pe ge xe : Elem}
    {ps u a b : Tree}
    (hz : Zip m h.root (mkFrame d' red pe ps :: mkFrame d cg ge u :: K) x p (.node red a xe b))
    (hu : u.isRed = true) :
    FixInsOk m h x d K (unwind (mkFrame d' red pe ps :: mkFrame d cg ge u :: K) (.newRed a xe b))
      (mkNode d cg (mkNode d' red (.node red a xe b) pe ps) ge u) := by
  have hx0 : x ≠ 0 := hz.sub.ne_zero
  have hpx := hz.pr_focus hx0
  obtain ⟨hp0, hpid, hpc, hpl, hps, hpr⟩ := hz.frameD
  have Zp := hz.upD
  obtain ⟨hg0, hgid, hgc, hgl, hgu, hgr⟩ := Zp.frameD
  have hy := (isRed_iff hgu).mp hu
  cases u with
  | nil => simp [Tree.isRed] at hu
  | node cu ul ue ur =>
  have hcu : cu = red := by cases cu <;> simp [Tree.isRed] at hu ⊢
  subst hcu
  have Z1 := (Zp.setC_rootD black).upD
  have Z2 := (Z1.downD'.setC_root black).upD
  rw [mkNode_not] at Z2
  have Z3 := Z2.setC_rootD red
  have hfun := unwind_redUncle d' d cg pe ge ps (.node red ul ue ur) a b xe K hu
  refine ⟨setC (setC (setC m p black) (chR m d (m.pr p)) black) (m.pr p) red, h, m.pr p, ?_, rfl, rfl, ?_, Or.inl ?_⟩
  · simp only [fixInsertion, hpx, hp0, hg0, if_false, hy, ne_eq, not_false_eq_true, and_self, if_true]
  · intro z _ hzt
    have hz' := (not_or.mp (mt mem_plug_ids.mpr hzt)).1
    simp only [mem_mkNode_ids, hgid, hpid, not_or] at hz'
    have hym : chR m d (m.pr p) ∈ (Tree.node red ul ue ur).ids := hgu.root_mem hy.1
    refine ((Agree.setC black (z := z) ?_).trans (Agree.setC black ?_)).trans (Agree.setC red ?_)
    · exact hz'.2.1.1
    · intro e'; exact hz'.2.2 (e' ▸ hym)
    · exact hz'.1
  · -- the same nodes in a new arrangement; `d` has to be concrete for `mkNode d red …` to be a `.newRed`
    cases d <;> exact ⟨_, _, _, _, Z3, by rw [hfun]; rfl,
      mem_plug_congr fun z => by simp only [mem_mkNode_ids, Cstl.Tree.ids_node, List.mem_append, List.mem_cons]; grind⟩

/-- the end both black-uncle cases share, `x->p->c = B; x->p->p->c = R; rotate(t, x->p->p, r, l)`, seen from the
parent `p` of `x`: `p` is red, `x` (the root of `X`) its `l`-side child, the uncle `u` hangs on the other side of `g` -/
theorem fixIns_tail {m : TM} {h : Hd} {K : Ctx} {p g : Nat} {d : Bool} {cg : Color} {pe ge : Elem} {X ps u : Tree}
    (Zp : Zip m h.root (mkFrame d cg ge u :: K) p g (mkNode d red X pe ps)) (hx0 : chL m d p ≠ 0) :
    ∃ m' h' gp, rotate (setC (setC m p black) g red) h g (!d) = some (m', h') ∧ h'.size = h.size ∧ m'.key = m.key ∧
      Zip m' h'.root K pe.id gp (mkNode d black X pe (mkNode d red ps ge u)) ∧
      m'.cl (m'.pr (chL m d p)) = black ∧
      (∀ z, z ≠ 0 → z ∉ (plug K (mkNode d cg (mkNode d red X pe ps) ge u)).ids → Agree m m' z) := by
  have hsp := Zp.sub
  rw [Shape_mkNode] at hsp
  obtain ⟨hp0, hpe, _, _, hsX, _⟩ := hsp
  have hpid : pe.id = p := by simp [hpe]
  obtain ⟨hg0, hgid, _, _, _, _⟩ := Zp.frameD
  have Z1 := ((Zp.setC_rootD black).upD).setC_rootD red
  have e1 : mkNode d red (mkNode d black X pe ps) ge u = mkNode (!d) red u ge (mkNode (!d) black ps pe X) := by
    simp [mkNode_not]
  rw [e1] at Z1
  obtain ⟨m', h', hrot, Z2, hsz, hcl, hkey, hfr⟩ := rotate_spec (h := h) Z1
  have e2 : mkNode (!d) black (mkNode (!d) red u ge ps) pe X = mkNode d black X pe (mkNode d red ps ge u) := by
    simp [mkNode_not]
  rw [e2] at Z2
  refine ⟨m', h', _, hrot, hsz, hkey, Z2, ?_, ?_⟩
  · have Zx := Z2.downD
    have hxa : chL m' d pe.id = chL m d p := by
      cases X with
      | nil => exact absurd hsX hx0
      | node c a e b => exact Zx.sub.id_eq.symm.trans hsX.id_eq
    rw [hxa] at Zx
    rw [Zx.pr_focus hx0]
    exact Zx.frameD.2.2.1
  · intro z hz0 hzt
    obtain ⟨hz', hzk⟩ := not_or.mp (mt mem_plug_ids.mpr hzt)
    simp only [mem_mkNode_ids, hgid, hpid, not_or] at hz'
    exact ((Agree.setC black (z := z) hz'.2.1.1).trans (Agree.setC red hz'.1)).trans
      (hfr z hz'.1 (by rw [hpid]; exact hz'.2.1.1) (Z1.parent_ne hz0 hzk) hz'.2.1.2.2)

/-- `cstl_rbtree_fix_insertion`, black uncle, `x` the `l`-side child of `p`: recolour, one `rotate(t, g, r, l)`;
the parent of `x` is black afterwards and the loop ends (second alternative of `InsStep`) -/
theorem fixIns_outer {m : TM} {h : Hd} {K : Ctx} {x p : Nat} {d : Bool} {cg : Color} {pe ge xe : Elem}
    {ps u a b : Tree}
    (hz : Zip m h.root (mkFrame d red pe ps :: mkFrame d cg ge u :: K) x p (.node red a xe b))
    (hu : u.isRed = false) :
    FixInsOk m h x d K (unwind (mkFrame d red pe ps :: mkFrame d cg ge u :: K) (.newRed a xe b))
      (mkNode d cg (mkNode d red (.node red a xe b) pe ps) ge u) := by
  have hx0 : x ≠ 0 := hz.sub.ne_zero
  have hpx := hz.pr_focus hx0
  obtain ⟨hp0, hpid, hpc, hpl, hps, hpr⟩ := hz.frameD
  have Zp := hz.upD
  obtain ⟨hg0, hgid, hgc, hgl, hgu, hgr⟩ := Zp.frameD
  have hy : ¬ (chR m d (m.pr p) ≠ 0 ∧ m.cl (chR m d (m.pr p)) = red) := by
    rw [← isRed_iff hgu, hu]; simp
  have hxr : x ≠ chR m d p := fun e' => hpr hx0 e'.symm
  obtain ⟨m', h', gp, hrot, hsz, hkey, Z2, hblk, hfr⟩ := fixIns_tail Zp (by rw [hpl]; exact hx0)
  rw [hpl] at hblk
  refine ⟨m', h', x, ?_, hsz, hkey, hfr,
    Or.inr ⟨_, _, _, Z2, unwind_outer d cg pe ge ps u a b xe K hu, hblk, ?_⟩⟩
  · simp only [fixInsertion, hpx, hp0, hg0, if_false, hy, hxr, setC_pr, hrot]
  · exact mem_plug_congr fun z => by
      simp only [mem_mkNode_ids, Cstl.Tree.ids_node, List.mem_append, List.mem_cons]; grind

/-- `cstl_rbtree_fix_insertion`, black uncle, `x == *r(x->p)`: `x = x->p; rotate(t, x, l, r)` first; then `p` is
the `l`-side child of `x`, and the rest is `fixIns_tail` seen from `x` -/
theorem fixIns_inner {m : TM} {h : Hd} {K : Ctx} {x p : Nat} {d : Bool} {cg : Color} {pe ge xe : Elem}
    {ps u xa xb : Tree}
    (hz : Zip m h.root (mkFrame (!d) red pe ps :: mkFrame d cg ge u :: K) x p (mkNode d red xa xe xb))
    (hu : u.isRed = false) :
    FixInsOk m h x d K
      (unwind (mkFrame (!d) red pe ps :: mkFrame d cg ge u :: K) (if d then .newRed xa xe xb else .newRed xb xe xa))
      (mkNode d cg (mkNode (!d) red (mkNode d red xa xe xb) pe ps) ge u) := by
  have hs := hz.sub
  rw [Shape_mkNode] at hs
  have hx0 : x ≠ 0 := hs.1
  have hxid : xe.id = x := by simp [hs.2.1]
  have hpx := hz.pr_focus hx0
  obtain ⟨hp0, hpid, hpc, hpl, hps, hpr⟩ := hz.frameD
  have Zp := hz.upD
  obtain ⟨hg0, hgid, hgc, hgl, hgu, hgr⟩ := Zp.frameD
  have hy : ¬ (chR m d (m.pr p) ≠ 0 ∧ m.cl (chR m d (m.pr p)) = red) := by
    rw [← isRed_iff hgu, hu]; simp
  have hxr : x = chR m d p := by rw [← hpl]; cases d <;> rfl
  rw [mkNode_not] at Zp
  obtain ⟨m1, h1, hrot1, Zr, hsz1, hcl1, hkey1, hfr1⟩ := rotate_spec (h := h) Zp
  rw [hxid] at Zr
  -- after the first rotation x is where p was, p is its `l`-side child
  have hpa : chL m1 d x = p := by rw [← hpid]; exact Zr.downD.sub.id_eqD.symm
  have hpp1 : m1.pr p = x := by have := Zr.downD.pr_focus (hpa ▸ hp0); rwa [hpa] at this
  have hgx1 : m1.pr x = m.pr p := Zr.pr_focus hx0
  obtain ⟨m', h', gp, hrot, hsz, hkey, Z2, hblk, hfr⟩ := fixIns_tail Zr (by rw [hpa]; exact hp0)
  rw [hpa] at hblk
  have hold : ∀ z, z ∈ (plug K (mkNode d cg (mkNode d red (mkNode d red ps pe xa) xe xb) ge u)).ids ↔
      z ∈ (plug K (mkNode d cg (mkNode (!d) red (mkNode d red xa xe xb) pe ps) ge u)).ids :=
    mem_plug_congr fun z => by simp only [mem_mkNode_ids]; grind
  refine ⟨m', h', p, ?_, by rw [hsz, hsz1], by rw [hkey, hkey1], ?_,
    Or.inr ⟨_, _, _, Z2, unwind_inner d cg pe ge ps u xa xb xe K hu, hblk, ?_⟩⟩
  · simp only [fixInsertion, hpx, hp0, hg0, if_false, hy, hxr.symm, if_true, hrot1, hpp1, hx0, setC_pr, hgx1]
    simp only [hrot]
  · intro z hz0 hzt
    obtain ⟨hz', hzk⟩ := not_or.mp (mt mem_plug_ids.mpr hzt)
    simp only [mem_mkNode_ids, hgid, hpid, hxid, not_or] at hz'
    exact (hfr1 z hz'.2.1.1 (by rw [hxid]; exact hz'.2.1.2.1.1) hz'.1 hz'.2.1.2.1.2.1).trans
      (hfr z hz0 (mt (hold z).mp hzt))
  · exact mem_plug_congr fun z => by simp only [mem_mkNode_ids]; grind

/-- painting the root black (`*BN_COLOR(t->root) = B`) -/
theorem IsTree.blacken_root {m : TM} {root : Nat} {t : Tree} (h : IsTree m root 0 t) :
    IsTree (setC m root black) root 0 t.blacken := by
  cases t with
  | nil =>
    refine ⟨?_, h.nodup⟩
    have : root = 0 := h.shape
    simp [Tree.blacken, this]
  | node c l e r => exact ((Zip.of_isTree h).setC_root black).isTree_nil

theorem insFixLoop_exit {m : TM} {h : Hd} {x : Nat} (fuel : Nat)
    (hc : ¬ (m.pr x ≠ 0 ∧ m.cl (m.pr x) = red)) : insFixLoop fuel m h x = some (m, h) := by
  cases fuel <;> simp only [insFixLoop, hc, if_false]

/-- the loop stops (the parent of `x` is not red) on a non-empty tree: the root is there to be painted black, and
nothing outside the tree is written -/
theorem insFixLoop_exit_blacken {m : TM} {h : Hd} {T : Tree} {x y : Nat} (ht : IsTree m h.root 0 T) (hy : y ∈ T.ids)
    (hc : ¬ (m.pr x ≠ 0 ∧ m.cl (m.pr x) = red)) (fuel : Nat) :
    insFixLoop fuel m h x = some (m, h) ∧ h.root ≠ 0 ∧ IsTree (setC m h.root black) h.root 0 T.blacken ∧
      ∀ z, z ∉ T.ids → Agree m (setC m h.root black) z :=
  have hr := ht.shape.ne_zero_of_mem hy
  ⟨insFixLoop_exit fuel hc, hr, ht.blacken_root, fun _ hz => Agree.setC black fun e => hz (e ▸ ht.shape.root_mem hr)⟩

/-- the insert fix-up loop (upward navigation through `p`): from a red node `x` at the focus it
finishes and, after the root is painted black, the memory represents what the recursion of the
functional `ins` returns on its way back up -/
theorem rb_fix_insertion_loop_refines (fuel : Nat) (K : Ctx) (m : TM) (h : Hd) (x p : Nat) (a b : Tree)
    (xe : Elem) (T : Tree) (hlen : K.length ≤ fuel) (hz : Zip m h.root K x p (.node red a xe b))
    (hfin : Cstl.Tree.finishIns (unwind K (.newRed a xe b)) = some T) :
    ∃ m' h', insFixLoop fuel m h x = some (m', h') ∧ h'.root ≠ 0 ∧
      IsTree (setC m' h'.root black) h'.root 0 T ∧ h'.size = h.size ∧ m'.key = m.key ∧
      (∀ z, z ≠ 0 → z ∉ (plug K (.node red a xe b)).ids → Agree m (setC m' h'.root black) z) := by
  induction fuel using Nat.strongRecOn generalizing K m h x p a b xe T with
  | _ fuel ih =>
  have hx0 : x ≠ 0 := hz.sub.ne_zero
  have hxid : xe.id = x := hz.sub.id_eq
  have hpx := hz.pr_focus hx0
  have hxmem : x ∈ (plug K (Tree.node red a xe b)).ids := mem_plug_ids.mpr (Or.inl (by simp [hxid]))
  -- where the way up ends the loop stops, and the result is the whole tree with a black root
  cases K with
  | nil =>
    obtain ⟨e1, e2, e3, e4⟩ := insFixLoop_exit_blacken hz.isTree hxmem (by rw [hpx, hz.slot_nil.1]; simp) fuel
    cases hfin
    exact ⟨m, h, e1, e2, e3, rfl, rfl, fun z _ => e4 z⟩
  | cons f K1 =>
    obtain ⟨d', c, pe, ps, rfl⟩ := frame_cases f
    obtain ⟨hp0, hpid, hpc, hpl, hps, hpr⟩ := hz.frameD
    cases c with
    | black =>
      obtain ⟨e1, e2, e3, e4⟩ := insFixLoop_exit_blacken hz.isTree hxmem (by rw [hpx, hpc]; simp) fuel
      rw [unwind_blackFrame] at hfin
      cases hfin
      exact ⟨m, h, e1, e2, e3, rfl, rfl, fun z _ => e4 z⟩
    | red =>
      cases K1 with
      | nil =>
        -- a red root with a red child: no tree that satisfies the red-black rules gets here
        cases d' <;> simp [unwind, Cstl.Tree.balInsL, Cstl.Tree.balInsR, Cstl.Tree.finishIns] at hfin
      | cons g K2 =>
        obtain ⟨d, cg, ge, u, rfl⟩ := frame_cases g
        have Zp := hz.upD
        obtain ⟨hg0, hgid, hgc, hgl, hgu, hgr⟩ := Zp.frameD
        have hside := Zp.side_test hp0
        cases fuel with
        | zero => simp at hlen
        | succ fuel' =>
        simp only [List.length_cons] at hlen
        have step : FixInsOk m h x d K2 (unwind (mkFrame d' red pe ps :: mkFrame d cg ge u :: K2) (.newRed a xe b))
            (mkNode d cg (mkNode d' red (.node red a xe b) pe ps) ge u) := by
          cases hu : u.isRed with
          | true => exact fixIns_redUncle hz hu
          | false =>
            cases d <;> cases d'
            · exact fixIns_outer (d := false) hz hu
            · exact fixIns_inner (d := false) (xa := b) (xb := a) hz hu
            · exact fixIns_inner (d := true) (xa := a) (xb := b) hz hu
            · exact fixIns_outer (d := true) hz hu
        obtain ⟨m1, h1, x1, s1, s2, s3, s4, s5⟩ := step
        have hloop : insFixLoop (fuel' + 1) m h x = insFixLoop fuel' m1 h1 x1 := by
          simp only [insFixLoop, hpx, hp0, hpc, ne_eq, not_false_eq_true, and_self, if_true, hg0, if_false, hside, s1]
        have hplug : plug K2 (mkNode d cg (mkNode d' red (.node red a xe b) pe ps) ge u) =
            plug (mkFrame d' red pe ps :: mkFrame d cg ge u :: K2) (.node red a xe b) := by simp
        rw [hplug] at s4
        -- in both outcomes: the step, then what is left of the loop, on the same set of nodes
        rcases s5 with ⟨p', a', e', b', Z', hres, hids⟩ | ⟨top, p', T', Z', hres, hx1c, hids⟩ <;>
          rw [hplug] at hids <;> rw [hres] at hfin
        · obtain ⟨m', h', l1, l2, l3, l4, l5, l6⟩ := ih fuel' (Nat.lt_succ_self _) K2 m1 h1 x1 p' a' b' e' T
            (by omega) Z' hfin
          exact ⟨m', h', by rw [hloop, l1], l2, l3, by rw [l4, s2], by rw [l5, s3],
            fun z hz0 hz' => (s4 z hz0 hz').trans (l6 z hz0 (mt (hids z).mp hz'))⟩
        · obtain ⟨e1, e2, e3, e4⟩ := insFixLoop_exit_blacken Z'.isTree ((hids x).mpr hxmem) (by rw [hx1c]; simp) fuel'
          cases hfin
          exact ⟨m1, h1, by rw [hloop, e1], e2, e3, s2, s3,
            fun z hz0 hz' => (s4 z hz0 hz').trans (e4 z (mt (hids z).mp hz'))⟩

theorem insFixLoop_spec : ∀ (fuel : Nat) (K : Ctx) (m : TM) (h : Hd) (x p : Nat) (a b : Tree) (xe : Elem) (T : Tree),
    K.length ≤ fuel → Zip m h.root K x p (.node red a xe b) →
    Cstl.Tree.finishIns (unwind K (.newRed a xe b)) = some T →
    ∃ m' h', insFixLoop fuel m h x = some (m', h') ∧ h'.root ≠ 0 ∧
      IsTree (setC m' h'.root black) h'.root 0 T ∧ h'.size = h.size ∧ m'.key = m.key ∧
      (∀ z, z ≠ 0 → z ∉ (plug K (.node red a xe b)).ids → Agree m (setC m' h'.root black) z) :=
  rb_fix_insertion_loop_refines

/-- `cstl_rbtree_insert(t, n, hint)` from a focused tree (see `btInsert_zip`) -/
theorem rbInsert_zip {m : TM} {h : Hd} {k : Ctx} {a p n hint : Nat} {t T : Tree} (hz : Zip m h.root k a p t)
    (h0 : hint = 0 → k = []) (h1 : hint ≠ 0 → hint = a) (hsz : (plug k t).size ≤ h.size) (hn0 : n ≠ 0)
    (hnt : n ∉ (plug k t).ids)
    (hfin : Cstl.Tree.finishIns (unwind k (Cstl.Tree.ins (elemAt m n) t)) = some T) :
    ∃ m' h', rbInsert m h n hint = some (m', h') ∧ IsTree m' h'.root 0 T ∧ h'.size = h.size + 1 ∧
      m'.key = m.key ∧ (∀ z, z ≠ 0 → z ≠ n → z ∉ (plug k t).ids → Agree m m' z) := by
  have hnt' := hnt
  rw [mem_plug_ids, not_or] at hnt'
  have hfuel : t.height ≤ h.size + 1 := by
    have := height_le_size t
    have := size_le_plug k t
    omega
  obtain ⟨P, m1, h1', b1, b2, b3, b4, b5, b6⟩ := btInsert_zip hz h0 h1 hfuel hn0 hnt'.1 hnt'.2
  have Z2 := b2.setC_root red
  rw [ins_unwind, ← unwind_append] at hfin
  have hlen : (insPath (m.key n) t ++ k).length ≤ h1'.size + 1 := by
    have e1 := insPath_length_le (m.key n) t
    have e2 := height_le_size t
    have e3 := length_add_size_le_plug k t
    simp only [List.length_append]
    omega
  obtain ⟨m3, h3, l1, l2, l3, l4, l5, l6⟩ := rb_fix_insertion_loop_refines (h1'.size + 1) _ _ h1' n P .nil .nil (elemAt m n) T hlen
    Z2 (by simpa using hfin)
  refine ⟨setC m3 h3.root black, h3, ?_, l3, by rw [l4, b3], by rw [setC_key, l5, setC_key, b5], ?_⟩
  · simp only [rbInsert, b1, l1, l2, if_false]
  · intro z hz0 hzn hzt
    refine ((b6 z hz0 hzn hzt).trans (Agree.setC red hzn)).trans (l6 z hz0 ?_)
    rw [mem_plug_ids, not_or] at hzt
    rw [mem_plug_ids, ctxIds_append, List.mem_append]
    rintro (h' | h' | h')
    · exact hzn (by simpa using h')
    · exact hzt.1 (insPath_ids_sub h')
    · exact hzt.2 h'

/-- `cstl_rbtree_insert(t, n, NULL)` -/
theorem rb_insert_refines {m : TM} {h : Hd} {t T : Tree} {n : Nat} (ht : IsTree m h.root 0 t)
    (hsz : h.size = t.size) (hn0 : n ≠ 0) (hnt : n ∉ t.ids)
    (hf : Cstl.Tree.rbInsert (elemAt m n) t = some T) :
    ∃ m' h', rbInsert m h n 0 = some (m', h') ∧ IsTree m' h'.root 0 T ∧ h'.size = h.size + 1 ∧
      m'.key = m.key ∧ (∀ z, z ≠ 0 → z ≠ n → z ∉ t.ids → Agree m m' z) :=
  rbInsert_zip (hint := 0) (k := []) (Zip.of_isTree ht) (fun _ => rfl) (fun e => absurd rfl e)
    (by simp [hsz]) hn0 (by simpa using hnt) (by simpa [unwind, Cstl.Tree.rbInsert] using hf)

theorem rbInsert_refines {m : TM} {h : Hd} {t T : Tree} {n : Nat} (ht : IsTree m h.root 0 t) (hsz : h.size = t.size)
    (hn0 : n ≠ 0) (hnt : n ∉ t.ids) (hf : Cstl.Tree.rbInsert (elemAt m n) t = some T) :
    ∃ m' h', rbInsert m h n 0 = some (m', h') ∧ IsTree m' h'.root 0 T ∧ h'.size = h.size + 1 ∧
      m'.key = m.key ∧ (∀ z, z ≠ 0 → z ≠ n → z ∉ t.ids → Agree m m' z) :=
  rb_insert_refines ht hsz hn0 hnt hf

/-- `cstl_rbtree_insert(t, n, hint)`, the hint any node of the tree -/
theorem rb_insert_hint_refines {m : TM} {h : Hd} {t T : Tree} {n hint : Nat} (ht : IsTree m h.root 0 t)
    (hsz : h.size = t.size) (hn0 : n ≠ 0) (hnt : n ∉ t.ids) (hh : hint ∈ t.ids)
    (hf : Cstl.Tree.rbInsertAt hint (elemAt m n) t = some (some T)) :
    ∃ m' h', rbInsert m h n hint = some (m', h') ∧ IsTree m' h'.root 0 T ∧ h'.size = h.size + 1 ∧
      m'.key = m.key ∧ (∀ z, z ≠ 0 → z ≠ n → z ∉ t.ids → Agree m m' z) := by
  obtain ⟨k, c, l, e, r, rfl, heid, hz⟩ := Zip.of_mem ht hh
  have h0 : hint ≠ 0 := hz.sub.ne_zero
  refine rbInsert_zip (hint := hint) hz (fun e' => absurd e' h0) (fun _ => rfl) (by simp [hsz]) hn0 hnt ?_
  have h1 : Cstl.Tree.insAt hint (elemAt m n) (Tree.node c l e r) =
      some (Cstl.Tree.ins (elemAt m n) (Tree.node c l e r)) := by simp [Cstl.Tree.insAt, heid]
  have h2 := insAt_plug (elemAt m n) k (hz.focus_notin_ctx h0) h1
  simp only [Cstl.Tree.rbInsertAt, h2, Option.map_some, Option.some.injEq] at hf
  exact hf

theorem rbInsertAt_refines {m : TM} {h : Hd} {t T : Tree} {n hint : Nat} (ht : IsTree m h.root 0 t)
    (hsz : h.size = t.size) (hn0 : n ≠ 0) (hnt : n ∉ t.ids) (hh : hint ∈ t.ids)
    (hf : Cstl.Tree.rbInsertAt hint (elemAt m n) t = some (some T)) :
    ∃ m' h', rbInsert m h n hint = some (m', h') ∧ IsTree m' h'.root 0 T ∧ h'.size = h.size + 1 ∧
      m'.key = m.key ∧ (∀ z, z ≠ 0 → z ≠ n → z ∉ t.ids → Agree m m' z) :=
  rb_insert_hint_refines ht hsz hn0 hnt hh hf

end Cstl.TreeL
