import Cstl.TreeL.Model
import Cstl.TreeL.Ctx
/-
Abstraction predicates of the link-level tree model.

* `Shape m a p t`  — the structure reachable from address `a` through `lf`/`rt`
  is exactly the functional tree `t` (same ids = addresses, keys, colours,
  shape) and every node's `pr` is its parent (`p` for the node at `a`).
* `IsTree m root parent t` — `Shape` plus distinct node addresses.
* `CtxShape` — a tree with a hole (contexts: Ctx.lean) in the memory; `Zip` — a
  focused tree: context + the subtree at the hole.  Every link-level primitive
  is specified as a transformation of a `Zip`.
-/
namespace Cstl.TreeL
open Cstl.SList (Mem upd upd_same upd_other)
open Cstl.Tree (Color Elem Tree)
open Cstl.Tree.Color Cstl.Tree.Tree

def Agree (m m' : TM) (z : Nat) : Prop :=
  m'.pr z = m.pr z ∧ m'.lf z = m.lf z ∧ m'.rt z = m.rt z ∧ m'.cl z = m.cl z ∧ m'.key z = m.key z

theorem Agree.rfl' (m : TM) (z : Nat) : Agree m m z := ⟨rfl, rfl, rfl, rfl, rfl⟩

theorem Agree.trans {m m' m'' : TM} {z : Nat} (h1 : Agree m m' z) (h2 : Agree m' m'' z) : Agree m m'' z := by
  obtain ⟨a1, a2, a3, a4, a5⟩ := h1
  obtain ⟨b1, b2, b3, b4, b5⟩ := h2
  exact ⟨by rw [b1, a1], by rw [b2, a2], by rw [b3, a3], by rw [b4, a4], by rw [b5, a5]⟩

theorem elemAt_congr {m m' : TM} {z : Nat} (h : Agree m m' z) : elemAt m' z = elemAt m z := by
  simp [elemAt, h.2.2.2.2]

@[simp] theorem elemAt_id (m : TM) (a : Nat) : (elemAt m a).id = a := rfl

@[simp] theorem elemAt_key (m : TM) (a : Nat) : (elemAt m a).key = m.key a := rfl

@[simp] theorem setP_pr (m : TM) (a v : Nat) : (setP m a v).pr = upd m.pr a v := rfl

@[simp] theorem setP_lf (m : TM) (a v : Nat) : (setP m a v).lf = m.lf := rfl

@[simp] theorem setP_rt (m : TM) (a v : Nat) : (setP m a v).rt = m.rt := rfl

@[simp] theorem setP_cl (m : TM) (a v : Nat) : (setP m a v).cl = m.cl := rfl

@[simp] theorem setP_key (m : TM) (a v : Nat) : (setP m a v).key = m.key := rfl

@[simp] theorem setLf_pr (m : TM) (a v : Nat) : (setLf m a v).pr = m.pr := rfl

@[simp] theorem setLf_lf (m : TM) (a v : Nat) : (setLf m a v).lf = upd m.lf a v := rfl

@[simp] theorem setLf_rt (m : TM) (a v : Nat) : (setLf m a v).rt = m.rt := rfl

@[simp] theorem setLf_cl (m : TM) (a v : Nat) : (setLf m a v).cl = m.cl := rfl

@[simp] theorem setLf_key (m : TM) (a v : Nat) : (setLf m a v).key = m.key := rfl

@[simp] theorem setRt_pr (m : TM) (a v : Nat) : (setRt m a v).pr = m.pr := rfl

@[simp] theorem setRt_lf (m : TM) (a v : Nat) : (setRt m a v).lf = m.lf := rfl

@[simp] theorem setRt_rt (m : TM) (a v : Nat) : (setRt m a v).rt = upd m.rt a v := rfl

@[simp] theorem setRt_cl (m : TM) (a v : Nat) : (setRt m a v).cl = m.cl := rfl

@[simp] theorem setRt_key (m : TM) (a v : Nat) : (setRt m a v).key = m.key := rfl

@[simp] theorem setC_pr (m : TM) (a : Nat) (c : Color) : (setC m a c).pr = m.pr := rfl

@[simp] theorem setC_lf (m : TM) (a : Nat) (c : Color) : (setC m a c).lf = m.lf := rfl

@[simp] theorem setC_rt (m : TM) (a : Nat) (c : Color) : (setC m a c).rt = m.rt := rfl

@[simp] theorem setC_cl (m : TM) (a : Nat) (c : Color) : (setC m a c).cl = updC m.cl a c := rfl

@[simp] theorem setC_key (m : TM) (a : Nat) (c : Color) : (setC m a c).key = m.key := rfl

@[simp] theorem chL_setC (m : TM) (a : Nat) (c : Color) (d : Bool) (z : Nat) : chL (setC m a c) d z = chL m d z := rfl

@[simp] theorem chR_setC (m : TM) (a : Nat) (c : Color) (d : Bool) (z : Nat) : chR (setC m a c) d z = chR m d z := rfl

theorem upd_apply (f : Mem) (a v x : Nat) : upd f a v x = if x = a then v else f x := rfl

theorem updC_apply (f : Nat → Color) (a : Nat) (c : Color) (x : Nat) : updC f a c x = if x = a then c else f x := rfl

def Shape (m : TM) : Nat → Nat → Tree → Prop
  | a, _, .nil => a = 0
  | a, p, .node c l e r =>
    a ≠ 0 ∧ e = elemAt m a ∧ m.cl a = c ∧ m.pr a = p ∧ Shape m (m.lf a) a l ∧ Shape m (m.rt a) a r

@[simp] theorem Shape_nil (m : TM) (a p : Nat) : Shape m a p .nil ↔ a = 0 := Iff.rfl

@[simp] theorem Shape_node (m : TM) (a p : Nat) (c : Color) (l r : Tree) (e : Elem) :
    Shape m a p (.node c l e r) ↔
      a ≠ 0 ∧ e = elemAt m a ∧ m.cl a = c ∧ m.pr a = p ∧ Shape m (m.lf a) a l ∧ Shape m (m.rt a) a r := Iff.rfl

/-- the abstraction predicate of the refinement theorems: `Shape` plus distinct node addresses -/
structure IsTree (m : TM) (root parent : Nat) (t : Tree) : Prop where
  shape : Shape m root parent t
  nodup : t.ids.Nodup

theorem Shape.zero_iff {m : TM} {a p : Nat} {t : Tree} (h : Shape m a p t) : a = 0 ↔ t = .nil := by
  cases t with
  | nil => simpa using h
  | node c l e r => simp at h; simp [h.1]

theorem Shape.ne_zero_of_mem {m : TM} {a p z : Nat} {t : Tree} (h : Shape m a p t) (hz : z ∈ t.ids) : a ≠ 0 :=
  fun e => by rw [h.zero_iff.mp e] at hz; cases hz

theorem Shape.root_mem {m : TM} {a p : Nat} {t : Tree} (h : Shape m a p t) (ha : a ≠ 0) : a ∈ t.ids := by
  cases t with
  | nil => exact absurd h ha
  | node c l e r => simp at h; simp [h.2.1]

theorem Shape.id_eq {m : TM} {a p : Nat} {c : Color} {l r : Tree} {e : Elem}
    (h : Shape m a p (.node c l e r)) : e.id = a := by
  simp at h; simp [h.2.1]

theorem Shape.cl_eq {m : TM} {a p : Nat} {c : Color} {l r : Tree} {e : Elem}
    (h : Shape m a p (.node c l e r)) : m.cl a = c := ((Shape_node ..).1 h).2.2.1

theorem Shape.ne_zero {m : TM} {a p : Nat} {c : Color} {l r : Tree} {e : Elem}
    (h : Shape m a p (.node c l e r)) : a ≠ 0 := ((Shape_node ..).1 h).1

theorem Shape.key_eq {m : TM} {a p : Nat} {c : Color} {l r : Tree} {e : Elem}
    (h : Shape m a p (.node c l e r)) : e.key = m.key a := by
  simp at h; simp [h.2.1]

theorem Shape.elemAt_mem {m : TM} {a p : Nat} {t : Tree} (h : Shape m a p t) {e : Elem} (he : e ∈ t.inorder) :
    elemAt m e.id = e := by
  induction t generalizing a p with
  | nil => simp at he
  | node c l e' r ihl ihr =>
    simp only [Shape_node] at h
    simp only [Cstl.Tree.inorder_node, List.mem_append, List.mem_cons] at he
    rcases he with he | rfl | he
    · exact ihl h.2.2.2.2.1 he
    · rw [h.2.1]; rfl
    · exact ihr h.2.2.2.2.2 he

theorem Shape.isNil_iff {m : TM} {a p : Nat} {t : Tree} (h : Shape m a p t) : t.isNil = true ↔ a = 0 := by
  cases t with
  | nil => simpa [Tree.isNil] using h
  | node c l e r => simp only [Shape_node] at h; simp [Tree.isNil, h.1]

theorem Shape.root_ne {m : TM} {a p z : Nat} {t : Tree} (h : Shape m a p t) (hz : z ∉ t.ids) (z0 : z ≠ 0) : z ≠ a :=
  fun e => hz (e ▸ h.root_mem (e ▸ z0))

theorem Shape.ids_ne_zero {m : TM} {a p : Nat} {t : Tree} (h : Shape m a p t) : ∀ z ∈ t.ids, z ≠ 0 := by
  induction t generalizing a p with
  | nil => simp
  | node c l e r ihl ihr =>
    simp at h
    obtain ⟨h1, h2, _, _, h5, h6⟩ := h
    intro z hz
    simp only [Cstl.Tree.ids_node, List.mem_append, List.mem_cons] at hz
    rcases hz with hz | hz | hz
    · exact ihl h5 z hz
    · rw [hz, h2]; exact h1
    · exact ihr h6 z hz

theorem Shape.parent {m : TM} {a p : Nat} {t : Tree} (h : Shape m a p t) (ha : a ≠ 0) : m.pr a = p := by
  cases t with
  | nil => exact absurd h ha
  | node c l e r => simp at h; exact h.2.2.2.1

theorem Shape.frame {m m' : TM} {a p : Nat} {t : Tree} (h : Shape m a p t)
    (hag : ∀ z ∈ t.ids, Agree m m' z) : Shape m' a p t := by
  induction t generalizing a p with
  | nil => exact h
  | node c l e r ihl ihr =>
    simp at h
    obtain ⟨h1, h2, h3, h4, h5, h6⟩ := h
    have ha : Agree m m' a := hag a (by simp [h2])
    obtain ⟨a1, a2, a3, a4, a5⟩ := ha
    refine ⟨h1, ?_, by rw [a4, h3], by rw [a1, h4], ?_, ?_⟩
    · rw [h2]; simp [elemAt, a5]
    · rw [a2]; exact ihl h5 (fun z hz => hag z (by simp [hz]))
    · rw [a3]; exact ihr h6 (fun z hz => hag z (by simp [hz]))

theorem Shape.reparent {m m' : TM} {a p p' : Nat} {t : Tree} (h : Shape m a p t) (hnd : t.ids.Nodup)
    (hag : ∀ z ∈ t.ids, z ≠ a → Agree m m' z)
    (hroot : a ≠ 0 → m'.pr a = p' ∧ m'.lf a = m.lf a ∧ m'.rt a = m.rt a ∧ m'.cl a = m.cl a ∧ m'.key a = m.key a) :
    Shape m' a p' t := by
  cases t with
  | nil => exact h
  | node c l e r =>
    simp at h
    obtain ⟨h1, h2, h3, h4, h5, h6⟩ := h
    obtain ⟨a1, a2, a3, a4, a5⟩ := hroot h1
    have hnd' : (l.ids ++ a :: r.ids).Nodup := by simpa [h2] using hnd
    have hal : a ∉ l.ids := by
      intro hc
      have := List.nodup_append.mp hnd'
      exact this.2.2 a hc a (by simp) rfl
    have har : a ∉ r.ids := by
      have := (List.nodup_append.mp hnd').2.1
      exact (List.nodup_cons.mp this).1
    refine ⟨h1, ?_, by rw [a4, h3], a1, ?_, ?_⟩
    · rw [h2]; simp [elemAt, a5]
    · rw [a2]
      exact h5.frame (fun z hz => hag z (by simp [hz]) (fun e => hal (e ▸ hz)))
    · rw [a3]
      exact h6.frame (fun z hz => hag z (by simp [hz]) (fun e => har (e ▸ hz)))

theorem Shape.links {m : TM} {a p : Nat} {t : Tree} (h : Shape m a p t) :
    ∀ z ∈ t.ids, z ≠ 0 ∧ (m.lf z ≠ 0 → m.pr (m.lf z) = z) ∧ (m.rt z ≠ 0 → m.pr (m.rt z) = z) := by
  induction t generalizing a p with
  | nil => simp
  | node c l e r ihl ihr =>
    simp only [Shape_node] at h
    obtain ⟨h1, h2, _, _, h5, h6⟩ := h
    intro z hz
    simp only [Cstl.Tree.ids_node, List.mem_append, List.mem_cons] at hz
    rcases hz with hz | hz | hz
    · exact ihl h5 z hz
    · have : z = a := by rw [hz, h2]; rfl
      subst this
      exact ⟨h1, h5.parent, h6.parent⟩
    · exact ihr h6 z hz

/-- C02 "every child's parent link points back at its parent" (and the root's is NULL), for every
memory that represents a tree -/
theorem parent_links_ok {m : TM} {root : Nat} {t : Tree} (h : IsTree m root 0 t) :
    (root ≠ 0 → m.pr root = 0) ∧
    ∀ a ∈ t.ids, a ≠ 0 ∧ (m.lf a ≠ 0 → m.pr (m.lf a) = a) ∧ (m.rt a ≠ 0 → m.pr (m.rt a) = a) :=
  ⟨h.shape.parent, h.shape.links⟩

/-- the part of the structure outside the hole: the hole's slot holds address
`a`, the hole's parent is `p` -/
def CtxShape (m : TM) (root : Nat) : Ctx → Nat → Nat → Prop
  | [], a, p => a = root ∧ p = 0
  | .L c e r :: k, a, p =>
    p ≠ 0 ∧ e = elemAt m p ∧ m.cl p = c ∧ m.lf p = a ∧ Shape m (m.rt p) p r ∧ CtxShape m root k p (m.pr p)
  | .R c l e :: k, a, p =>
    p ≠ 0 ∧ e = elemAt m p ∧ m.cl p = c ∧ m.rt p = a ∧ Shape m (m.lf p) p l ∧ CtxShape m root k p (m.pr p)

@[simp] theorem CtxShape_nil (m : TM) (root a p : Nat) : CtxShape m root [] a p ↔ a = root ∧ p = 0 := Iff.rfl

@[simp] theorem CtxShape_L (m : TM) (root a p : Nat) (c : Color) (e : Elem) (r : Tree) (k : Ctx) :
    CtxShape m root (.L c e r :: k) a p ↔
      p ≠ 0 ∧ e = elemAt m p ∧ m.cl p = c ∧ m.lf p = a ∧ Shape m (m.rt p) p r ∧ CtxShape m root k p (m.pr p) :=
  Iff.rfl

@[simp] theorem CtxShape_R (m : TM) (root a p : Nat) (c : Color) (l : Tree) (e : Elem) (k : Ctx) :
    CtxShape m root (.R c l e :: k) a p ↔
      p ≠ 0 ∧ e = elemAt m p ∧ m.cl p = c ∧ m.rt p = a ∧ Shape m (m.lf p) p l ∧ CtxShape m root k p (m.pr p) :=
  Iff.rfl

theorem Shape_mkNode (m : TM) (a p : Nat) (d : Bool) (c : Color) (l r : Tree) (e : Elem) :
    Shape m a p (mkNode d c l e r) ↔
      a ≠ 0 ∧ e = elemAt m a ∧ m.cl a = c ∧ m.pr a = p ∧ Shape m (chL m d a) a l ∧ Shape m (chR m d a) a r := by
  cases d <;> simp [chL, chR]
  intro _ _ _ _; exact And.comm

theorem Shape.id_eqD {m : TM} {a p : Nat} {d : Bool} {c : Color} {l r : Tree} {e : Elem}
    (h : Shape m a p (mkNode d c l e r)) : e.id = a := by
  cases d <;> exact Shape.id_eq h

theorem CtxShape_mkFrame (m : TM) (root a p : Nat) (d : Bool) (c : Color) (e : Elem) (s : Tree) (k : Ctx) :
    CtxShape m root (mkFrame d c e s :: k) a p ↔
      p ≠ 0 ∧ e = elemAt m p ∧ m.cl p = c ∧ chL m d p = a ∧ Shape m (chR m d p) p s ∧ CtxShape m root k p (m.pr p) := by
  cases d <;> exact Iff.rfl

theorem Agree.chL {m m' : TM} {z : Nat} (h : Agree m m' z) (d : Bool) : chL m' d z = chL m d z := by
  cases d
  · exact h.2.2.1
  · exact h.2.1

theorem Agree.chR {m m' : TM} {z : Nat} (h : Agree m m' z) (d : Bool) : chR m' d z = chR m d z := by
  cases d
  · exact h.2.1
  · exact h.2.2.1

theorem CtxShape.ids_ne_zero {m : TM} {root a p : Nat} {k : Ctx} (h : CtxShape m root k a p) :
    ∀ z ∈ ctxIds k, z ≠ 0 := by
  induction k generalizing a p with
  | nil => simp
  | cons f k ih =>
    obtain ⟨d, c, e, s, rfl⟩ := frame_cases f
    rw [CtxShape_mkFrame] at h
    obtain ⟨h1, h2, _, _, h5, h6⟩ := h
    intro z hz
    rcases mem_ctxIds_mkFrame.mp hz with hz | hz | hz
    · rw [hz, h2]; exact h1
    · exact h5.ids_ne_zero z hz
    · exact ih h6 z hz

theorem CtxShape.parent_mem {m : TM} {root a p : Nat} {k : Ctx} (h : CtxShape m root k a p) (hp : p ≠ 0) :
    p ∈ ctxIds k := by
  cases k with
  | nil => simp at h; exact absurd h.2 hp
  | cons f k =>
    cases f with
    | L c e r => simp at h; simp [h.2.1]
    | R c l e => simp at h; simp [h.2.1]

theorem CtxShape.parent_zero_iff {m : TM} {root a p : Nat} {k : Ctx} (h : CtxShape m root k a p) :
    p = 0 ↔ k = [] := by
  cases k with
  | nil => simp at h; simp [h.2]
  | cons f k => cases f <;> (simp at h; simp [h.1])

theorem CtxShape.frame {m m' : TM} {root a p : Nat} {k : Ctx} (h : CtxShape m root k a p)
    (hag : ∀ z ∈ ctxIds k, Agree m m' z) : CtxShape m' root k a p := by
  induction k generalizing a p with
  | nil => exact h
  | cons f k ih =>
    obtain ⟨d, c, e, s, rfl⟩ := frame_cases f
    rw [CtxShape_mkFrame] at h ⊢
    obtain ⟨h1, h2, h3, h4, h5, h6⟩ := h
    have hp := hag p (mem_ctxIds_mkFrame.mpr (Or.inl (by rw [h2]; rfl)))
    refine ⟨h1, ?_, by rw [hp.2.2.2.1, h3], by rw [hp.chL, h4], ?_, ?_⟩
    · rw [h2]; simp [elemAt, hp.2.2.2.2]
    · rw [hp.chR]; exact h5.frame (fun z hz => hag z (mem_ctxIds_mkFrame.mpr (Or.inr (Or.inl hz))))
    · rw [hp.1]; exact ih h6 (fun z hz => hag z (mem_ctxIds_mkFrame.mpr (Or.inr (Or.inr hz))))

/-- "the slot of the hole now holds `a'`" -/
def SlotUpd (m m' : TM) (root root' : Nat) (k : Ctx) (p a' : Nat) : Prop :=
  match k with
  | [] => root' = a'
  | .L .. :: _ =>
    root' = root ∧ m'.lf p = a' ∧ m'.rt p = m.rt p ∧ m'.pr p = m.pr p ∧ m'.cl p = m.cl p ∧ m'.key p = m.key p
  | .R .. :: _ =>
    root' = root ∧ m'.rt p = a' ∧ m'.lf p = m.lf p ∧ m'.pr p = m.pr p ∧ m'.cl p = m.cl p ∧ m'.key p = m.key p

theorem SlotUpd_mkFrame (m m' : TM) (root root' : Nat) (d : Bool) (c : Color) (e : Elem) (s : Tree) (k : Ctx)
    (p a' : Nat) :
    SlotUpd m m' root root' (mkFrame d c e s :: k) p a' ↔
      root' = root ∧ chL m' d p = a' ∧ chR m' d p = chR m d p ∧ m'.pr p = m.pr p ∧ m'.cl p = m.cl p ∧
        m'.key p = m.key p := by
  cases d <;> exact Iff.rfl

theorem CtxShape.replace {m m' : TM} {root root' a a' p : Nat} {k : Ctx} (h : CtxShape m root k a p)
    (hnd : (ctxIds k).Nodup) (hag : ∀ z ∈ ctxIds k, z ≠ p → Agree m m' z)
    (hs : SlotUpd m m' root root' k p a') : CtxShape m' root' k a' p := by
  cases k with
  | nil => simp at h; simp [SlotUpd] at hs; simp [h.2, hs]
  | cons f k =>
    obtain ⟨d, c, e, s, rfl⟩ := frame_cases f
    rw [CtxShape_mkFrame] at h ⊢
    obtain ⟨h1, h2, h3, h4, h5, h6⟩ := h
    obtain ⟨s0, s1, s2, s3, s4, s5⟩ := (SlotUpd_mkFrame ..).mp hs
    -- `p` is the frame's node and occurs nowhere else in the context
    simp only [ctxIds_cons, ids_mkFrame, h2, elemAt_id, List.cons_append, List.nodup_cons, List.mem_append,
      not_or] at hnd
    obtain ⟨⟨n1, n2⟩, _⟩ := hnd
    refine ⟨h1, ?_, by rw [s4, h3], s1, ?_, ?_⟩
    · rw [h2]; simp [elemAt, s5]
    · rw [s2]
      exact h5.frame (fun z hz => hag z (mem_ctxIds_mkFrame.mpr (Or.inr (Or.inl hz))) (fun e' => n1 (e' ▸ hz)))
    · rw [s3, s0]
      exact h6.frame (fun z hz => hag z (mem_ctxIds_mkFrame.mpr (Or.inr (Or.inr hz))) (fun e' => n2 (e' ▸ hz)))

/-- context `k` around the subtree `t` at address `a` with parent `p`; all node
addresses distinct -/
structure Zip (m : TM) (root : Nat) (k : Ctx) (a p : Nat) (t : Tree) : Prop where
  ctx : CtxShape m root k a p
  sub : Shape m a p t
  nodup : (t.ids ++ ctxIds k).Nodup

theorem Zip.of_isTree {m : TM} {root : Nat} {t : Tree} (h : IsTree m root 0 t) : Zip m root [] root 0 t :=
  ⟨by simp, h.shape, by simpa using h.nodup⟩

theorem Zip.isTree_nil {m : TM} {root a p : Nat} {t : Tree} (h : Zip m root [] a p t) : IsTree m root 0 t := by
  have := h.ctx
  simp at this
  obtain ⟨rfl, rfl⟩ := this
  exact ⟨h.sub, by simpa using h.nodup⟩

theorem Zip.upD {m : TM} {root a p : Nat} {d : Bool} {c : Color} {e : Elem} {s t : Tree} {K : Ctx}
    (h : Zip m root (mkFrame d c e s :: K) a p t) : Zip m root K p (m.pr p) (mkNode d c t e s) := by
  obtain ⟨hc, hs, hn⟩ := h
  obtain ⟨h1, h2, h3, h4, h5, h6⟩ := (CtxShape_mkFrame ..).mp hc
  refine ⟨h6, (Shape_mkNode ..).mpr ⟨h1, h2, h3, rfl, h4 ▸ hs, h5⟩, (List.Perm.nodup_iff ?_).mp hn⟩
  rw [ctxIds_cons, ids_mkFrame, ← List.append_assoc]
  exact (List.perm_middle.trans (mkNode_ids_perm d c t s e).symm).append_right _

theorem Zip.downD {m : TM} {root a p : Nat} {d : Bool} {c : Color} {e : Elem} {l r : Tree} {K : Ctx}
    (h : Zip m root K a p (mkNode d c l e r)) : Zip m root (mkFrame d c e r :: K) (chL m d a) a l := by
  obtain ⟨hc, hs, hn⟩ := h
  obtain ⟨h1, h2, h3, h4, h5, h6⟩ := (Shape_mkNode ..).mp hs
  refine ⟨(CtxShape_mkFrame ..).mpr ⟨h1, h2, h3, rfl, h6, h4 ▸ hc⟩, h5, (List.Perm.nodup_iff ?_).mpr hn⟩
  rw [ctxIds_cons, ids_mkFrame, ← List.append_assoc]
  exact (List.perm_middle.trans (mkNode_ids_perm d c l r e).symm).append_right _

theorem Zip.upL {m : TM} {root a p : Nat} {c : Color} {e : Elem} {r t : Tree} {k : Ctx}
    (h : Zip m root (.L c e r :: k) a p t) : Zip m root k p (m.pr p) (.node c t e r) :=
  Zip.upD (d := true) h

theorem Zip.upR {m : TM} {root a p : Nat} {c : Color} {e : Elem} {l t : Tree} {k : Ctx}
    (h : Zip m root (.R c l e :: k) a p t) : Zip m root k p (m.pr p) (.node c l e t) :=
  Zip.upD (d := false) h

theorem Zip.downL {m : TM} {root a p : Nat} {c : Color} {e : Elem} {l r : Tree} {k : Ctx}
    (h : Zip m root k a p (.node c l e r)) : Zip m root (.L c e r :: k) (m.lf a) a l :=
  Zip.downD (d := true) h

theorem Zip.downR {m : TM} {root a p : Nat} {c : Color} {e : Elem} {l r : Tree} {k : Ctx}
    (h : Zip m root k a p (.node c l e r)) : Zip m root (.R c l e :: k) (m.rt a) a r :=
  Zip.downD (d := false) h

/-! ### the two addresses of a focus are functions of the context and the subtree -/

theorem Shape.root_eq {m : TM} {a p : Nat} {t : Tree} (h : Shape m a p t) : a = rootOf t := by
  cases t with
  | nil => exact h
  | node c l e r => rw [((Shape_node ..).mp h).2.1]; rfl

theorem CtxShape.parent_eq {m : TM} {root a p : Nat} {k : Ctx} (h : CtxShape m root k a p) : p = ctxParent k := by
  cases k with
  | nil => simp at h; simp [ctxParent, h.2]
  | cons f k => cases f <;> (simp at h; simp [ctxParent, h.2.1])

theorem Zip.addr {m : TM} {root a p : Nat} {k : Ctx} {t : Tree} (h : Zip m root k a p t) :
    Zip m root k (rootOf t) (ctxParent k) t := by
  rw [← h.sub.root_eq, ← h.ctx.parent_eq]; exact h

theorem Zip.unplug {m : TM} {root a p : Nat} {K : Ctx} (k : Ctx) {t : Tree} (h : Zip m root K a p (plug k t)) :
    Zip m root (k ++ K) (rootOf t) (ctxParent (k ++ K)) t := by
  induction k generalizing t with
  | nil => exact h.addr
  | cons f k ih =>
    cases f with
    | L c e r => exact (ih (t := .node c t e r) h).downL.addr
    | R c l e => exact (ih (t := .node c l e t) h).downR.addr

theorem Zip.plugUp {m : TM} {root a p : Nat} {K : Ctx} (k : Ctx) {t : Tree} (h : Zip m root (k ++ K) a p t) :
    Zip m root K (rootOf (plug k t)) (ctxParent K) (plug k t) := by
  induction k generalizing a p t with
  | nil => exact h.addr
  | cons f k ih =>
    cases f with
    | L c e r => exact ih (t := .node c t e r) h.upL
    | R c l e => exact ih (t := .node c l e t) h.upR

theorem Zip.isTree {m : TM} {root a p : Nat} {k : Ctx} {t : Tree} (h : Zip m root k a p t) :
    IsTree m root 0 (plug k t) :=
  (Zip.plugUp (K := []) k (by rwa [List.append_nil])).isTree_nil

theorem Zip.of_plug {m : TM} {root : Nat} {k : Ctx} {t : Tree} (h : IsTree m root 0 (plug k t)) :
    Zip m root k (rootOf t) (ctxParent k) t := by
  simpa using Zip.unplug (K := []) k (Zip.of_isTree h)

theorem setKey_agree (m : TM) (n : Nat) (key : Int) {z : Nat} (h : z ≠ n) : Agree m (setKey m n key) z :=
  ⟨rfl, rfl, rfl, rfl, show updK m.key n key z = m.key z by simp [updK, h]⟩

theorem IsTree.setKey {m : TM} {root : Nat} {t : Tree} (h : IsTree m root 0 t) {n : Nat} (hn : n ∉ t.ids)
    (key : Int) : IsTree (setKey m n key) root 0 t :=
  ⟨h.shape.frame (fun _ hz => setKey_agree m n key (fun e => hn (e ▸ hz))), h.nodup⟩

theorem elemAt_setKey (m : TM) (n : Nat) (key : Int) : elemAt (setKey m n key) n = { key := key, id := n } := by
  simp [elemAt, setKey, updK]

end Cstl.TreeL
