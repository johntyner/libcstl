import Cstl.TreeL.LHistory
import Cstl.TreeL.Promote
/-
Property theorems of the link-level tree model (pointer level of C01 / C02): the link-mutating primitives
anywhere in a tree, the histories, the parent links.  The refinement theorems of the operations stand next to
their proofs (BtRefine, RbInsert, RbErase).

  abstraction      `IsTree m root parent t` (Lemmas.lean): the structure reachable from `root`
                   through `lf` / `rt` is exactly the functional tree `t` (ids = addresses, keys,
                   colours, shape), every node's `pr` is its parent, addresses distinct, non-NULL

The traversal (`foreach`, the callback order of `clear`) does not write and has no hand-written link-level
model in TreeL (only the text of one activation, `foreachStep` of Foreach.lean; for a callback that writes the
links see `HeapL.clearWalk` / `clear_refines`): the translated C code itself is tied
to the functional `walk` / `clearOrder` on every memory that represents a tree (`Tie2.foreach_refines`,
`Tie3.foreachEntry_refines`, `Tie3.clear_tie`); the driver evaluates it on the tree read off the links.
-/
namespace Cstl.TreeL
open Cstl.SList (Mem upd)
open Cstl.Tree (Color Elem Tree TS Op Out)
open Cstl.Tree.Color Cstl.Tree.Tree

/-- the state dump of the driver (`readTree`: walk the links, check every parent link) returns
exactly the represented tree -/
theorem readTree_spec {m : TM} : ∀ (t : Tree) (a p fuel b : Nat), Shape m a p t → t.height ≤ fuel → t.size ≤ b →
    readTree m fuel a p b = .ok (t, b - t.size) := by
  intro t
  induction t with
  | nil =>
    intro a p fuel b h _ _
    have : a = 0 := h
    subst this
    cases fuel <;> simp [readTree, Tree.size]
  | node c l e r ihl ihr =>
    intro a p fuel b h hf hb
    simp only [Shape_node] at h
    obtain ⟨h1, h2, h3, h4, h5, h6⟩ := h
    simp only [Tree.height, Tree.size] at hf hb
    cases fuel with
    | zero => omega
    | succ f =>
      have hb0 : b ≠ 0 := by omega
      simp only [readTree, h1, if_false, hb0, h4, ne_eq, not_true_eq_false]
      rw [ihl (m.lf a) a f (b - 1) h5 (by omega) (by omega)]
      simp only []
      rw [ihr (m.rt a) a f (b - 1 - l.size) h6 (by omega) (by omega)]
      simp only [h2, h3, Tree.size]
      congr 2
      omega

/-- `__cstl_bintree_rotate(bt, x, l, r)` anywhere in a tree, for either selector pair -/
theorem rotate_refines {m : TM} {h : Hd} {k : Ctx} {d : Bool} {cx cy : Color} {a b c : Tree} {ex ey : Elem}
    (ht : IsTree m h.root 0 (plug k (mkNode d cx a ex (mkNode d cy b ey c)))) :
    ∃ m' h', rotate m h ex.id d = some (m', h') ∧
      IsTree m' h'.root 0 (plug k (mkNode d cy (mkNode d cx a ex b) ey c)) ∧ h'.size = h.size ∧
      m'.cl = m.cl ∧ m'.key = m.key ∧
      (∀ z, z ≠ ex.id → z ≠ ey.id → z ≠ ctxParent k → z ∉ b.ids → Agree m m' z) := by
  obtain ⟨m', h', r1, r2, r⟩ := rotate_spec (rootOf_mkNode .. ▸ Zip.of_plug ht)
  exact ⟨m', h', r1, r2.isTree, r⟩

/-- `__cstl_bintree_rotate(bt, x, left, right)` anywhere in a tree -/
theorem rotate_left_refines {m : TM} {h : Hd} {k : Ctx} {cx cy : Color} {a b c : Tree} {ex ey : Elem}
    (ht : IsTree m h.root 0 (plug k (.node cx a ex (.node cy b ey c)))) :
    ∃ m' h', rotate m h ex.id true = some (m', h') ∧
      IsTree m' h'.root 0 (plug k (.node cy (.node cx a ex b) ey c)) ∧ h'.size = h.size ∧
      m'.cl = m.cl ∧ m'.key = m.key ∧
      (∀ z, z ≠ ex.id → z ≠ ey.id → z ≠ ctxParent k → z ∉ b.ids → Agree m m' z) :=
  rotate_refines (d := true) ht

/-- `__cstl_bintree_rotate(bt, x, right, left)` anywhere in a tree -/
theorem rotate_right_refines {m : TM} {h : Hd} {k : Ctx} {cx cy : Color} {a b c : Tree} {ex ey : Elem}
    (ht : IsTree m h.root 0 (plug k (.node cx (.node cy c ey b) ex a))) :
    ∃ m' h', rotate m h ex.id false = some (m', h') ∧
      IsTree m' h'.root 0 (plug k (.node cy c ey (.node cx b ex a))) ∧ h'.size = h.size ∧
      m'.cl = m.cl ∧ m'.key = m.key ∧
      (∀ z, z ≠ ex.id → z ≠ ey.id → z ≠ ctxParent k → z ∉ b.ids → Agree m m' z) :=
  rotate_refines (d := false) ht

/-- the leaf attach of `cstl_bintree_insert` (`bn->p = bp; bn->l = bn->r = NULL; *bc = bn; size++`)
at any empty position of a tree -/
theorem attach_leaf_refines {m : TM} {h : Hd} {k : Ctx} {n : Nat} (ht : IsTree m h.root 0 (plug k .nil))
    (hn0 : n ≠ 0) (hnt : n ∉ (plug k .nil).ids) :
    IsTree (attach m h n (ctxParent k) (slot k (ctxParent k))).1 (attach m h n (ctxParent k) (slot k (ctxParent k))).2.root 0
        (plug k (.node (m.cl n) .nil (elemAt m n) .nil)) ∧
      (attach m h n (ctxParent k) (slot k (ctxParent k))).2.size = h.size + 1 ∧
      (∀ z, z ≠ n → z ≠ ctxParent k → Agree m (attach m h n (ctxParent k) (slot k (ctxParent k))).1 z) := by
  obtain ⟨a1, a2, _, _, a5⟩ := attach_spec (h := h) (Zip.of_plug ht) hn0
    (fun hc => hnt (mem_plug_ids.mpr (Or.inr hc)))
  exact ⟨a1.isTree, a2, a5⟩

/-- the link surgery of `__cstl_bintree_erase` on a node with at most one child -/
theorem erase_surgery_one_child {m : TM} {h : Hd} {k : Ctx} {c : Color} {l r : Tree} {e : Elem}
    (ht : IsTree m h.root 0 (plug k (.node c l e r))) (hone : l = .nil ∨ r = .nil) :
    ∃ m' h', btEraseNode m h e.id = some (m', h', e.id) ∧ IsTree m' h'.root 0 (plug k (onlyChild l r)) ∧
      h'.size = h.size - 1 ∧ m'.cl = m.cl ∧ m'.key = m.key ∧
      (∀ z, z ≠ 0 → z ∉ (onlyChild l r).ids → z ≠ ctxParent k → Agree m m' z) := by
  obtain ⟨m', h', x, b1, _, b3, b⟩ := btEraseNode_one (Zip.of_plug ht) hone
  exact ⟨m', h', b1, b3.isTree, b⟩

/-- the link surgery of `__cstl_bintree_erase` on a node with two children: the in-order successor
(leftmost node of the right subtree; possibly the right child itself) takes the node's place -/
theorem erase_surgery_two_children {m : TM} {h : Hd} {k : Ctx} {c cy : Color} {l r ry : Tree} {e ye : Elem}
    (ht : IsTree m h.root 0 (plug k (.node c l e r))) (hsz : h.size = (plug k (.node c l e r)).size)
    (hl : l ≠ .nil) (hr : r ≠ .nil) (hm : minSub r = .node cy .nil ye ry) :
    ∃ m' h', btEraseNode m h e.id = some (m', h', ye.id) ∧
      IsTree m' h'.root 0 (plug k (.node cy l ye (plug (spine r) ry))) ∧
      h'.size = h.size - 1 ∧ m'.cl = m.cl ∧ m'.key = m.key ∧
      (∀ z, z ≠ 0 → z ∉ (Tree.node c l e r).ids → z ≠ ctxParent k → Agree m m' z) := by
  have hfuel : r.height ≤ h.size + 1 := by
    have h1 := height_le_size r
    have h2 := size_le_plug k (.node c l e r)
    simp only [Tree.size] at h2
    omega
  obtain ⟨m', h', b1, b3, b4, b5, b6, _, _, _, b10, _⟩ := btEraseNode_two (Zip.of_plug ht) hl hr hm hfuel
  exact ⟨m', h', b1, b3.isTree, b4, b5, b6, b10⟩

/-- on a red-black tree `cstl_rbtree_erase` never dereferences NULL and ends in the functional result -/
theorem rb_erase_refines_inv {m : TM} {h : Hd} {t : Tree} (key : Int) (sx : Nat) (ht : IsTree m h.root 0 t)
    (hsz : h.size = t.size) (hsx0 : sx ≠ 0) (hsxt : sx ∉ t.ids) (hinv : Cstl.Tree.Inv t) :
    ∃ T res m' h', Cstl.Tree.rbErase key t = some (T, res) ∧ Cstl.Tree.Inv T ∧
      rbErase m h key sx = some (m', h', idOpt res) ∧ IsTree m' h'.root 0 T ∧ h'.size = T.size := by
  obtain ⟨T, res, he, hinv'⟩ := Cstl.Tree.rbErase_inv key hinv
  obtain ⟨m', h', g1, g2, g3, _, _⟩ := rb_erase_refines key sx ht hsz hsx0 hsxt he (rootBlack_blacken hinv'.1)
  exact ⟨T, res, m', h', he, hinv', g1, g2, g3⟩

/-- every bintree history (from the empty tree, in a memory whose colour fields are all black —
the bintree never reads or writes them) that stays inside the interface refines `btRun` -/
theorem bt_history_refines (m0 : TM) (hb : ∀ a, m0.cl a = black) (ops : List LOp) (hok : ∀ op ∈ ops, OpOk 0 op)
    {ts : TS} {outs : List Out} (hf : Cstl.Tree.btRun (ops.map toOp) = .ok (ts, outs)) :
    ∃ s rs, runL btStepL ⟨m0, ⟨0, 0⟩⟩ ops = some (s, rs) ∧ Rep s ts ∧ rs.map (·.1) = outs.map outAddr := by
  obtain ⟨s, rs, h1, h2, _, h4⟩ := bt_runL_refines ops ⟨m0, ⟨0, 0⟩⟩ {} ts outs (Rep.init m0) hb hok hf
  exact ⟨s, rs, h1, h2, h4⟩

/-- every red-black history that stays inside the interface refines `rbRun`; the red-black rules
hold after every operation (`Cstl.Tree.run_inv`) -/
theorem rb_history_refines (m0 : TM) (sx : Nat) (hsx0 : sx ≠ 0) (ops : List LOp) (hok : ∀ op ∈ ops, OpOk sx op)
    {ts : TS} {outs : List Out} (hf : Cstl.Tree.rbRun (ops.map toOp) = .ok (ts, outs)) :
    ∃ s rs, runL (rbStepL sx) ⟨m0, ⟨0, 0⟩⟩ ops = some (s, rs) ∧ Rep s ts ∧ Cstl.Tree.Inv ts.t ∧
      rs.map (·.1) = outs.map outAddr :=
  rb_runL_refines hsx0 ops ⟨m0, ⟨0, 0⟩⟩ {} ts outs (Rep.init m0) Cstl.Tree.inv_nil (by simp) hok hf

/-- a red-black history at link level never dereferences NULL and never overruns a loop: it stops
only where the functional history stops, i.e. when an element that is in the tree is inserted again -/
theorem rb_history_no_stop (m0 : TM) (sx : Nat) (hsx0 : sx ≠ 0) (ops : List LOp) (hok : ∀ op ∈ ops, OpOk sx op)
    (hbad : Cstl.Tree.rbRun (ops.map toOp) ≠ .error .badOp) :
    ∃ s rs, runL (rbStepL sx) ⟨m0, ⟨0, 0⟩⟩ ops = some (s, rs) := by
  cases hr : Cstl.Tree.rbRun (ops.map toOp) with
  | error e =>
    cases e with
    | badOp => exact absurd hr hbad
    | segv => exact absurd hr (Cstl.Tree.run_no_segv _)
  | ok r =>
    obtain ⟨ts, outs⟩ := r
    obtain ⟨s, rs, h1, _⟩ := rb_history_refines m0 sx hsx0 ops hok hr
    exact ⟨s, rs, h1⟩

/-- C02, pointer level: after every operation of every red-black history every child's parent link
points back at its parent and the root's parent link is NULL -/
theorem rb_parent_links_ok (m0 : TM) (sx : Nat) (hsx0 : sx ≠ 0) (ops : List LOp) (hok : ∀ op ∈ ops, OpOk sx op)
    {ts : TS} {outs : List Out} (hf : Cstl.Tree.rbRun (ops.map toOp) = .ok (ts, outs)) :
    ∃ s rs, runL (rbStepL sx) ⟨m0, ⟨0, 0⟩⟩ ops = some (s, rs) ∧
      (s.h.root ≠ 0 → s.m.pr s.h.root = 0) ∧
      ∀ a ∈ ts.t.ids, a ≠ 0 ∧ (s.m.lf a ≠ 0 → s.m.pr (s.m.lf a) = a) ∧ (s.m.rt a ≠ 0 → s.m.pr (s.m.rt a) = a) := by
  obtain ⟨s, rs, h1, h2, _, _⟩ := rb_history_refines m0 sx hsx0 ops hok hf
  exact ⟨s, rs, h1, parent_links_ok h2.tree⟩

/-- C01, pointer level: the same for the plain binary tree -/
theorem bt_parent_links_ok (m0 : TM) (hb : ∀ a, m0.cl a = black) (ops : List LOp) (hok : ∀ op ∈ ops, OpOk 0 op)
    {ts : TS} {outs : List Out} (hf : Cstl.Tree.btRun (ops.map toOp) = .ok (ts, outs)) :
    ∃ s rs, runL btStepL ⟨m0, ⟨0, 0⟩⟩ ops = some (s, rs) ∧
      (s.h.root ≠ 0 → s.m.pr s.h.root = 0) ∧
      ∀ a ∈ ts.t.ids, a ≠ 0 ∧ (s.m.lf a ≠ 0 → s.m.pr (s.m.lf a) = a) ∧ (s.m.rt a ≠ 0 → s.m.pr (s.m.rt a) = a) := by
  obtain ⟨s, rs, h1, h2, _⟩ := bt_history_refines m0 hb ops hok hf
  exact ⟨s, rs, h1, parent_links_ok h2.tree⟩

/-- the driver's dump of a state reached by a history is the functional tree -/
theorem rb_history_dump (m0 : TM) (sx : Nat) (hsx0 : sx ≠ 0) (ops : List LOp) (hok : ∀ op ∈ ops, OpOk sx op)
    {ts : TS} {outs : List Out} (hf : Cstl.Tree.rbRun (ops.map toOp) = .ok (ts, outs)) (lim : Nat)
    (hlim : ts.t.size ≤ lim) :
    ∃ s rs, runL (rbStepL sx) ⟨m0, ⟨0, 0⟩⟩ ops = some (s, rs) ∧
      readTree s.m (lim + 1) s.h.root 0 lim = .ok (ts.t, lim - ts.t.size) := by
  obtain ⟨s, rs, h1, h2, _, _⟩ := rb_history_refines m0 sx hsx0 ops hok hf
  refine ⟨s, rs, h1, readTree_spec ts.t _ _ _ _ h2.tree.shape ?_ hlim⟩
  have := height_le_size ts.t
  omega

/-! ### heap: cstl_heap_promote_child (pointer level of C07) -/

/-- `cstl_heap_promote_child(h, c)` anywhere in a tree: the node `c` (element `ce`) and its parent
(element `pe`) exchange positions — `c` gets the parent's place and other child `ps`, the parent
gets `c`'s place and children `cl`, `cr`; every parent link of the result points back
(`parent_links_ok`); nothing outside the two nodes, their children's parent links and the
grandparent's child link is written.  This is the step lean/Cstl/Heap/Model.lean abstracts to
"the two elements exchange positions"; `promoteChild` is tied to the C source by the translator
(TieHeap.lean). -/
theorem heap_promote_child_refines {m : TM} {h : Hd} {k : Ctx} {d : Bool} {cp cc : Color} {cl cr ps : Tree}
    {ce pe : Elem} (ht : IsTree m h.root 0 (plug k (mkNode d cp (.node cc cl ce cr) pe ps))) :
    IsTree (promoteChild m h ce.id).1 (promoteChild m h ce.id).2.root 0
        (plug k (mkNode d cc (.node cp cl pe cr) ce ps)) ∧
      (promoteChild m h ce.id).2.size = h.size ∧ (promoteChild m h ce.id).1.cl = m.cl ∧
      (promoteChild m h ce.id).1.key = m.key ∧
      (∀ z, z ≠ 0 → z ∉ (mkNode d cp (.node cc cl ce cr) pe ps).ids → z ≠ ctxParent k →
        Agree m (promoteChild m h ce.id).1 z) := by
  obtain ⟨a1, a⟩ := promoteChild_spec (Zip.of_plug ht)
  exact ⟨a1.isTree, a⟩

/-! ### non-vacuity: a concrete memory that represents a tree, and operations on it -/

/-- nodes 1 (key 10, red), 2 (key 20, black, the root), 3 (key 30, red) -/
def exM : TM :=
  { pr := fun a => if a = 1 ∨ a = 3 then 2 else 0
    lf := fun a => if a = 2 then 1 else 0
    rt := fun a => if a = 2 then 3 else 0
    cl := fun a => if a = 2 then black else if a = 1 ∨ a = 3 then red else black
    key := fun a => 10 * (a : Int) }

def exT : Tree := .node black (.node red .nil ⟨10, 1, 0, 0⟩ .nil) ⟨20, 2, 0, 0⟩ (.node red .nil ⟨30, 3, 0, 0⟩ .nil)

example : IsTree exM 2 0 exT := ⟨by simp [exT, exM, elemAt], by simp [exT]⟩
example : Cstl.Tree.Inv exT := by
  refine ⟨rfl, by simp [exT, Cstl.Tree.NoRedRed, Tree.isRed], 1, ?_⟩
  simp [exT, Cstl.Tree.blackCounts]
example : btFind exM ⟨2, 3⟩ 30 = some (3, 2) := by decide
example : OpOk 9 (.ins 4 25) := by simp [OpOk]
/-- promote node 1 above the root 2: the root becomes 1 with children 2 and 3 -/
example : ((promoteChild exM ⟨2, 3⟩ 1).2.root, (promoteChild exM ⟨2, 3⟩ 1).1.lf 1, (promoteChild exM ⟨2, 3⟩ 1).1.rt 1,
    (promoteChild exM ⟨2, 3⟩ 1).1.pr 2, (promoteChild exM ⟨2, 3⟩ 1).1.pr 3) = (1, 2, 3, 1, 1) := by decide
/-- a history that takes the insert fix-up through a recolouring and rotations and the erase
fix-up through the stand-in node -/
example : (Cstl.Tree.rbRun ([LOp.ins 1 10, .ins 2 20, .ins 3 30, .ins 4 25, .ins 5 27, .erase 10, .erase 30].map toOp)).toBool = true := by
  decide

end Cstl.TreeL
