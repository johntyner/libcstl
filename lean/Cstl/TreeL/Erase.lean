import Cstl.TreeL.Surgery
/-
__cstl_bintree_erase at link level.  The function is the composition of
`unlink` (Surgery.lean: a node with at most one child is taken out: its child moves up) and,
when the node taken out was the in-order successor `y` of the node `bn` to be
erased, `substNode` (`y` takes over `bn`'s position and links, `bn` receives
`y`'s saved links, with the `bn->p == bn` correction).
-/
namespace Cstl.TreeL
open Cstl.SList (Mem upd upd_same upd_other)
open Cstl.Tree (Color Elem Tree)
open Cstl.Tree.Color Cstl.Tree.Tree

/-- second half (`y != bn`): `y` takes `bn`'s place, `bn` gets `y`'s saved links -/
def substNode (m2 : TM) (h2 : Hd) (bn y : Nat) : TM × Hd :=
  let tp := m2.pr y
  let tl := m2.lf y
  let tr := m2.rt y
  let r3 := replaceChild m2 h2 bn y
  let m3 := r3.1
  let h3 := r3.2
  let m4 := if m3.lf bn ≠ 0 then setP m3 (m3.lf bn) y else m3
  let m5 := if m4.rt bn ≠ 0 then setP m4 (m4.rt bn) y else m4
  let m6 := setRt (setLf (setP m5 y (m5.pr bn)) y (m5.lf bn)) y (m5.rt bn)
  let m7 := setRt (setLf (setP m6 bn tp) bn tl) bn tr
  let m8 := if m7.pr bn = bn then setP m7 bn y else m7
  (m8, h3)

theorem btEraseNode_eq (m : TM) (h : Hd) (bn : Nat) :
    btEraseNode m h bn =
      match (if m.lf bn ≠ 0 ∧ m.rt bn ≠ 0 then slide m true h.size (m.rt bn) else some bn) with
      | none => none
      | some y =>
        if y ≠ bn then
          some ((substNode (unlink m h y).1 (unlink m h y).2 bn y).1,
            { (substNode (unlink m h y).1 (unlink m h y).2 bn y).2 with
              size := (substNode (unlink m h y).1 (unlink m h y).2 bn y).2.size - 1 }, y)
        else some ((unlink m h y).1, { (unlink m h y).2 with size := (unlink m h y).2.size - 1 }, y) := by
  -- both sides unfolded and their `let`s substituted are the same term
  delta unlink substNode btEraseNode
  dsimp only
  rfl

theorem substNode_fields (m : TM) (h : Hd) (bn y : Nat) {p : Nat} (hp : m.pr bn = p) (hyb : y ≠ bn)
    (hbp : bn ≠ p) (hbl : bn ≠ m.lf bn) (hbr : bn ≠ m.rt bn) :
    SubstRes m h bn p y (substNode m h bn y).1 (substNode m h bn y).2 := by
  constructor
  · simp only [substNode, setP_cl, setLf_cl, setRt_cl, replaceChild_cl, setP_if_cl]
  · simp only [substNode, setP_key, setLf_key, setRt_key, replaceChild_key, setP_if_key]
  · simp only [substNode, replaceChild_size]
  all_goals
    intros
    simp only [substNode, replaceChild_root, replaceChild_pr, replaceChild_lf, replaceChild_rt, setP_if_pr,
      setP_if_lf, setP_if_rt, setP_pr, setP_lf, setP_rt, setLf_pr, setLf_lf, setLf_rt, setRt_pr, setRt_lf, setRt_rt,
      upd_apply, hp, hyb.symm, hbp, hbl, hbr, and_false, if_false, if_true]
  all_goals grind

/-- `*bn = t` comes last: `bn` is left with `y`'s former links, whatever the memory -/
theorem substNode_self (m : TM) (h : Hd) (bn y : Nat) :
    (substNode m h bn y).1.pr bn = (if m.pr y = bn then y else m.pr y) ∧
      (substNode m h bn y).1.lf bn = m.lf y ∧ (substNode m h bn y).1.rt bn = m.rt y := by
  simp only [substNode, setP_if_pr, setP_if_lf, setP_if_rt, setP_pr, setP_lf, setP_rt, setLf_pr, setLf_lf, setLf_rt,
    setRt_pr, setRt_lf, setRt_rt, upd_apply, if_true, and_true]

theorem substNode_spec {m : TM} {h : Hd} {k : Ctx} {bn p y : Nat} {c : Color} {l r : Tree} {e : Elem}
    (hz : Zip m h.root k bn p (.node c l e r)) (hy0 : y ≠ 0) (hyt : y ∉ (Tree.node c l e r).ids)
    (hyk : y ∉ ctxIds k) :
    Zip (substNode m h bn y).1 (substNode m h bn y).2.root k y p (.node (m.cl y) l (elemAt m y) r) ∧
      (substNode m h bn y).2.size = h.size ∧ (substNode m h bn y).1.cl = m.cl ∧
      (substNode m h bn y).1.key = m.key ∧
      (substNode m h bn y).1.pr bn = (if m.pr y = bn then y else m.pr y) ∧
      (substNode m h bn y).1.lf bn = m.lf y ∧ (substNode m h bn y).1.rt bn = m.rt y ∧
      (∀ z, z ≠ bn → z ≠ y → z ≠ p → z ≠ m.lf bn → z ≠ m.rt bn → Agree m (substNode m h bn y).1 z) := by
  obtain ⟨s1, s2, s3, s4, s8⟩ := hz.subst hy0 hyt hyk (substNode_fields m h bn y)
  obtain ⟨s5, s6, s7⟩ := substNode_self m h bn y
  exact ⟨s1, s2, s3, s4, s5, s6, s7, s8⟩

/-- `cstl_bintree_slide(a, left)` from the focus ends at the leftmost node of the focused subtree -/
theorem slide_spec {m : TM} {root : Nat} : ∀ (t : Tree) (K : Ctx) (a p fuel : Nat),
    Zip m root K a p t → t ≠ .nil → t.height ≤ fuel + 1 →
    ∃ y py, slide m true fuel a = some y ∧ Zip m root (spine t ++ K) y py (minSub t) := by
  intro t
  induction t with
  | nil => intro K a p fuel _ ht; exact absurd rfl ht
  | node c l e r ihl _ =>
    intro K a p fuel hz _ hfuel
    cases l with
    | nil =>
      have hs := hz.sub
      simp only [Shape_node, Shape_nil] at hs
      refine ⟨a, p, ?_, by simpa [spine, minSub] using hz⟩
      cases fuel <;> simp [slide, chL, hs.2.2.2.2.1]
    | node lc ll le lr =>
      have hs := hz.sub
      simp only [Shape_node] at hs
      have hl0 : m.lf a ≠ 0 := hs.2.2.2.2.1.1
      simp only [Tree.height] at hfuel
      cases fuel with
      | zero => omega
      | succ f =>
        obtain ⟨y, py, h1, h2⟩ := ihl (.L c e r :: K) (m.lf a) a f hz.downL (by simp)
          (by simp only [Tree.height]; omega)
        refine ⟨y, py, ?_, ?_⟩
        · simp only [slide, chL, if_true, hl0, if_false]; exact h1
        · simpa [spine, minSub, List.append_assoc] using h2

/-- `__cstl_bintree_erase(bt, bn)`, `bn` with at most one child: the child moves up; `bn`'s own
fields keep their values -/
theorem btEraseNode_one {m : TM} {h : Hd} {k : Ctx} {bn p : Nat} {c : Color} {l r : Tree} {e : Elem}
    (hz : Zip m h.root k bn p (.node c l e r)) (hone : l = .nil ∨ r = .nil) :
    ∃ m' h' x, btEraseNode m h bn = some (m', h', bn) ∧
      x = (if m.lf bn ≠ 0 then m.lf bn else m.rt bn) ∧
      Zip m' h'.root k x p (onlyChild l r) ∧ h'.size = h.size - 1 ∧ m'.cl = m.cl ∧ m'.key = m.key ∧
      (∀ z, z ≠ 0 → z ∉ (onlyChild l r).ids → z ≠ p → Agree m m' z) := by
  obtain ⟨x, hx, h1, h2, h3, h4, h5⟩ := unlink_spec hz
  have hs := hz.sub
  simp only [Shape_node] at hs
  have hcond : ¬ (m.lf bn ≠ 0 ∧ m.rt bn ≠ 0) := by
    rcases hone with rfl | rfl
    · have : m.lf bn = 0 := hs.2.2.2.2.1; simp [this]
    · have : m.rt bn = 0 := hs.2.2.2.2.2; simp [this]
  refine ⟨(unlink m h bn).1, { (unlink m h bn).2 with size := (unlink m h bn).2.size - 1 }, x, ?_, hx, h1, ?_,
    h3, h4, h5⟩
  · rw [btEraseNode_eq]; simp only [hcond, if_false, ne_eq, not_true_eq_false]
  · simp [h2]

/-- `__cstl_bintree_erase(bt, bn)`, `bn` with two children: the in-order successor `y` (leftmost node
of the right subtree) is taken out and put in `bn`'s place; `bn` is left with `y`'s former links, its
parent link corrected to `y` when `y` was its right child -/
theorem btEraseNode_two {m : TM} {h : Hd} {k : Ctx} {bn p : Nat} {c cy : Color} {l r ry : Tree} {e ye : Elem}
    (hz : Zip m h.root k bn p (.node c l e r)) (hl : l ≠ .nil) (hr : r ≠ .nil)
    (hm : minSub r = .node cy .nil ye ry) (hfuel : r.height ≤ h.size + 1) :
    ∃ m' h', btEraseNode m h bn = some (m', h', ye.id) ∧
      Zip m' h'.root k ye.id p (.node cy l ye (plug (spine r) ry)) ∧
      h'.size = h.size - 1 ∧ m'.cl = m.cl ∧ m'.key = m.key ∧
      m'.lf bn = 0 ∧ m'.rt bn = m.rt ye.id ∧ m'.pr bn = ctxParent (spine r ++ .R cy l ye :: k) ∧
      (∀ z, z ≠ 0 → z ∉ (Tree.node c l e r).ids → z ≠ p → Agree m m' z) ∧
      Shape m (m.rt ye.id) ye.id ry := by
  have hs := hz.sub
  simp only [Shape_node] at hs
  obtain ⟨hb0, he, hc, hpb, hsl, hsr⟩ := hs
  have heid : e.id = bn := by simp [he]
  have hl0 : m.lf bn ≠ 0 := fun e' => hl (hsl.zero_iff.mp e')
  have hr0 : m.rt bn ≠ 0 := fun e' => hr (hsr.zero_iff.mp e')
  obtain ⟨y, py, hslide, hzy⟩ := slide_spec r (.R c l e :: k) (m.rt bn) bn h.size hz.downR hr hfuel
  rw [hm] at hzy
  have hyid : ye.id = y := hzy.sub.id_eq
  have hsy := hzy.sub
  simp only [Shape_node, Shape_nil] at hsy
  obtain ⟨hy0, hye, hcy, hpy, hyl0, hsry⟩ := hsy
  have hny := hzy.nodup
  simp only [Cstl.Tree.ids_node, Cstl.Tree.ids_nil, List.nil_append, hyid, List.cons_append, List.nodup_cons,
    List.mem_append, not_or] at hny
  obtain ⟨⟨hyry, hyK⟩, hnrest⟩ := hny
  obtain ⟨x, _, hz2, hsz2, hcl2, hkey2, hfr2⟩ := unlink_spec hzy
  have honly : onlyChild .nil ry = ry := rfl
  rw [honly] at hz2
  have hagy : Agree m (unlink m h y).1 y := hfr2 y hy0 hyry (hzy.parent_ne hy0 hyK)
  have hz4 : Zip (unlink m h y).1 (unlink m h y).2.root k bn p (.node c l e (plug (spine r) ry)) := by
    rw [← heid, hz.ctx.parent_eq]
    exact (Zip.plugUp (spine r) hz2).upR.addr
  have hpe : py = ctxParent (spine r ++ .R c l e :: k) := hzy.ctx.parent_eq
  have hyK' := hyK
  simp only [ctxIds_append, ctxIds_cons, Frame.ids_R, List.mem_append, List.mem_cons, not_or, heid] at hyK'
  obtain ⟨hyS, ⟨hy2, hy3⟩, hy4⟩ := hyK'
  have hyt : y ∉ (Tree.node c l e (plug (spine r) ry)).ids := by
    simp only [Cstl.Tree.ids_node, List.mem_append, List.mem_cons, mem_plug_ids, not_or, heid]
    exact ⟨hy3, hy2, hyry, hyS⟩
  obtain ⟨s1, s2, s3, s4, s5, s6, s7, s8⟩ := substNode_spec hz4 hy0 hyt hy4
  refine ⟨(substNode (unlink m h y).1 (unlink m h y).2 bn y).1,
    { (substNode (unlink m h y).1 (unlink m h y).2 bn y).2 with
      size := (substNode (unlink m h y).1 (unlink m h y).2 bn y).2.size - 1 }, ?_, ?_, ?_, ?_, ?_, ?_, ?_, ?_, ?_,
    by rw [hyid]; exact hsry⟩
  · rw [btEraseNode_eq]
    simp only [hl0, hr0, ne_eq, not_false_eq_true, and_self, if_true, hslide, hy2, hyid]
  · rw [hyid]
    have e1 : (unlink m h y).1.cl y = cy := by rw [hcl2]; exact hcy
    have e2 : elemAt (unlink m h y).1 y = ye := by rw [hye]; simp [elemAt, hkey2]
    rw [e1, e2] at s1
    exact s1
  · simp [s2, hsz2]
  · rw [s3, hcl2]
  · rw [s4, hkey2]
  · rw [s6, hagy.2.1]; exact hyl0
  · rw [s7, hagy.2.2.1, hyid]
  · -- `bn` is left with `y`'s parent link, which pointed at `bn` itself when `y` was its right child
    rw [s5, hagy.1, hpy]
    rcases ctxParent_spine r c l e k with ⟨hsp, h1⟩ | ⟨hin, hind⟩
    · rw [hpe, h1, heid, if_pos rfl, hsp]
      exact hyid.symm
    · rw [hind cy l ye, ← hpe, if_neg fun e' : py = bn => hz.node_sep.2.1 (e' ▸ hpe ▸ hin)]
  · intro z hz0 hzt hzp
    simp only [Cstl.Tree.ids_node, List.mem_append, List.mem_cons, not_or, heid] at hzt
    obtain ⟨hzl, hzb, hzr⟩ := hzt
    have hyr : y ∈ r.ids := (minSub_ids hm y).mpr (Or.inl hyid.symm)
    have hsub2 : ∀ w ∈ (plug (spine r) ry).ids, w ∈ r.ids := fun w hw => (minSub_ids hm w).mpr (Or.inr hw)
    have hsub1 : ∀ w ∈ ry.ids, w ∈ r.ids := fun w hw => hsub2 w (mem_plug_ids.mpr (Or.inl hw))
    have hs4 := hz4.sub
    simp only [Shape_node] at hs4
    refine (hfr2 z hz0 (fun hc' => hzr (hsub1 z hc')) ?_).trans (s8 z hzb ?_ hzp ?_ ?_)
    · rcases ctxParent_spine r c l e k with ⟨_, h1⟩ | ⟨hin, _⟩
      · exact fun e' => hzb (e'.trans (hpe.trans (h1.trans heid)))
      · exact fun e' => hzr (e' ▸ hpe ▸ hin)
    · intro e'; exact hzr (e' ▸ hyr)
    · exact hs4.2.2.2.2.1.root_ne hzl hz0
    · exact hs4.2.2.2.2.2.root_ne (fun h' => hzr (hsub2 z h')) hz0

end Cstl.TreeL
