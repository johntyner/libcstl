import Cstl.TreeL.Insert
import Cstl.TreeL.Erase
import Cstl.Tree.PropsC01
/-
cstl_bintree_find / insert / erase at link level refine the functional
`find` / `btIns` / `btInsAt` / `btErase` of Cstl.Tree.
-/
namespace Cstl.TreeL
open Cstl.SList (Mem upd upd_same upd_other)
open Cstl.Tree (Color Elem Tree)
open Cstl.Tree.Color Cstl.Tree.Tree

/-- the address a find / erase result stands for (NULL for `none`) -/
def idOpt : Option Elem → Nat
  | none => 0
  | some e => e.id

@[simp] theorem idOpt_none : idOpt none = 0 := rfl
@[simp] theorem idOpt_some (e : Elem) : idOpt (some e) = e.id := rfl

/-- the loop of `cstl_bintree_find` computes the functional `findAux` (both results) -/
theorem findLoop_spec {m : TM} {key : Int} : ∀ (t : Tree) (a p fuel : Nat) (q : Option Elem),
    Shape m a p t → t.height ≤ fuel →
    findLoop m key fuel a (idOpt q) =
      some (idOpt (Cstl.Tree.findAux key q t).1, idOpt (Cstl.Tree.findAux key q t).2) := by
  intro t
  induction t with
  | nil =>
    intro a p fuel q hs _
    have : a = 0 := hs
    subst this
    cases fuel <;> simp [findLoop, Cstl.Tree.findAux]
  | node c l e r ihl ihr =>
    intro a p fuel q hs hfuel
    simp only [Shape_node] at hs
    obtain ⟨ha0, he, _, _, hsl, hsr⟩ := hs
    have hk : e.key = m.key a := by simp [he]
    have hid : e.id = a := by simp [he]
    simp only [Tree.height] at hfuel
    cases fuel with
    | zero => omega
    | succ f =>
      simp only [findLoop, ha0, if_false, Cstl.Tree.findAux, hk]
      by_cases h1 : key = m.key a
      · simp [h1, hid]
      · simp only [h1, if_false]
        by_cases h2 : key < m.key a
        · simp only [h2, if_true]
          have := ihl (m.lf a) a f (some e) hsl (by omega)
          simpa [hid] using this
        · simp only [h2, if_false]
          have := ihr (m.rt a) a f (some e) hsr (by omega)
          simpa [hid] using this

/-- `cstl_bintree_find` (both results) -/
theorem find_refines {m : TM} {h : Hd} {t : Tree} (key : Int) (ht : IsTree m h.root 0 t) (hsz : h.size = t.size) :
    btFind m h key = some (idOpt (Cstl.Tree.find key t).1, idOpt (Cstl.Tree.find key t).2) := by
  have := findLoop_spec (key := key) t h.root 0 (h.size + 1) none ht.shape
    (by have := height_le_size t; omega)
  simpa [btFind, Cstl.Tree.find] using this

theorem btFind_spec {m : TM} {h : Hd} {t : Tree} (key : Int) (ht : IsTree m h.root 0 t) (hsz : h.size = t.size) :
    btFind m h key = some (idOpt (Cstl.Tree.find key t).1, idOpt (Cstl.Tree.find key t).2) :=
  find_refines key ht hsz

/-- the node `find` returns, as a focus -/
theorem find_zip {m : TM} {root : Nat} {t : Tree} {key : Int} {e : Elem} (ht : IsTree m root 0 t)
    (hf : (Cstl.Tree.find key t).1 = some e) :
    ∃ k c l r, t = plug k (.node c l e r) ∧ DelPath key k ∧ key = e.key ∧
      Zip m root k e.id (ctxParent k) (.node c l e r) := by
  obtain ⟨k, c, l, r, rfl, hpath, hkey⟩ := find_decomp (q := none) hf
  exact ⟨k, c, l, r, rfl, hpath, hkey, Zip.of_plug ht⟩

/-- `cstl_bintree_insert(bt, n, NULL)`.  `hc`: the functional model paints every node black and the bintree never
writes a colour, so the histories keep the whole memory black (`AllBlack`, LHistory.lean) -/
theorem bintree_insert_refines {m : TM} {h : Hd} {t : Tree} {n : Nat} (ht : IsTree m h.root 0 t)
    (hsz : h.size = t.size) (hn0 : n ≠ 0) (hnt : n ∉ t.ids) (hc : m.cl n = black) :
    ∃ m' h', btInsert m h n 0 = some (m', h') ∧
      IsTree m' h'.root 0 (Cstl.Tree.btIns (elemAt m n) t) ∧ h'.size = (Cstl.Tree.btIns (elemAt m n) t).size ∧
      m'.cl = m.cl ∧ m'.key = m.key ∧ (∀ z, z ≠ 0 → z ≠ n → z ∉ t.ids → Agree m m' z) := by
  have hz := Zip.of_isTree ht
  obtain ⟨P, m', h', h1, h2, h3, h4, h5, h6⟩ := btInsert_zip (hint := 0) hz (fun _ => rfl) (fun e => absurd rfl e)
    (by have := height_le_size t; omega) hn0 hnt (by simp)
  refine ⟨m', h', h1, ?_, ?_, h4, h5, h6⟩
  · have := h2.isTree
    rw [List.append_nil, hc] at this
    rw [btIns_plug]
    exact this
  · rw [(Cstl.Tree.btInsert_spec _ t).2.2, h3, hsz]

theorem btInsert_refines {m : TM} {h : Hd} {t : Tree} {n : Nat} (ht : IsTree m h.root 0 t) (hsz : h.size = t.size)
    (hn0 : n ≠ 0) (hnt : n ∉ t.ids) (hc : m.cl n = black) :
    ∃ m' h', btInsert m h n 0 = some (m', h') ∧
      IsTree m' h'.root 0 (Cstl.Tree.btIns (elemAt m n) t) ∧ h'.size = (Cstl.Tree.btIns (elemAt m n) t).size ∧
      m'.cl = m.cl ∧ m'.key = m.key ∧ (∀ z, z ≠ 0 → z ≠ n → z ∉ t.ids → Agree m m' z) :=
  bintree_insert_refines ht hsz hn0 hnt hc

/-- `cstl_bintree_insert(bt, n, hint)`, the hint any node of the tree -/
theorem bintree_insert_hint_refines {m : TM} {h : Hd} {t : Tree} {n hint : Nat} (ht : IsTree m h.root 0 t)
    (hsz : h.size = t.size) (hn0 : n ≠ 0) (hnt : n ∉ t.ids) (hc : m.cl n = black) (hh : hint ∈ t.ids) :
    ∃ m' h' t', Cstl.Tree.btInsAt hint (elemAt m n) t = some t' ∧ btInsert m h n hint = some (m', h') ∧
      IsTree m' h'.root 0 t' ∧ h'.size = h.size + 1 ∧
      m'.cl = m.cl ∧ m'.key = m.key ∧ (∀ z, z ≠ 0 → z ≠ n → z ∉ t.ids → Agree m m' z) := by
  obtain ⟨k, c, l, e, r, rfl, heid, hz⟩ := Zip.of_mem ht hh
  have h0 : hint ≠ 0 := hz.sub.ne_zero
  have hnn : n ∉ (Tree.node c l e r).ids ∧ n ∉ ctxIds k := not_or.mp fun hc' => hnt (mem_plug_ids.mpr hc')
  have hfuel : (Tree.node c l e r).height ≤ h.size + 1 := by
    have h1 := height_le_size (.node c l e r)
    have h2 := size_le_plug k (.node c l e r)
    omega
  obtain ⟨P, m', h', h1, h2, h3, h4, h5, h6⟩ := btInsert_zip (hint := hint) hz (fun e' => absurd e' h0) (fun _ => rfl)
    hfuel hn0 hnn.1 hnn.2
  refine ⟨m', h', plug k (Cstl.Tree.btIns (elemAt m n) (.node c l e r)), ?_, h1, ?_, h3, h4, h5, h6⟩
  · refine btInsAt_plug _ k (hz.focus_notin_ctx h0) ?_
    simp [Cstl.Tree.btInsAt, heid]
  · have := h2.isTree
    rw [plug_insPath, hc] at this
    rw [btIns_plug]
    exact this

theorem btInsertAt_refines {m : TM} {h : Hd} {t : Tree} {n hint : Nat} (ht : IsTree m h.root 0 t)
    (hsz : h.size = t.size) (hn0 : n ≠ 0) (hnt : n ∉ t.ids) (hc : m.cl n = black) (hh : hint ∈ t.ids) :
    ∃ m' h' t', Cstl.Tree.btInsAt hint (elemAt m n) t = some t' ∧ btInsert m h n hint = some (m', h') ∧
      IsTree m' h'.root 0 t' ∧ h'.size = h.size + 1 ∧
      m'.cl = m.cl ∧ m'.key = m.key ∧ (∀ z, z ≠ 0 → z ≠ n → z ∉ t.ids → Agree m m' z) :=
  bintree_insert_hint_refines ht hsz hn0 hnt hc hh

/-- `cstl_bintree_erase`; `hblack` is `AllBlack` of LHistory.lean, as for insert -/
theorem bintree_erase_refines {m : TM} {h : Hd} {t : Tree} (key : Int) (ht : IsTree m h.root 0 t)
    (hsz : h.size = t.size) (hblack : ∀ a, m.cl a = black) :
    ∃ m' h', btErase m h key = some (m', h', idOpt (Cstl.Tree.btErase key t).2) ∧
      IsTree m' h'.root 0 (Cstl.Tree.btErase key t).1 ∧ h'.size = (Cstl.Tree.btErase key t).1.size ∧
      m'.cl = m.cl ∧ m'.key = m.key ∧ (∀ z, z ≠ 0 → z ∉ t.ids → Agree m m' z) := by
  have hfind := find_refines key ht hsz
  cases hf : (Cstl.Tree.find key t).1 with
  | none =>
    refine ⟨m, h, ?_, ?_, ?_, rfl, rfl, fun z _ _ => Agree.rfl' m z⟩
    · simp [btErase, hfind, hf, Cstl.Tree.btErase]
    · simpa [Cstl.Tree.btErase, hf] using ht
    · simpa [Cstl.Tree.btErase, hf] using hsz
  | some e =>
    obtain ⟨k, c, l, r, rfl, hpath, hkey, hz⟩ := find_zip ht hf
    have ha0 : e.id ≠ 0 := hz.sub.ne_zero
    have hres : Cstl.Tree.btErase key (plug k (.node c l e r)) = (plug k (Cstl.Tree.btEraseRoot c l e r), some e) := by
      simp only [Cstl.Tree.btErase, hf, btDel_found hpath hkey]
    have hsize : (plug k (Cstl.Tree.btEraseRoot c l e r)).size + 1 = (plug k (.node c l e r)).size :=
      (Cstl.Tree.btErase_some hres).2.2.2.2
    rw [hres]
    simp only [idOpt_some]
    by_cases hone : l = .nil ∨ r = .nil
    · obtain ⟨m', h', x, h1, _, h3, h4, h5, h6, h7⟩ := btEraseNode_one hz hone
      refine ⟨m', h', by simp only [btErase, hfind, hf, idOpt_some, ha0, if_false, h1], ?_, by omega, h5, h6, ?_⟩
      · rw [btEraseRoot_one c l r e hone]; exact h3.isTree
      · exact hz.frame_global (onlyChild_ids_node c e) h7
    · have hl : l ≠ .nil := fun e' => hone (Or.inl e')
      have hr : r ≠ .nil := fun e' => hone (Or.inr e')
      obtain ⟨cy, ye, ry, hm⟩ := minSub_form hr
      have hfuel : r.height ≤ h.size + 1 := by
        have h1 := height_le_size r
        have h2 := size_le_plug k (.node c l e r)
        simp only [Tree.size] at h2
        omega
      obtain ⟨m', h', herase, Z', hsize', hcl', hkey', _, _, _, hag', _⟩ := btEraseNode_two hz hl hr hm hfuel
      refine ⟨m', h', by simp only [btErase, hfind, hf, idOpt_some, ha0, if_false, herase], ?_, by omega, hcl', hkey', ?_⟩
      · rw [btEraseRoot_two c e hl hm]
        have hcy : cy = c := by rw [← Z'.sub.cl_eq, ← hz.sub.cl_eq, hcl', hblack, hblack]
        rw [← hcy]
        exact Z'.isTree
      · exact hz.frame_global (fun _ hc' => hc') hag'

theorem btErase_refines {m : TM} {h : Hd} {t : Tree} (key : Int) (ht : IsTree m h.root 0 t) (hsz : h.size = t.size)
    (hblack : ∀ a, m.cl a = black) :
    ∃ m' h', btErase m h key = some (m', h', idOpt (Cstl.Tree.btErase key t).2) ∧
      IsTree m' h'.root 0 (Cstl.Tree.btErase key t).1 ∧ h'.size = (Cstl.Tree.btErase key t).1.size ∧
      m'.cl = m.cl ∧ m'.key = m.key ∧ (∀ z, z ≠ 0 → z ∉ t.ids → Agree m m' z) :=
  bintree_erase_refines key ht hsz hblack

end Cstl.TreeL
