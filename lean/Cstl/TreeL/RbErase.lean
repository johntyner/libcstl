import Cstl.TreeL.RbErasePath
import Cstl.TreeL.BtRefine
import Cstl.TreeL.RbInsert
/-
__cstl_rbtree_erase at link level: cstl_rbtree_fix_deletion is one level of the
functional `fixL` / `fixR`; the loop (with its stack-local stand-in for a
missing child) is the way back up of `del` (`unwindD`).
-/
namespace Cstl.TreeL
open Cstl.SList (Mem upd upd_same upd_other)
open Cstl.Tree (Color Elem Tree)
open Cstl.Tree.Color Cstl.Tree.Tree

/-- what the fix-up loop needs to know about its `x` besides the focus: `x->p` is the hole's parent
and `x` is none of the other nodes (it is the root of the focused subtree, or the stand-in) -/
structure XOk (m : TM) (K : Ctx) (p x : Nat) : Prop where
  pr : m.pr x = p
  ne0 : x ≠ 0
  out : x ∉ ctxIds K

/-- first `if` of fix_deletion, red sibling: after the rotation the sibling is the former near nephew -/
theorem fixDelSibling_red {m : TM} {h : Hd} {K : Ctx} {a p x : Nat} {d : Bool} {c : Color} {pe we : Elem}
    {tx wn wf : Tree}
    (hz : Zip m h.root (mkFrame d c pe (mkNode d red wn we wf) :: K) a p tx)
    (hx : XOk m (mkFrame d c pe (mkNode d red wn we wf) :: K) p x) :
    ∃ m' h' w', fixDelSibling m h x d = some (m', h', w') ∧ h'.size = h.size ∧ m'.key = m.key ∧
      Zip m' h'.root (mkFrame d red pe wn :: mkFrame d black we wf :: K) a p tx ∧
      XOk m' (mkFrame d red pe wn :: mkFrame d black we wf :: K) p x ∧ w' = chR m' d p ∧
      (∀ z, z ≠ 0 → z ∉ ctxIds (mkFrame d c pe (mkNode d red wn we wf) :: K) → Agree m m' z) := by
  obtain ⟨hp0, hpid, hpc, hw0, hweid, hwc, hprw, hswn, hswf⟩ := hz.siblingD
  have hxk := hx.out
  simp only [mem_ctxIds_mkFrame, mem_mkNode_ids, not_or, hpid, hweid] at hxk
  obtain ⟨hxp, ⟨hxw, hxwn, hxwf⟩, hxK⟩ := hxk
  have Zp := hz.upD
  have Z1 := (Zp.downD'.setC_rootD black).upD
  rw [mkNode_not] at Z1
  have Z2 := Z1.setC_rootD red
  obtain ⟨m', h', hrot, Z3, hsz, hcl, hkey, hfr⟩ := rotate_spec (h := h) Z2
  have Z5 : Zip m' h'.root (mkFrame d red pe wn :: mkFrame d black we wf :: K) a p tx :=
    Zip.unplug_at [mkFrame d red pe wn, mkFrame d black we wf] (by simpa using Z3) hz (by simp)
  have hfrm : ∀ z, z ≠ 0 → z ∉ ctxIds (mkFrame d c pe (mkNode d red wn we wf) :: K) → Agree m m' z := by
    intro z hz0 hzk
    simp only [mem_ctxIds_mkFrame, mem_mkNode_ids, not_or, hpid, hweid] at hzk
    obtain ⟨hzp, ⟨hzw, hzwn, hzwf⟩, hzK⟩ := hzk
    exact ((Agree.setC black hzw).trans (Agree.setC red hzp)).trans
      (hfr z hzp (by rw [hweid]; exact hzw) (Zp.parent_ne hz0 hzK) hzwn)
  have hprx : m'.pr x = p := (hfrm x hx.ne0 hx.out).1.trans hx.pr
  refine ⟨m', h', chR m' d p, ?_, hsz, by rw [hkey]; rfl, Z5, ⟨hprx, hx.ne0, ?_⟩, rfl, hfrm⟩
  · simp only [fixDelSibling, hx.pr, hw0, if_false, hwc, if_true, setC_pr, hrot]
    rw [hprx]
  · simp only [mem_ctxIds_mkFrame, not_or, hpid, hweid]
    exact ⟨hxp, hxwn, hxw, hxwf, hxK⟩

/-- second `if` of fix_deletion: both nephews black: the sibling is painted red, `x` moves to the parent -/
theorem fixDelCases_black {m : TM} {h : Hd} {K : Ctx} {a p x : Nat} {d : Bool} {c cw : Color} {pe we : Elem}
    {tx wn wf : Tree}
    (hz : Zip m h.root (mkFrame d c pe (mkNode d cw wn we wf) :: K) a p tx)
    (hx : XOk m (mkFrame d c pe (mkNode d cw wn we wf) :: K) p x)
    (hn : wn.isRed = false) (hf : wf.isRed = false) :
    fixDelCases m h x d (chR m d p) = some (setC m (chR m d p) red, h, p) ∧
      Zip (setC m (chR m d p) red) h.root K p (m.pr p) (mkNode d c tx pe (mkNode d red wn we wf)) ∧
      (∀ z, z ≠ chR m d p → Agree m (setC m (chR m d p) red) z) ∧ chR m d p ∈ (mkNode d cw wn we wf).ids := by
  obtain ⟨hp0, hpid, hpc, hw0, hweid, hwc, hprw, hswn, hswf⟩ := hz.siblingD
  have Zp := hz.upD
  have Z1 := (Zp.downD'.setC_rootD red).upD
  rw [mkNode_not] at Z1
  refine ⟨?_, Z1, fun z hz' => Agree.setC red hz', ?_⟩
  · simp only [fixDelCases, hw0, if_false, blackOrNull_iff hswn, blackOrNull_iff hswf, hn, hf, Bool.not_false,
      Bool.and_self, if_true, setC_pr, hx.pr]
  · rw [mem_mkNode_ids]; exact Or.inl hweid.symm

/-- last part of fix_deletion: the far nephew is red -/
theorem fixDelFar_spec {m : TM} {h : Hd} {K : Ctx} {a p x : Nat} {d : Bool} {c cw : Color} {pe we : Elem}
    {tx wn wf : Tree}
    (hz : Zip m h.root (mkFrame d c pe (mkNode d cw wn we wf) :: K) a p tx)
    (hx : XOk m (mkFrame d c pe (mkNode d cw wn we wf) :: K) p x) (hf : wf.isRed = true) :
    ∃ m' h' gp, fixDelFar m h x d (chR m d p) = some (m', h', h'.root) ∧ h'.size = h.size ∧ m'.key = m.key ∧
      Zip m' h'.root K we.id gp (mkNode d c (mkNode d black tx pe wn) we wf.blacken) ∧
      (∀ z, z ≠ 0 → z ∉ ctxIds (mkFrame d c pe (mkNode d cw wn we wf) :: K) → Agree m m' z) := by
  obtain ⟨hp0, hpid, hpc, hw0, hweid, hwc, hprw, hswn, hswf⟩ := hz.siblingD
  have hfr0 := (isRed_iff hswf).mp hf
  cases wf with
  | nil => simp [Tree.isRed] at hf
  | node cf fa fe fb =>
  have hcf : cf = red := by cases cf <;> simp [Tree.isRed] at hf ⊢
  subst hcf
  have hfeid : fe.id = chR m d (chR m d p) := hswf.id_eq
  have Zp := hz.upD
  have Z1 := (Zp.downD'.setC_rootD c).upD
  rw [mkNode_not] at Z1
  have Z2 := Z1.setC_rootD black
  have Z3 := ((Z2.downD'.downD'.setC_root black).upD).upD
  rw [mkNode_not, mkNode_not] at Z3
  simp only [chR_setC, setC_pr, hprw] at Z3
  obtain ⟨m', h', hrot, Z4, hsz, hcl, hkey, hfr⟩ := rotate_spec (h := h) Z3
  refine ⟨m', h', _, ?_, hsz, by rw [hkey]; rfl, by simpa [Tree.blacken] using Z4, ?_⟩
  · simp only [fixDelFar, hw0, if_false, setC_pr, hx.pr, hpc, chR_setC, hfr0.1, hrot]
  · intro z hz0 hzk
    simp only [mem_ctxIds_mkFrame, mem_mkNode_ids, not_or, hpid, hweid, Cstl.Tree.ids_node, List.mem_append,
      List.mem_cons, hfeid] at hzk
    obtain ⟨hzp, ⟨hzw, hzwn, hzfa, hzfe, hzfb⟩, hzK⟩ := hzk
    exact (((Agree.setC c hzw).trans (Agree.setC black hzp)).trans (Agree.setC black hzfe)).trans
      (hfr z hzp (by rw [hweid]; exact hzw) (Zp.parent_ne hz0 hzK) hzwn)

/-- red far nephew: the second part goes straight to the last part -/
theorem fixDelCases_far {m : TM} {h : Hd} {K : Ctx} {a p x : Nat} {d : Bool} {c cw : Color} {pe we : Elem}
    {tx wn wf : Tree}
    (hz : Zip m h.root (mkFrame d c pe (mkNode d cw wn we wf) :: K) a p tx) (hf : wf.isRed = true) :
    fixDelCases m h x d (chR m d p) = fixDelFar m h x d (chR m d p) := by
  obtain ⟨hp0, hpid, hpc, hw0, hweid, hwc, hprw, hswn, hswf⟩ := hz.siblingD
  simp only [fixDelCases, hw0, if_false, blackOrNull_iff hswf, hf, Bool.not_true, Bool.and_false,
    Bool.false_eq_true]

/-- black far nephew, red near nephew: the sibling is rotated so that the far nephew is red -/
theorem fixDelCases_near {m : TM} {h : Hd} {K : Ctx} {a p x : Nat} {d : Bool} {c cw : Color} {pe we ne : Elem}
    {tx na nb wf : Tree}
    (hz : Zip m h.root (mkFrame d c pe (mkNode d cw (mkNode d red na ne nb) we wf) :: K) a p tx)
    (hx : XOk m (mkFrame d c pe (mkNode d cw (mkNode d red na ne nb) we wf) :: K) p x)
    (hf : wf.isRed = false) :
    ∃ m' h' gp, fixDelCases m h x d (chR m d p) = some (m', h', h'.root) ∧ h'.size = h.size ∧ m'.key = m.key ∧
      Zip m' h'.root K ne.id gp (mkNode d c (mkNode d black tx pe na) ne (mkNode d black nb we wf)) ∧
      (∀ z, z ≠ 0 → z ∉ ctxIds (mkFrame d c pe (mkNode d cw (mkNode d red na ne nb) we wf) :: K) → Agree m m' z) := by
  obtain ⟨hp0, hpid, hpc, hw0, hweid, hwc, hprw, hswn, hswf⟩ := hz.siblingD
  have hn := hswn
  rw [Shape_mkNode] at hn
  obtain ⟨hn0, hne, hnc, hprn, _, _⟩ := hn
  have hneid : ne.id = chL m d (chR m d p) := by simp [hne]
  have Zp := hz.upD
  have Z1 := ((Zp.downD'.downD.setC_rootD black).upD).setC_rootD red
  simp only [setC_pr] at Z1
  have e1 : mkNode d red (mkNode d black na ne nb) we wf =
      mkNode (!d) red wf we (mkNode (!d) black nb ne na) := by simp [mkNode_not]
  rw [e1] at Z1
  obtain ⟨m4, h4, hrot, Z2, hsz, hcl, hkey, hfr⟩ := rotate_spec (h := h) Z1
  have Z4 : Zip m4 h4.root (mkFrame d c pe (mkNode d black na ne (mkNode d red nb we wf)) :: K) a p tx :=
    Zip.unplug_at [mkFrame d c pe _] (by simpa [mkNode_not] using Z2.upD) hz (by simp)
  -- the first rotation writes inside the context only, and the context keeps its nodes
  have hfrm4 : ∀ z, z ≠ 0 → z ∉ ctxIds (mkFrame d c pe (mkNode d cw (mkNode d red na ne nb) we wf) :: K) →
      Agree m m4 z ∧ z ∉ ctxIds (mkFrame d c pe (mkNode d black na ne (mkNode d red nb we wf)) :: K) := by
    intro z _ hzk
    simp only [mem_ctxIds_mkFrame, mem_mkNode_ids, not_or, hpid, hweid, hneid] at hzk ⊢
    obtain ⟨hzp, ⟨hzw, ⟨hzn, hzna, hznb⟩, hzwf⟩, hzK⟩ := hzk
    exact ⟨((Agree.setC black hzn).trans (Agree.setC red hzw)).trans
      (hfr z hzw (by rw [hneid]; exact hzn) (by rw [hprw]; exact hzp) hznb), hzp, ⟨hzn, hzna, hzw, hznb, hzwf⟩, hzK⟩
  obtain ⟨hagx, hxout⟩ := hfrm4 x hx.ne0 hx.out
  obtain ⟨m', h', gp, f1, f2, f3, f4, f5⟩ := fixDelFar_spec Z4 ⟨hagx.1.trans hx.pr, hx.ne0, hxout⟩ (by cases d <;> rfl)
  rw [blacken_mkNode] at f4
  refine ⟨m', h', gp, ?_, by rw [f2, hsz], by rw [f3, hkey]; rfl, f4,
    fun z hz0 hzk => (hfrm4 z hz0 hzk).1.trans (f5 z hz0 (hfrm4 z hz0 hzk).2)⟩
  simp only [fixDelCases, hw0, if_false, blackOrNull_iff hswn, blackOrNull_iff hswf, hf, Bool.not_false,
    Bool.and_true, if_true, hn0, hrot, hagx.1, hx.pr]
  have : (mkNode d red na ne nb).isRed = true := by cases d <;> rfl
  simp only [this, Bool.not_true, Bool.false_eq_true, if_false]
  exact f1

/-- first `if` of fix_deletion not taken: the sibling `w` is black and stays the sibling -/
theorem fixDelSibling_black {m : TM} {h : Hd} {K : Ctx} {a p x : Nat} {d : Bool} {c : Color} {pe we : Elem}
    {tx wn wf : Tree}
    (hz : Zip m h.root (mkFrame d c pe (mkNode d black wn we wf) :: K) a p tx) (hpx : m.pr x = p) :
    fixDelSibling m h x d = some (m, h, chR m d p) := by
  obtain ⟨hp0, hpid, hpc, hw0, hweid, hwc, hprw, hswn, hswf⟩ := hz.siblingD
  simp [fixDelSibling, hpx, hw0, hwc]

/-- the three outcomes of one call of `cstl_rbtree_fix_deletion`: the loop goes on one level up with a black
`x'`; it ends with `x' = t->root`; it ends at a red `x'`, which is then painted black -/
def DelOut (m' : TM) (h' : Hd) (x' : Nat) (K' : Ctx) (res : Tree × Bool) (old : Tree) : Prop :=
  (∃ gp T1, Zip m' h'.root K' x' gp T1 ∧ T1.isRed = false ∧ m'.cl x' = black ∧ x' ≠ 0 ∧ res = (T1, true) ∧
      (∀ z, z ∈ (plug K' T1).ids ↔ z ∈ (plug K' old).ids)) ∨
  (∃ Kc top gp T1, Zip m' h'.root (Kc ++ K') top gp T1 ∧ top ≠ 0 ∧ x' = h'.root ∧ res = (plug Kc T1, false) ∧
      (∀ z, z ∈ (plug (Kc ++ K') T1).ids ↔ z ∈ (plug K' old).ids)) ∨
  (∃ Kc gp T1, Zip m' h'.root (Kc ++ K') x' gp T1 ∧ x' ≠ 0 ∧ m'.cl x' = red ∧ res = (plug Kc T1.blacken, false) ∧
      (∀ z, z ∈ (plug (Kc ++ K') T1).ids ↔ z ∈ (plug K' old).ids))

/-- the part of the step below the first `if`, in a context `Kc ++ K'` whose inner part `Kc` is
rebuilt unchanged on the way up.  `Kc` is empty, or it is the frame a red sibling was rotated into; the lowered
parent `c` is then red, so whatever happens below ends the loop (`hKc`, and the `false` of the conclusion) -/
theorem fixDelCases_step {m : TM} {h : Hd} {Kc K' : Ctx} {a p x : Nat} {d : Bool} {c cw : Color} {pe we : Elem}
    {tx wn wf : Tree}
    (hz : Zip m h.root (mkFrame d c pe (mkNode d cw wn we wf) :: (Kc ++ K')) a p tx)
    (hx : XOk m (mkFrame d c pe (mkNode d cw wn we wf) :: (Kc ++ K')) p x)
    (hKc : Kc = [] ∨ c = red) {r : Tree × Bool} (hres : fixBD d c tx pe (mkNode d cw wn we wf) = some r) :
    ∃ m' h' x', fixDelCases m h x d (chR m d p) = some (m', h', x') ∧ h'.size = h.size ∧ m'.key = m.key ∧
      (∀ z, z ≠ 0 → z ∉ ctxIds (mkFrame d c pe (mkNode d cw wn we wf) :: (Kc ++ K')) → Agree m m' z) ∧
      DelOut m' h' x' K' (plug Kc r.1, if Kc = [] then r.2 else false)
        (plug Kc (mkNode d c tx pe (mkNode d cw wn we wf))) := by
  cases hf : wf.isRed with
  | true =>
    obtain ⟨m', h', gp, f1, f2, f3, f4, f5⟩ := fixDelFar_spec hz hx hf
    rw [fixBD_far d c cw tx pe we wn wf hf, Option.some.injEq] at hres
    subst hres
    have htop := f4.focusD
    refine ⟨m', h', h'.root, by rw [fixDelCases_far hz hf, f1], f2, f3, f5, Or.inr (Or.inl ⟨Kc, _, _, _, f4, htop.2, rfl, ?_, ?_⟩)⟩
    · simp
    · rw [plug_append]
      exact mem_plug_congr fun z => by simp only [mem_plug_ids, mem_mkNode_ids, Cstl.Tree.ids_blacken]; grind
  | false =>
    cases hn : wn.isRed with
    | true =>
      cases wn with
      | nil => simp [Tree.isRed] at hn
      | node cn nl ne nr =>
      have hcn : cn = red := by cases cn <;> simp [Tree.isRed] at hn ⊢
      subst hcn
      obtain ⟨na, nb, hnn⟩ := node_as_mkNode d red nl nr ne
      rw [hnn] at hz hx hres ⊢
      obtain ⟨m', h', gp, f1, f2, f3, f4, f5⟩ := fixDelCases_near hz hx hf
      rw [fixBD_near d c cw tx pe we ne na nb wf hf, Option.some.injEq] at hres
      subst hres
      have htop := f4.focusD
      refine ⟨m', h', h'.root, f1, f2, f3, f5, Or.inr (Or.inl ⟨Kc, _, _, _, f4, htop.2, rfl, ?_, ?_⟩)⟩
      · simp
      · rw [plug_append]
        exact mem_plug_congr fun z => by simp only [mem_plug_ids, mem_mkNode_ids]; grind
    | false =>
      obtain ⟨f1, f2, f3, f4⟩ := fixDelCases_black hz hx hn hf
      rw [fixBD_none d c cw tx pe we wn wf hn hf, Option.some.injEq] at hres
      subst hres
      have htop := f2.focusD
      obtain ⟨hp0, hpid, hpc, _, _, _⟩ := hz.frameD
      have hids : ∀ z, z ∈ (plug (Kc ++ K') (mkNode d c tx pe (mkNode d red wn we wf))).ids ↔
          z ∈ (plug K' (plug Kc (mkNode d c tx pe (mkNode d cw wn we wf)))).ids := by
        rw [plug_append]
        exact mem_plug_congr fun z => by simp only [mem_plug_ids, mem_mkNode_ids]
      refine ⟨_, h, p, f1, rfl, rfl, ?_, ?_⟩
      · intro z _ hzk
        refine f3 z ?_
        intro e'
        apply hzk
        rw [mem_ctxIds_mkFrame]
        right; left; rw [e']; exact f4
      · cases c with
        | red =>
          refine Or.inr (Or.inr ⟨Kc, _, _, f2, hp0, htop.1, ?_, hids⟩)
          rw [blacken_mkNode]
          rcases hKc with rfl | _ <;> simp
        | black =>
          rcases hKc with rfl | hc
          · exact Or.inl ⟨_, _, f2, by rw [isRed_mkNode]; rfl, htop.1, hp0, by simp, hids⟩
          · cases hc

theorem DelOut.congr_old {m' : TM} {h' : Hd} {x' : Nat} {K' : Ctx} {res : Tree × Bool} {old old' : Tree}
    (h : DelOut m' h' x' K' res old) (hids' : ∀ z, z ∈ old.ids ↔ z ∈ old'.ids) : DelOut m' h' x' K' res old' := by
  have hids := mem_plug_congr (K := K') hids'
  rcases h with ⟨gp, T1, a1, a2, a3, a4, a5, a6⟩ | ⟨Kc, top, gp, T1, a1, a2, a3, a4, a5⟩ | ⟨Kc, gp, T1, a1, a2, a3, a4, a5⟩
  · exact Or.inl ⟨gp, T1, a1, a2, a3, a4, a5, fun z => (a6 z).trans (hids z)⟩
  · exact Or.inr (Or.inl ⟨Kc, top, gp, T1, a1, a2, a3, a4, fun z => (a5 z).trans (hids z)⟩)
  · exact Or.inr (Or.inr ⟨Kc, gp, T1, a1, a2, a3, a4, fun z => (a5 z).trans (hids z)⟩)

/-- one call of `cstl_rbtree_fix_deletion` is one level of the functional `fixL` / `fixR` -/
theorem fixDeletion_step {m : TM} {h : Hd} {K' : Ctx} {a p x : Nat} {d : Bool} {c : Color} {pe : Elem}
    {tx w : Tree}
    (hz : Zip m h.root (mkFrame d c pe w :: K') a p tx) (hx : XOk m (mkFrame d c pe w :: K') p x)
    {r : Tree × Bool} (hres : fixD d c tx pe w = some r) :
    ∃ m' h' x', fixDeletion m h x d = some (m', h', x') ∧ h'.size = h.size ∧ m'.key = m.key ∧
      (∀ z, z ≠ 0 → z ∉ ctxIds (mkFrame d c pe w :: K') → Agree m m' z) ∧
      DelOut m' h' x' K' r (mkNode d c tx pe w) := by
  cases w with
  | nil =>
    rw [fixD_notRed d c tx pe .nil rfl, fixBD_nil] at hres
    cases hres
  | node cw wl we wr =>
    obtain ⟨wn, wf, hw⟩ := node_as_mkNode d cw wl wr we
    rw [hw] at hz hx hres ⊢
    cases cw with
    | black =>
      rw [fixD_notRed d c tx pe _ (by rw [isRed_mkNode]; rfl)] at hres
      obtain ⟨m', h', x', f1, f2, f3, f4, f5⟩ := fixDelCases_step (Kc := []) hz hx (Or.inl rfl) hres
      refine ⟨m', h', x', ?_, f2, f3, f4, by simpa using f5⟩
      simp only [fixDeletion, fixDelSibling_black hz hx.pr, f1]
    | red =>
      obtain ⟨m1, h1, w1, s1, s2, s3, Z1, hx1, hw1, s4⟩ := fixDelSibling_red hz hx
      rw [fixD_red] at hres
      cases hr0 : fixBD d red tx pe wn with
      | none => rw [hr0] at hres; cases hres
      | some r0 =>
        rw [hr0, Option.map_some, Option.some.injEq] at hres
        cases wn with
        | nil => rw [fixBD_nil] at hr0; cases hr0
        | node cn nl ne nr =>
          obtain ⟨nn, nf, hnn⟩ := node_as_mkNode d cn nl nr ne
          rw [hnn] at Z1 hx1 hr0 s4 ⊢
          obtain ⟨m', h', x', f1, f2, f3, f4, f5⟩ := fixDelCases_step (Kc := [mkFrame d black we wf]) (K' := K')
            Z1 hx1 (Or.inr rfl) hr0
          refine ⟨m', h', x', ?_, by rw [f2, s2], by rw [f3, s3], ?_, ?_⟩
          · simp only [fixDeletion, s1, hw1, f1]
          · intro z hz0 hzk
            refine (s4 z hz0 hzk).trans (f4 z hz0 ?_)
            simp only [List.singleton_append, mem_ctxIds_mkFrame, mem_mkNode_ids, not_or] at hzk ⊢
            obtain ⟨g1, ⟨g2, g3, g4⟩, g5⟩ := hzk
            exact ⟨g1, g3, g2, g4, g5⟩
          · rw [← hres]
            have : (if [mkFrame d black we wf] = [] then r0.2 else false) = false := by simp
            rw [this] at f5
            refine DelOut.congr_old (by simpa using f5) ?_
            intro z
            simp only [mem_mkNode_ids]
            grind

theorem delFixLoop_exit {m : TM} {h : Hd} {x : Nat} (sx fuel : Nat) (hx0 : x ≠ 0)
    (hc : ¬ (m.pr x ≠ 0 ∧ m.cl x = black)) : delFixLoop sx fuel m h x = some (m, h, x) := by
  cases fuel <;> simp only [delFixLoop, hx0, hc, if_false]

/-- the side test of the erase loop, including the clause for the stand-in -/
theorem del_dir_test {m : TM} {root a p x sx : Nat} {K' : Ctx} {d : Bool} {c : Color} {pe : Elem} {w tx : Tree}
    (hz : Zip m root (mkFrame d c pe w :: K') a p tx) (hw : w ≠ .nil)
    (hxa : (x = a ∧ a ≠ 0) ∨ (x = sx ∧ a = 0)) (hsxt : sx ∉ tx.ids) (hsxw : sx ∉ w.ids) (hsx0 : sx ≠ 0) :
    (decide (x = m.lf p) || (decide (x = sx) && decide (m.lf p = 0))) = d := by
  rcases hxa with ⟨rfl, ha0⟩ | ⟨rfl, ha0⟩
  · have h1 := hz.side_test ha0
    cases d
    · have : x ≠ sx := fun e' => hsxt (e' ▸ hz.sub.root_mem ha0)
      simp [h1, this]
    · simp [h1]
  · subst ha0
    obtain ⟨hp0, _, _, hpl, hsw, _⟩ := hz.frameD
    cases d
    · simp only [chL, chR, Bool.false_eq_true, if_false] at hpl hsw
      have hl0 : m.lf p ≠ 0 := fun e' => hw (hsw.zero_iff.mp e')
      have : x ≠ m.lf p := fun e' => hsxw (e' ▸ hsw.root_mem hl0)
      simp [this, hl0]
    · simp only [chL, if_true] at hpl
      simp [hpl, hsx0]

/-- the erase fix-up loop: `x` is the (black or missing) root of the focused subtree, whose paths
are one black node short; for a missing child `x` is the stack-local stand-in `sx` with
`sx->p` = the hole's parent.  The loop finishes, and after `*BN_COLOR(x) = B` the memory represents
what the recursion of the functional `del` returns on its way back up — up to the colour of the
root, which the C code paints black when the loop ends there (no difference on a tree whose root is
black, see `rb_erase_refines`).  Hence the disjunction in the conclusion, which the statements below
carry along: the result is `T.blacken` (the loop reached the root, or stopped at a red `x`: painted
black), or it is `T` itself, and then `del` reports no missing black node (`s = false`) -/
theorem rb_fix_deletion_loop_refines (sx : Nat) (hsx0 : sx ≠ 0) (K : Ctx) (fuel : Nat) (m : TM) (h : Hd)
    (a p x : Nat) (tx T : Tree) (s : Bool) (hlen : K.length ≤ fuel) (hz : Zip m h.root K a p tx)
    (hx : XOk m K p x) (htx : tx.isRed = false) (hcx : m.cl x = black)
    (hxa : (x = a ∧ a ≠ 0) ∨ (x = sx ∧ a = 0)) (hsx : sx ∉ (plug K tx).ids)
    (hun : unwindD K (tx, true) = some (T, s)) :
    ∃ m' h' x' T'', delFixLoop sx fuel m h x = some (m', h', x') ∧
      IsTree (setC m' x' black) h'.root 0 T'' ∧ (T'' = T.blacken ∨ (s = false ∧ T'' = T)) ∧
      h'.size = h.size ∧ m'.key = m.key ∧
      (∀ z, z ≠ 0 → z ≠ sx → z ∉ (plug K tx).ids → Agree m (setC m' x' black) z) := by
  revert fuel m h a p x tx T s
  induction K with
  | nil =>
    intro fuel m h a p x tx T s _ hz hx htx hcx hxa hsx hun
    obtain ⟨hp, hr⟩ := hz.slot_nil
    simp only [unwindD, Option.some.injEq, Prod.mk.injEq] at hun
    obtain ⟨rfl, rfl⟩ := hun
    refine ⟨m, h, x, tx.blacken, delFixLoop_exit sx fuel hx.ne0 (by rw [hx.pr, hp]; simp), ?_, Or.inl rfl, rfl, rfl, ?_⟩
    · rcases hxa with ⟨rfl, ha0⟩ | ⟨rfl, ha0⟩
      · rw [← hr]; exact hz.isTree_nil.blacken_root
      · have : tx = .nil := hz.sub.zero_iff.mp ha0
        subst this
        refine ⟨?_, by simp [Tree.blacken]⟩
        simp [Tree.blacken, hr, ha0]
    · intro z _ hzs hzt
      refine Agree.setC black ?_
      rcases hxa with ⟨rfl, ha0⟩ | ⟨rfl, ha0⟩
      · intro e'; exact hzt (by simpa [e'] using hz.sub.root_mem ha0)
      · exact hzs
  | cons f K' ih =>
    intro fuel m h a p x tx T s hlen hz hx htx hcx hxa hsx hun
    obtain ⟨d, c, pe, w, rfl⟩ := frame_cases f
    obtain ⟨hp0, hpid, hpc, hpl, hsw, _⟩ := hz.frameD
    cases fuel with
    | zero => simp at hlen
    | succ fuel' =>
    simp only [List.length_cons] at hlen
    rw [unwindD_mkFrame] at hun
    cases hr : fixD d c tx pe w with
    | none => rw [hr] at hun; cases hun
    | some r =>
    rw [hr, Option.bind_some] at hun
    have hw : w ≠ .nil := by
      intro e'; subst e'
      rw [fixD_notRed d c tx pe .nil rfl, fixBD_nil] at hr
      cases hr
    -- from here on the tree is `plug K'` of the node at the parent, as the outcomes of the step have it
    have hpl := plug_mkFrame d c pe w K' tx
    rw [hpl] at hsx ⊢
    have hsx' := hsx
    rw [mem_plug_ids, mem_mkNode_ids, not_or, not_or, not_or] at hsx'
    have hdir := del_dir_test hz hw hxa hsx'.1.2.1 hsx'.1.2.2 hsx0
    obtain ⟨m1, h1, x1, s1, s2, s3, s4, s5⟩ := fixDeletion_step hz hx hr
    have hloop : delFixLoop sx (fuel' + 1) m h x = delFixLoop sx fuel' m1 h1 x1 := by
      simp only [delFixLoop, hx.ne0, if_false, hx.pr, hp0, hcx, ne_eq, not_false_eq_true, and_self, if_true,
        hdir, s1]
    have hframe1 : ∀ z, z ≠ 0 → z ∉ (plug K' (mkNode d c tx pe w)).ids → Agree m m1 z :=
      fun z hz0 hzt => s4 z hz0 fun hc' => hzt (hpl ▸ mem_plug_ids.mpr (Or.inr hc'))
    -- in every outcome the nodes of the tree are the old ones (`t5`, `t4`): what is outside stays outside
    rcases s5 with ⟨gp, T1, Z1, t1, t2, t3, t4, t5⟩ | ⟨Kc, top, gp, T1, Z1, t1, t2, t3, t4⟩ |
      ⟨Kc, gp, T1, Z1, t1, t2, t3, t4⟩
    · -- the loop continues one level up
      subst t4
      obtain ⟨m', h', x', T'', l1, l2, l3, l4, l5, l6⟩ := ih fuel' m1 h1 x1 gp x1 T1 T s (by omega) Z1
        ⟨Z1.pr_focus t3, t3, Z1.focus_notin_ctx t3⟩ t1 t2 (Or.inl ⟨rfl, t3⟩) (mt (t5 sx).mp hsx) hun
      exact ⟨m', h', x', T'', by rw [hloop, l1], l2, l3, by rw [l4, s2], by rw [l5, s3],
        fun z hz0 hzs hzt => (hframe1 z hz0 hzt).trans (l6 z hz0 hzs (mt (t5 z).mp hzt))⟩
    · -- the loop ends at the root
      subst t3
      rw [unwindD_false, Option.some.injEq, Prod.mk.injEq] at hun
      obtain ⟨rfl, rfl⟩ := hun
      have hT := Z1.isTree
      have hroot0 : h1.root ≠ 0 := hT.shape.ne_zero_of_mem (mem_plug_ids.mpr (Or.inl (Z1.sub.root_mem t1)))
      refine ⟨m1, h1, h1.root, (plug K' (plug Kc T1)).blacken, ?_, plug_append .. ▸ hT.blacken_root, Or.inl rfl, s2, s3,
        fun z hz0 _ hzt => (hframe1 z hz0 hzt).trans
          (Agree.setC black fun e' => hzt ((t4 z).mp (e' ▸ hT.shape.root_mem hroot0)))⟩
      rw [hloop, t2]
      exact delFixLoop_exit sx fuel' hroot0 (by rw [hT.shape.parent hroot0]; simp)
    · -- the loop ends at a red node, which is painted black
      subst t3
      rw [unwindD_false, Option.some.injEq, Prod.mk.injEq] at hun
      obtain ⟨rfl, rfl⟩ := hun
      cases T1 with
      | nil => exact absurd Z1.sub t1
      | node c1 l1 e1 r1 =>
      refine ⟨m1, h1, x1, _, ?_, plug_append .. ▸ (Z1.setC_root black).isTree, Or.inr ⟨rfl, rfl⟩, s2, s3,
        fun z hz0 _ hzt => (hframe1 z hz0 hzt).trans
          (Agree.setC black fun e' => hzt ((t4 z).mp (e' ▸ mem_plug_ids.mpr (Or.inl (Z1.sub.root_mem t1)))))⟩
      rw [hloop]
      exact delFixLoop_exit sx fuel' t1 (by rw [t2]; simp)

theorem delFixLoop_spec (sx : Nat) (hsx0 : sx ≠ 0) : ∀ (K : Ctx) (fuel : Nat) (m : TM) (h : Hd) (a p x : Nat)
    (tx T : Tree) (s : Bool),
    K.length ≤ fuel → Zip m h.root K a p tx → XOk m K p x → tx.isRed = false → m.cl x = black →
    ((x = a ∧ a ≠ 0) ∨ (x = sx ∧ a = 0)) → sx ∉ (plug K tx).ids →
    unwindD K (tx, true) = some (T, s) →
    ∃ m' h' x' T'', delFixLoop sx fuel m h x = some (m', h', x') ∧
      IsTree (setC m' x' black) h'.root 0 T'' ∧ (T'' = T.blacken ∨ (s = false ∧ T'' = T)) ∧
      h'.size = h.size ∧ m'.key = m.key ∧
      (∀ z, z ≠ 0 → z ≠ sx → z ∉ (plug K tx).ids → Agree m (setC m' x' black) z) :=
  rb_fix_deletion_loop_refines sx hsx0

/-- the black-node block of `__cstl_rbtree_erase` after the node `n` has been unlinked: `n` is left
with the child that took its place (or none), and `n->p` is that child's parent -/
theorem rbEraseFix_spec {m : TM} {h : Hd} {K : Ctx} {a p n sx fuel : Nat} {tx T0 : Tree} {s : Bool}
    (hz : Zip m h.root K a p tx) (hsel : (if m.lf n ≠ 0 then m.lf n else m.rt n) = a) (hpn : m.pr n = p)
    (hsx0 : sx ≠ 0) (hsx : sx ∉ (plug K tx).ids) (hfuel : K.length ≤ fuel)
    (hun : unwindD K (Cstl.Tree.removeOne black tx) = some (T0, s)) :
    ∃ m' h' T'', rbEraseFix m h n sx fuel = some (m', h') ∧ IsTree m' h'.root 0 T'' ∧
      (T'' = T0.blacken ∨ (s = false ∧ T'' = T0)) ∧ h'.size = h.size ∧ m'.key = m.key ∧
      (∀ z, z ≠ 0 → z ≠ sx → z ∉ (plug K tx).ids → Agree m m' z) := by
  have hsx' := hsx
  rw [mem_plug_ids, not_or] at hsx'
  by_cases ha0 : a = 0
  · -- no child: the stand-in
    subst ha0
    have htx : tx = .nil := hz.sub.zero_iff.mp rfl
    subst htx
    have hl : m.lf n = 0 := Decidable.byContradiction fun h0 => h0 (by rwa [if_pos h0] at hsel)
    have hr : m.rt n = 0 := by simpa [hl] using hsel
    have hag : ∀ z, z ≠ sx → Agree m (setC (setP m sx p) sx black) z := fun z hz' =>
      (Agree.setP p hz').trans (Agree.setC black hz')
    have Z3 : Zip (setC (setP m sx p) sx black) h.root K 0 p .nil :=
      hz.transfer (fun z hz' => hag z (by
        rcases hz' with h' | h'
        · simp at h'
        · exact fun e' => hsx'.2 (e' ▸ h')))
    have hx3 : XOk (setC (setP m sx p) sx black) K p sx := ⟨by simp, hsx0, hsx'.2⟩
    simp only [Cstl.Tree.removeOne, Tree.isRed, Bool.false_eq_true, if_false] at hun
    obtain ⟨m', h', x', T'', l1, l2, l3, l4, l5, l6⟩ := rb_fix_deletion_loop_refines sx hsx0 K fuel _ h 0 p sx .nil T0 s hfuel Z3
      hx3 rfl (by simp) (Or.inr ⟨rfl, rfl⟩) hsx hun
    refine ⟨setC m' x' black, h', T'', ?_, l2, l3, l4, by rw [setC_key, l5]; rfl, ?_⟩
    · simp only [rbEraseFix, hl, hr, ne_eq, not_true_eq_false, if_false, hpn, l1]
    · intro z hz0 hzs hzt
      exact (hag z hzs).trans (l6 z hz0 hzs hzt)
  · -- a child took the place of n
    have hxa : (if m.lf n ≠ 0 then (m, m.lf n) else if m.rt n ≠ 0 then (m, m.rt n)
        else (setC (setP m sx (m.pr n)) sx black, sx)) = (m, a) := by
      subst hsel
      by_cases h1 : m.lf n ≠ 0
      · rw [if_pos h1, if_pos h1]
      · rw [if_neg h1] at ha0 ⊢
        rw [if_neg h1, if_pos ha0]
    have hcx := blackOrNull_iff hz.sub
    have hxk : a ∉ ctxIds K := hz.focus_notin_ctx ha0
    cases hred : tx.isRed with
    | true =>
      -- a red child: the loop does not run, the child is painted black
      have hca : m.cl a = red := ((isRed_iff hz.sub).mp hred).2
      simp only [Cstl.Tree.removeOne, hred, if_true, unwindD_false, Option.some.injEq, Prod.mk.injEq] at hun
      obtain ⟨rfl, rfl⟩ := hun
      cases tx with
      | nil => simp [Tree.isRed] at hred
      | node c1 l1 e1 r1 =>
      have Z2 := hz.setC_root black
      refine ⟨setC m a black, h, _, ?_, Z2.isTree, Or.inr ⟨rfl, rfl⟩, rfl, rfl, ?_⟩
      · simp only [rbEraseFix, hxa, delFixLoop_exit sx fuel ha0 (by rw [hca]; simp)]
      · intro z _ _ hzt
        refine Agree.setC black ?_
        intro e'
        exact hzt (mem_plug_ids.mpr (Or.inl (e' ▸ hz.sub.root_mem ha0)))
    | false =>
      have hca : m.cl a = black := by
        rw [hred] at hcx
        simpa [blackOrNull, ha0] using hcx
      simp only [Cstl.Tree.removeOne, hred, Bool.false_eq_true, if_false] at hun
      have hx : XOk m K p a := ⟨hz.pr_focus ha0, ha0, hxk⟩
      obtain ⟨m', h', x', T'', l1, l2, l3, l4, l5, l6⟩ := rb_fix_deletion_loop_refines sx hsx0 K fuel m h a p a tx T0 s hfuel hz
        hx hred hca (Or.inl ⟨rfl, ha0⟩) hsx hun
      refine ⟨setC m' x' black, h', T'', ?_, l2, l3, l4, by rw [setC_key, l5], l6⟩
      simp only [rbEraseFix, hxa, l1]

/-- `__cstl_rbtree_erase(t, n)`, `n` with at most one child -/
theorem rbEraseNode_one {m : TM} {h : Hd} {k : Ctx} {a p sx : Nat} {c : Color} {l r : Tree} {e : Elem}
    {T0 : Tree} {s : Bool}
    (hz : Zip m h.root k a p (.node c l e r)) (hone : l = .nil ∨ r = .nil) (hsx0 : sx ≠ 0)
    (hsx : sx ∉ (plug k (.node c l e r)).ids) (hfuel : k.length ≤ h.size + 1)
    (hun : unwindD k (Cstl.Tree.removeOne c (onlyChild l r)) = some (T0, s)) :
    ∃ m' h' T'', rbEraseNode m h a sx = some (m', h') ∧ IsTree m' h'.root 0 T'' ∧
      (T'' = T0.blacken ∨ (s = false ∧ T'' = T0)) ∧ h'.size = h.size - 1 ∧ m'.key = m.key ∧
      (∀ z, z ≠ 0 → z ≠ sx → z ∉ (plug k (.node c l e r)).ids → Agree m m' z) := by
  have hs := hz.sub
  simp only [Shape_node] at hs
  obtain ⟨ha0, he, hc, hpa, hsl, hsr⟩ := hs
  obtain ⟨m1, h1, x, b1, b2, b3, b4, b5, b6, b7⟩ := btEraseNode_one hz hone
  obtain ⟨hal, har, _, _, _⟩ := hz.node_sep
  have hak : a ∉ ctxIds k := hz.focus_notin_ctx ha0
  have haga : Agree m m1 a := b7 a ha0 (fun hc' => (onlyChild_ids_sub hc').elim hal har) (hz.parent_ne ha0 hak)
  have hc1 : m1.cl a = c := by rw [b5]; exact hc
  -- the colour assignment `*BN_COLOR(y) = n->c` with y = n changes nothing
  have Z2 : Zip (setC m1 a (m1.cl a)) h1.root k x p (onlyChild l r) :=
    b3.transfer (fun z _ => setC_self_agree m1 a z)
  have hplug : ∀ z, z ∈ (plug k (onlyChild l r)).ids → z ∈ (plug k (Tree.node c l e r)).ids :=
    mem_plug_mono (onlyChild_ids_node c e)
  have hframe1 : ∀ z, z ≠ 0 → z ∉ (plug k (Tree.node c l e r)).ids → Agree m (setC m1 a (m1.cl a)) z :=
    fun z hz0 hzt => (hz.frame_global (onlyChild_ids_node c e) b7 z hz0 hzt).trans (setC_self_agree m1 a z)
  cases c with
  | red =>
    simp only [Cstl.Tree.removeOne, unwindD_false, Option.some.injEq, Prod.mk.injEq] at hun
    obtain ⟨rfl, rfl⟩ := hun
    refine ⟨_, h1, _, ?_, Z2.isTree, Or.inr ⟨rfl, rfl⟩, b4, by rw [setC_key, b6], fun z hz0 _ hzt => hframe1 z hz0 hzt⟩
    simp only [rbEraseNode, b1, hc1]
    simp
  | black =>
    obtain ⟨m', h', T'', f1, f2, f3, f4, f5, f6⟩ := rbEraseFix_spec (n := a) (fuel := h.size + 1) Z2
      (by rw [setC_lf, setC_rt, haga.2.1, haga.2.2.1]; exact b2.symm)
      (by simp [haga.1, hpa]) hsx0 (fun hc' => hsx (hplug sx hc')) hfuel hun
    refine ⟨m', h', T'', ?_, f2, f3, by rw [f4, b4], by rw [f5, setC_key, b6], ?_⟩
    · rw [hc1] at f1
      simp only [rbEraseNode, b1, hc1, if_true]
      exact f1
    · intro z hz0 hzs hzt
      exact (hframe1 z hz0 hzt).trans (f6 z hz0 hzs (fun hc' => hzt (hplug z hc')))

/-- `__cstl_rbtree_erase(t, n)`, `n` with two children -/
theorem rbEraseNode_two {m : TM} {h : Hd} {k : Ctx} {a p sx : Nat} {c cy : Color} {l r ry : Tree} {e ye : Elem}
    {T0 : Tree} {s : Bool}
    (hz : Zip m h.root k a p (.node c l e r)) (hl : l ≠ .nil) (hr : r ≠ .nil)
    (hm : minSub r = .node cy .nil ye ry) (hsx0 : sx ≠ 0)
    (hsx : sx ∉ (plug k (.node c l e r)).ids) (hfuel1 : r.height ≤ h.size + 1)
    (hfuel : (spine r ++ .R c l ye :: k).length ≤ h.size + 1)
    (hun : unwindD (spine r ++ .R c l ye :: k) (Cstl.Tree.removeOne cy ry) = some (T0, s)) :
    ∃ m' h' T'', rbEraseNode m h a sx = some (m', h') ∧ IsTree m' h'.root 0 T'' ∧
      (T'' = T0.blacken ∨ (s = false ∧ T'' = T0)) ∧ h'.size = h.size - 1 ∧ m'.key = m.key ∧
      (∀ z, z ≠ 0 → z ≠ sx → z ∉ (plug k (.node c l e r)).ids → Agree m m' z) := by
  have hs := hz.sub
  simp only [Shape_node] at hs
  obtain ⟨ha0, he, hc, hpa, hsl, hsr⟩ := hs
  obtain ⟨m1, h1, herase, Z1, hsize1, hcl1, hkey1, hlf1, hrt1, hpr1, hag1, hsry⟩ := btEraseNode_two hz hl hr hm hfuel1
  have hcy1 : m1.cl ye.id = cy := Z1.sub.cl_eq
  have hca1 : m1.cl a = c := by rw [hcl1]; exact hc
  have Z2 := Z1.setC_root c
  have hplug : ∀ z, z ∈ (plug k (Tree.node c l ye (plug (spine r) ry))).ids → z ∈ (plug k (Tree.node c l e r)).ids :=
    mem_plug_mono fun z h' => by
      simp only [Cstl.Tree.ids_node, List.mem_append, List.mem_cons, minSub_ids hm z] at h' ⊢
      rcases h' with h' | h' | h' <;> simp [h']
  have hyin : ye.id ∈ (plug k (Tree.node c l e r)).ids :=
    hplug _ (mem_plug_ids.mpr (Or.inl (by simp)))
  have hframe2 : ∀ z, z ≠ 0 → z ∉ (plug k (Tree.node c l e r)).ids → Agree m (setC m1 ye.id c) z :=
    fun z hz0 hzt => (hz.frame_global (fun _ hc' => hc') hag1 z hz0 hzt).trans
      (Agree.setC c fun e' => hzt (e' ▸ hyin))
  have hTeq : plug (spine r ++ Frame.R c l ye :: k) ry = plug k (Tree.node c l ye (plug (spine r) ry)) := by
    rw [plug_append]; rfl
  cases cy with
  | red =>
    simp only [Cstl.Tree.removeOne, unwindD_false, Option.some.injEq, Prod.mk.injEq] at hun
    obtain ⟨rfl, rfl⟩ := hun
    refine ⟨_, h1, _, ?_, Z2.isTree, Or.inr ⟨rfl, hTeq.symm⟩, hsize1, by rw [setC_key, hkey1],
      fun z hz0 _ hzt => hframe2 z hz0 hzt⟩
    simp only [rbEraseNode, herase, hcy1, hca1]
    simp
  | black =>
    obtain ⟨m', h', T'', f1, f2, f3, f4, f5, f6⟩ := rbEraseFix_spec (n := a) (fuel := h.size + 1)
      (Zip.unplug (spine r) Z2.downR) (by rw [if_neg (by simp [hlf1]), setC_rt, hrt1]; exact hsry.root_eq)
      (hpr1.trans (ctxParent_append_R ..)) hsx0 (fun hc' => hsx (hplug sx (hTeq ▸ hc'))) hfuel hun
    refine ⟨m', h', T'', ?_, f2, f3, by rw [f4, hsize1], by rw [f5, setC_key, hkey1], ?_⟩
    · simp only [rbEraseNode, herase, hcy1, hca1, if_true]
      exact f1
    · intro z hz0 hzs hzt
      exact (hframe2 z hz0 hzt).trans (f6 z hz0 hzs (fun hc' => hzt (hplug z (hTeq ▸ hc'))))

/-- `__cstl_rbtree_erase(t, n)` at the node `find` stops at, against the functional `delRoot` and the way back up -/
theorem rbEraseNode_spec {m : TM} {h : Hd} {k : Ctx} {a p sx : Nat} {c : Color} {l r : Tree} {e : Elem}
    {T0 : Tree} {s : Bool}
    (hz : Zip m h.root k a p (.node c l e r)) (hsx0 : sx ≠ 0) (hsx : sx ∉ (plug k (.node c l e r)).ids)
    (hfuel : k.length + l.size + r.size ≤ h.size)
    (hd : (Cstl.Tree.delRoot c l e r).bind (unwindD k) = some (T0, s)) :
    ∃ m' h' T'', rbEraseNode m h a sx = some (m', h') ∧ IsTree m' h'.root 0 T'' ∧
      (T'' = T0.blacken ∨ (s = false ∧ T'' = T0)) ∧ h'.size = h.size - 1 ∧ m'.key = m.key ∧
      (∀ z, z ≠ 0 → z ≠ sx → z ∉ (plug k (.node c l e r)).ids → Agree m m' z) := by
  by_cases hone : l = .nil ∨ r = .nil
  · rw [delRoot_one c l r e hone, Option.bind_some] at hd
    exact rbEraseNode_one hz hone hsx0 hsx (by omega) hd
  · have hl : l ≠ .nil := fun e' => hone (Or.inl e')
    have hr : r ≠ .nil := fun e' => hone (Or.inr e')
    obtain ⟨cy, ye, ry, hm⟩ := minSub_form hr
    rw [delRoot_two c e hl hr hm, ← unwindD_append, List.append_assoc, List.singleton_append] at hd
    have h1 := height_le_size r
    have h2 := spine_length_lt hr
    refine rbEraseNode_two hz hl hr hm hsx0 hsx (by omega) ?_ hd
    simp only [List.length_append, List.length_cons]
    omega

/-- `cstl_rbtree_erase`; `hrb` holds on every tree that satisfies the red-black rules
(`Cstl.Tree.rbErase_inv`), see `rb_erase_refines_inv` -/
theorem rb_erase_refines {m : TM} {h : Hd} {t T : Tree} {res : Option Elem} (key : Int) (sx : Nat)
    (ht : IsTree m h.root 0 t) (hsz : h.size = t.size) (hsx0 : sx ≠ 0) (hsxt : sx ∉ t.ids)
    (hf : Cstl.Tree.rbErase key t = some (T, res)) (hrb : T.blacken = T) :
    ∃ m' h', rbErase m h key sx = some (m', h', idOpt res) ∧ IsTree m' h'.root 0 T ∧ h'.size = T.size ∧
      m'.key = m.key ∧ (∀ z, z ≠ 0 → z ≠ sx → z ∉ t.ids → Agree m m' z) := by
  have hfind := find_refines key ht hsz
  cases hfe : (Cstl.Tree.find key t).1 with
  | none =>
    simp only [Cstl.Tree.rbErase, hfe, Option.some.injEq, Prod.mk.injEq] at hf
    obtain ⟨rfl, rfl⟩ := hf
    exact ⟨m, h, by simp [rbErase, hfind, hfe], ht, hsz, rfl, fun z _ _ _ => Agree.rfl' m z⟩
  | some e =>
    have hsome := hf
    obtain ⟨k, c, l, r, rfl, hpath, hkey, hz⟩ := find_zip ht hfe
    have hszk := length_add_size_le_plug k (.node c l e r)
    simp only [Tree.size] at hszk
    simp only [Cstl.Tree.rbErase, hfe, del_found hpath hkey] at hf
    cases hd : (Cstl.Tree.delRoot c l e r).bind (unwindD k) with
    | none => rw [hd] at hf; cases hf
    | some r0 =>
      obtain ⟨T0, s⟩ := r0
      obtain ⟨m', h', T'', g1, g2, g3, g4, g5, g6⟩ := rbEraseNode_spec hz hsx0 hsxt (by omega) hd
      rw [hd] at hf
      simp only [Option.some.injEq, Prod.mk.injEq] at hf
      obtain ⟨hT, rfl⟩ := hf
      -- the memory holds `T0.blacken`, or `T0` when nothing was left to repair: either way the functional result
      have hTT : T'' = T := by
        cases s with
        | true =>
          simp only [if_true] at hT
          rcases g3 with g | ⟨g, _⟩
          · rw [g, hT]
          · cases g
        | false =>
          simp only [Bool.false_eq_true, if_false] at hT
          rcases g3 with g | ⟨_, g⟩
          · rw [g, hT, hrb]
          · rw [g, hT]
      subst hTT
      have hs2 := (Cstl.Tree.rbErase_some hsome).2.2.2.2
      refine ⟨m', h', ?_, g2, by omega, g5, g6⟩
      simp only [rbErase, hfind, hfe, idOpt_some, hz.sub.ne_zero, if_false, g1]

theorem rbErase_refines {m : TM} {h : Hd} {t T : Tree} {res : Option Elem} (key : Int) (sx : Nat)
    (ht : IsTree m h.root 0 t) (hsz : h.size = t.size) (hsx0 : sx ≠ 0) (hsxt : sx ∉ t.ids)
    (hf : Cstl.Tree.rbErase key t = some (T, res)) (hrb : T.blacken = T) :
    ∃ m' h', rbErase m h key sx = some (m', h', idOpt res) ∧ IsTree m' h'.root 0 T ∧ h'.size = T.size ∧
      m'.key = m.key ∧ (∀ z, z ≠ 0 → z ≠ sx → z ∉ t.ids → Agree m m' z) :=
  rb_erase_refines key sx ht hsz hsx0 hsxt hf hrb

end Cstl.TreeL
