import Cstl.TreeL.Dir
/-
cstl_heap_promote_child (src/heap.c) at link level: the six-neighbour
relinking exchanges the positions of a node and its parent.  `promoteChild`
(Model.lean) is, by the translator tie of TieHeap.lean, the translation of the
C function; this file proves what it does to a memory that represents a tree.
(lean/Cstl/Heap/Model.lean abstracts exactly this step of `siftUp` /
`siftInto` to "the two elements exchange positions".)
-/
namespace Cstl.TreeL
open Cstl.SList (Mem upd upd_same upd_other)
open Cstl.Tree (Color Elem Tree)
open Cstl.Tree.Color Cstl.Tree.Tree

/-- the fields after `promoteChild m h c`, where `p`, `g` are `c`'s parent and grandparent and `c` is
the `l`-side child of `p` for the direction `d` -/
structure PromRes (m : TM) (h : Hd) (c p g : Nat) (d : Bool) (m' : TM) (h' : Hd) : Prop where
  cl : m'.cl = m.cl
  key : m'.key = m.key
  size : h'.size = h.size
  root : h'.root = if g = 0 then c else h.root
  pr : ∀ z, m'.pr z = if z = c then g else if z = p then c
        else if (z = m.lf c ∨ z = m.rt c) ∧ z ≠ 0 then p
        else if z = chR m d p ∧ z ≠ 0 then c else m.pr z
  chl : chL m' d c = p
  chr : chR m' d c = chR m d p
  lf : ∀ z, z ≠ c → m'.lf z = if z = p then m.lf c else if z = g ∧ z ≠ 0 ∧ m.lf z = p then c else m.lf z
  rt : ∀ z, z ≠ c → m'.rt z = if z = p then m.rt c else if z = g ∧ z ≠ 0 ∧ m.lf z ≠ p then c else m.rt z

/-- the field table of `promoteChild`; the hypotheses say that `c`, its parent `p`, grandparent `g`, its children
(`a` = `c->l`, `b` = `c->r`) and its sibling `s` = `chR m d p` are distinct where the code relies on it -/
theorem promoteChild_fields (m : TM) (h : Hd) (c : Nat) {p g : Nat} (d : Bool) (hp : m.pr c = p) (hg : m.pr p = g)
    (hd : chL m d p = c) (hcp : c ≠ p) (hcg : c ≠ g) (hpg : p ≠ g)
    (hap : m.lf c ≠ p) (hbp : m.rt c ≠ p)
    (hsp : chR m d p ≠ p) (hsc : chR m d p ≠ c)
    (has : m.lf c ≠ 0 → m.lf c ≠ chR m d p) (hbs : m.rt c ≠ 0 → m.rt c ≠ chR m d p) :
    PromRes m h c p g d (promoteChild m h c).1 (promoteChild m h c).2 := by
  constructor
  · simp only [promoteChild, apply_ite TM.cl, setP_cl, setLf_cl, setRt_cl, ite_self]
  · simp only [promoteChild, apply_ite TM.key, setP_key, setLf_key, setRt_key, ite_self]
  · simp only [promoteChild, apply_ite Hd.size, ite_self]
  · simp only [promoteChild, hp, hg, apply_ite Hd.root]
  all_goals
    -- `d` decides the test `p->l == c`; then the writes are read back
    have hpl : (m.lf p = c) = (d = true) := by
      cases d
      · exact (eq_false fun e => hsc e).trans (by simp)
      · exact (eq_true hd).trans (by simp)
    cases d
    all_goals
      simp only [chL, chR, Bool.false_eq_true, if_false, if_true] at hd hsp hsc has hbs hpl
      intros
      simp only [promoteChild, hp, hg, chL, chR, Bool.false_eq_true, setP_if_pr, setP_if_lf, setP_if_rt, relink_pr,
        relink_lf, relink_rt, setP_pr, setP_lf, setP_rt, setLf_pr, setLf_lf, setLf_rt, setRt_pr, setRt_lf, setRt_rt,
        upd_apply, hcp, hcg, hpg, and_false, if_false, hpl, if_true]
  -- what is left compares two case lists over addresses known to be distinct
  all_goals grind

theorem PromRes.agree {m m' : TM} {h h' : Hd} {c p g : Nat} {d : Bool} (R : PromRes m h c p g d m' h') {z : Nat}
    (z1 : z ≠ c) (z2 : z ≠ p) (z3 : z ≠ g) (z4 : z ≠ m.lf c) (z5 : z ≠ m.rt c) (z6 : z ≠ chR m d p) :
    Agree m m' z :=
  ⟨by simp only [R.pr z, z1, z2, z4, z5, z6, if_false, or_self, false_and],
    by simp only [R.lf z z1, z2, z3, if_false, false_and], by simp only [R.rt z z1, z2, z3, if_false, false_and],
    by rw [R.cl], by rw [R.key]⟩

theorem PromRes.child {m m' : TM} {h h' : Hd} {c p g : Nat} {d : Bool} (R : PromRes m h c p g d m' h') {z : Nat}
    (z1 : z ≠ c) (z2 : z ≠ p) (z3 : z ≠ g) :
    m'.lf z = m.lf z ∧ m'.rt z = m.rt z ∧ m'.cl z = m.cl z ∧ m'.key z = m.key z :=
  ⟨by simp only [R.lf z z1, z2, z3, if_false, false_and], by simp only [R.rt z z1, z2, z3, if_false, false_and],
    by rw [R.cl], by rw [R.key]⟩

/-- `cstl_heap_promote_child(h, c)` at the focus `p` = parent of `c`: the two nodes exchange
positions — `c` takes `p`'s place (its parent, its other child `ps`), `p` takes `c`'s place and
children; nothing else is written -/
theorem promoteChild_spec {m : TM} {h : Hd} {k : Ctx} {p gp : Nat} {d : Bool} {cp cc : Color}
    {cl cr ps : Tree} {ce pe : Elem}
    (hz : Zip m h.root k p gp (mkNode d cp (.node cc cl ce cr) pe ps)) :
    Zip (promoteChild m h ce.id).1 (promoteChild m h ce.id).2.root k ce.id gp
        (mkNode d cc (.node cp cl pe cr) ce ps) ∧
      (promoteChild m h ce.id).2.size = h.size ∧ (promoteChild m h ce.id).1.cl = m.cl ∧
      (promoteChild m h ce.id).1.key = m.key ∧
      (∀ z, z ≠ 0 → z ∉ (mkNode d cp (.node cc cl ce cr) pe ps).ids → z ≠ gp →
        Agree m (promoteChild m h ce.id).1 z) := by
  have hs := hz.sub
  rw [Shape_mkNode] at hs
  obtain ⟨hp0, hpe, hcp, hpp, hsc, hsps⟩ := hs
  have hpeid : pe.id = p := by simp [hpe]
  have hsc' := hsc
  simp only [Shape_node] at hsc'
  obtain ⟨hc0, hce, hcc, hpc, hscl, hscr⟩ := hsc'
  have hceid : ce.id = chL m d p := by simp [hce]
  rw [hceid]
  generalize hcdef : chL m d p = c at *
  -- distinctness in a canonical order
  have hnd : (p :: c :: (cl.ids ++ (cr.ids ++ (ps.ids ++ ctxIds k)))).Nodup := by
    refine (List.Perm.nodup_iff (List.perm_iff_count.mpr fun z => ?_)).mp hz.nodup
    simp only [List.count_append, count_mkNode_ids, Cstl.Tree.ids_node, List.count_cons, hpeid, hceid]
    omega
  have hnd' : ((mkNode d cc (Tree.node cp cl pe cr) ce ps).ids ++ ctxIds k).Nodup := by
    refine (List.Perm.nodup_iff (List.perm_iff_count.mpr fun z => ?_)).mpr hz.nodup
    simp only [List.count_append, count_mkNode_ids, Cstl.Tree.ids_node, List.count_cons]
    omega
  simp only [List.nodup_cons, List.mem_cons, List.mem_append, not_or] at hnd
  obtain ⟨⟨hpc', hpcl, hpcr, hpps, hpk⟩, ⟨hccl, hccr, hcps, hck⟩, hrest⟩ := hnd
  obtain ⟨hncl, hrest2, dcl⟩ := List.nodup_append.mp hrest
  obtain ⟨hncr, hrest3, dcr⟩ := List.nodup_append.mp hrest2
  obtain ⟨hnps, _, dps⟩ := List.nodup_append.mp hrest3
  have cl_cr : ∀ {z}, z ∈ cl.ids → z ∉ cr.ids := fun h1 h2 => dcl _ h1 _ (List.mem_append_left _ h2) rfl
  have cl_ps : ∀ {z}, z ∈ cl.ids → z ∉ ps.ids := fun h1 h2 =>
    dcl _ h1 _ (List.mem_append_right _ (List.mem_append_left _ h2)) rfl
  have cl_k : ∀ {z}, z ∈ cl.ids → z ∉ ctxIds k := fun h1 h2 =>
    dcl _ h1 _ (List.mem_append_right _ (List.mem_append_right _ h2)) rfl
  have cr_ps : ∀ {z}, z ∈ cr.ids → z ∉ ps.ids := fun h1 h2 => dcr _ h1 _ (List.mem_append_left _ h2) rfl
  have cr_k : ∀ {z}, z ∈ cr.ids → z ∉ ctxIds k := fun h1 h2 => dcr _ h1 _ (List.mem_append_right _ h2) rfl
  have ps_k : ∀ {z}, z ∈ ps.ids → z ∉ ctxIds k := fun h1 h2 => dps _ h1 _ h2 rfl
  -- every other address the code reads is 0 or the root of one of the subtrees, `gp` is 0 or in `k`
  have hlm : m.lf c ≠ 0 → m.lf c ∈ cl.ids := hscl.root_mem
  have hrm : m.rt c ≠ 0 → m.rt c ∈ cr.ids := hscr.root_mem
  have ne_gp : ∀ {z}, z ≠ 0 → z ∉ ctxIds k → z ≠ gp := hz.parent_ne
  have gC : c ≠ gp := ne_gp hc0 hck
  have gP : p ≠ gp := ne_gp hp0 hpk
  have R := promoteChild_fields m h c d hpc hpp hcdef (Ne.symm hpc') gC gP
    (fun e => hpcl (e ▸ hlm (e ▸ hp0))) (fun e => hpcr (e ▸ hrm (e ▸ hp0)))
    (hsps.root_ne hpps hp0).symm (hsps.root_ne hcps hc0).symm
    (fun h0 => hsps.root_ne (cl_ps (hlm h0)) h0) (fun h0 => hsps.root_ne (cr_ps (hrm h0)) h0)
  refine ⟨?_, R.size, R.cl, R.key, ?_⟩
  · refine hz.replace ?_ ?_ ?_ hnd'
    · rw [Shape_mkNode, R.chl, R.chr, Shape_node]
      have rp := R.pr p
      simp only [hpc', if_false, if_true] at rp
      refine ⟨hc0, by rw [hce]; simp [elemAt, R.key], by rw [R.cl]; exact hcc, by rw [R.pr, if_pos rfl],
        ⟨hp0, by rw [hpe]; simp [elemAt, R.key], by rw [R.cl]; exact hcp, rp, ?_, ?_⟩, ?_⟩
      · rw [R.lf p hpc', if_pos rfl]
        refine hscl.reparent hncl (fun z hz' hne => ?_) (fun h0 => ?_)
        · have z0 := hscl.ids_ne_zero z hz'
          exact R.agree (fun e => hccl (e ▸ hz')) (fun e => hpcl (e ▸ hz')) (ne_gp z0 (cl_k hz')) hne
            (hscr.root_ne (cl_cr hz') z0) (hsps.root_ne (cl_ps hz') z0)
        · have hm := hlm h0
          have hc' : m.lf c ≠ c := fun e => hccl (e ▸ hm)
          have hp' : m.lf c ≠ p := fun e => hpcl (e ▸ hm)
          refine ⟨?_, R.child hc' hp' (ne_gp h0 (cl_k hm))⟩
          simp only [R.pr, hc', hp', h0, if_false, true_or, ne_eq, not_false_eq_true, and_self, if_true]
      · rw [R.rt p hpc', if_pos rfl]
        refine hscr.reparent hncr (fun z hz' hne => ?_) (fun h0 => ?_)
        · have z0 := hscr.ids_ne_zero z hz'
          exact R.agree (fun e => hccr (e ▸ hz')) (fun e => hpcr (e ▸ hz')) (ne_gp z0 (cr_k hz'))
            (hscl.root_ne (fun h' => cl_cr h' hz') z0) hne (hsps.root_ne (cr_ps hz') z0)
        · have hm := hrm h0
          have hc' : m.rt c ≠ c := fun e => hccr (e ▸ hm)
          have hp' : m.rt c ≠ p := fun e => hpcr (e ▸ hm)
          refine ⟨?_, R.child hc' hp' (ne_gp h0 (cr_k hm))⟩
          simp only [R.pr, hc', hp', h0, if_false, or_true, ne_eq, not_false_eq_true, and_self, if_true]
      · -- the former sibling of `c` now hangs below `c`
        refine hsps.reparent hnps (fun z hz' hne => ?_) (fun h0 => ?_)
        · have z0 := hsps.ids_ne_zero z hz'
          exact R.agree (fun e => hcps (e ▸ hz')) (fun e => hpps (e ▸ hz')) (ne_gp z0 (ps_k hz'))
            (hscl.root_ne (fun h' => cl_ps h' hz') z0) (hscr.root_ne (fun h' => cr_ps h' hz') z0) hne
        · have hm := hsps.root_mem h0
          have hc' : chR m d p ≠ c := fun e => hcps (e ▸ hm)
          have hp' : chR m d p ≠ p := fun e => hpps (e ▸ hm)
          refine ⟨?_, R.child hc' hp' (ne_gp h0 (ps_k hm))⟩
          have hl' := hscl.root_ne (fun h' => cl_ps h' hm) h0
          have hr' := hscr.root_ne (fun h' => cr_ps h' hm) h0
          simp only [R.pr, hc', hp', hl', hr', h0, if_false, or_self, false_and, ne_eq, not_false_eq_true, and_self,
            if_true]
    · intro z hz' hne
      have z0 := hz.ctx.ids_ne_zero z hz'
      exact R.agree (fun e => hck (e ▸ hz')) (fun e => hpk (e ▸ hz')) hne (hscl.root_ne (fun h' => cl_k h' hz') z0)
        (hscr.root_ne (fun h' => cr_k h' hz') z0) (hsps.root_ne (fun h' => ps_k h' hz') z0)
    · refine hz.slotUpdD hp0 true (by rw [R.root]) (fun hg0 => ?_) (fun hg0 => ?_) (fun hg0 => ?_)
        (by rw [R.cl]) (by rw [R.key])
      · simp only [chL, if_true, R.lf gp gC.symm, gP.symm, hg0, if_false, true_and, ne_eq, not_false_eq_true]
      · simp only [chL, chR, if_true, R.rt gp gC.symm, gP.symm, hg0, if_false, true_and, ne_eq, not_false_eq_true]
      · have hgk := hz.ctx.parent_mem hg0
        have g1 := hscl.root_ne (fun h' => cl_k h' hgk) hg0
        have g2 := hscr.root_ne (fun h' => cr_k h' hgk) hg0
        have g3 := hsps.root_ne (fun h' => ps_k h' hgk) hg0
        simp only [R.pr, gC.symm, gP.symm, g1, g2, g3, if_false, or_self, false_and]
  · intro z z0 hzt hzg
    simp only [mem_mkNode_ids, Cstl.Tree.ids_node, List.mem_append, List.mem_cons, not_or, hpeid, hceid] at hzt
    obtain ⟨z2, ⟨z4, z1, z5⟩, z6⟩ := hzt
    exact R.agree z1 z2 hzg (hscl.root_ne z4 z0) (hscr.root_ne z5 z0) (hsps.root_ne z6 z0)
end Cstl.TreeL
