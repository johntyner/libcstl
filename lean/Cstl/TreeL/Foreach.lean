import Cstl.TreeL.Lemmas
import Cstl.Tree.Events
/-
`__cstl_bintree_foreach` at link level, for any function that satisfies the one-level equation of
the C recursion (`foreachStep`).  The translator ties (Tie2, Tie3) show by `rfl` that their own
translation satisfies it and read off everything else from here: on a memory that represents `t`,
with a callback that leaves the links alone, the recursion makes the visits of `events d t` in
order, each only while the result is still 0 (`foreach_events`).
-/
namespace Cstl.TreeL
open Cstl.Tree (Color Elem Tree Ord Ev WSt walk doVisit events runVisits)
open Cstl.Tree.Color Cstl.Tree.Tree

/-- the number of a visit order in `cstl_bintree_visit_order_t` -/
def ordCode : Ord → Nat
  | .pre => 0
  | .mid => 1
  | .post => 2
  | .leaf => 3

/-- one activation of `__cstl_bintree_foreach(bn, visit, priv, l, r)`, assignment by assignment, in the
translator's own wording (a callback result is taken apart component by component) so that each tie is
`rfl`; the two recursive calls are `rec` -/
def foreachStep {σ : Type} (visit : σ → TM → Nat → Nat → σ × TM × Int)
    (rec : σ → TM → Nat → Bool → Option (σ × TM × Int)) (st : σ) (m : TM) (_bn : Nat) (d : Bool) :
    Option (σ × TM × Int) :=
    let ln1 := (chL m d _bn)
    let rn1 := (chR m d _bn)
    let leaf1 := (if ((ln1 = 0) ∧ (rn1 = 0)) then 1 else 0)
    let res1 := 0
    let st2 := if ((res1 = 0) ∧ (leaf1 = 0)) then (let r1 := visit st m _bn 0; r1.1) else st
    let m2 := if ((res1 = 0) ∧ (leaf1 = 0)) then (let r1 := visit st m _bn 0; r1.2.1) else m
    let res2 := if ((res1 = 0) ∧ (leaf1 = 0)) then (let r1 := visit st m _bn 0; r1.2.2) else res1
    let j1 : Option (σ × TM × Int) :=
      if ((res2 = 0) ∧ (ln1 ≠ 0)) then
        rec st2 m2 ln1 d
      else
        some (st2, m2, res2)
    match j1 with
    | none => none
    | some (st4, m4, res3) =>
      let st8 := if (res3 = 0) then (if (leaf1 ≠ 0) then (let r2 := visit st4 m4 _bn 3; r2.1) else (let r3 := visit st4 m4 _bn 1; r3.1)) else st4
      let m8 := if (res3 = 0) then (if (leaf1 ≠ 0) then (let r2 := visit st4 m4 _bn 3; r2.2.1) else (let r3 := visit st4 m4 _bn 1; r3.2.1)) else m4
      let res5 := if (res3 = 0) then (if (leaf1 ≠ 0) then (let r2 := visit st4 m4 _bn 3; r2.2.2) else (let r3 := visit st4 m4 _bn 1; r3.2.2)) else res3
      let j2 : Option (σ × TM × Int) :=
        if ((res5 = 0) ∧ (rn1 ≠ 0)) then
          rec st8 m8 rn1 d
        else
          some (st8, m8, res5)
      match j2 with
      | none => none
      | some (st10, m10, res6) =>
        let st12 := if ((res6 = 0) ∧ (leaf1 = 0)) then (let r4 := visit st10 m10 _bn 2; r4.1) else st10
        let m12 := if ((res6 = 0) ∧ (leaf1 = 0)) then (let r4 := visit st10 m10 _bn 2; r4.2.1) else m10
        let res7 := if ((res6 = 0) ∧ (leaf1 = 0)) then (let r4 := visit st10 m10 _bn 2; r4.2.2) else res6
        some (st12, m12, res7)

section
variable {σ : Type} (v : σ → TM → Nat → Nat → σ × TM × Int) (m : TM)

/-- `if (res == 0) res = visit(ev)` on the client state and the result -/
def evStep (s : σ × Int) (ev : Ev) : σ × Int :=
  (if s.2 = 0 then (v s.1 m ev.1.id (ordCode ev.2)).1 else s.1,
   if s.2 = 0 then (v s.1 m ev.1.id (ordCode ev.2)).2.2 else s.2)

/-- the listed visits, each made only while the result is still 0 -/
def runEv (s : σ × Int) (evs : List Ev) : σ × Int := evs.foldl (evStep v m) s

theorem runEv_cons (s : σ × Int) (ev : Ev) (rest : List Ev) :
    runEv v m s (ev :: rest) = runEv v m (evStep v m s ev) rest := rfl

theorem runEv_append (s : σ × Int) (a b : List Ev) : runEv v m s (a ++ b) = runEv v m (runEv v m s a) b :=
  List.foldl_append ..

theorem runEv_done (st : σ) {r : Int} (hr : r ≠ 0) (evs : List Ev) : runEv v m (st, r) evs = (st, r) := by
  induction evs with
  | nil => rfl
  | cons ev rest ih => simp only [runEv, List.foldl_cons, evStep, hr, if_false] at ih ⊢; exact ih

variable {v m}

/-- one `if (res == 0 && child != NULL) res = __cstl_bintree_foreach(child, …)` -/
theorem runEv_child {d : Bool} {rec : σ → TM → Nat → Bool → Option (σ × TM × Int)} {ac a : Nat} {tc : Tree}
    (hS : Shape m ac a tc)
    (ih : ∀ st, ac ≠ 0 → rec st m ac d = some ((runEv v m (st, 0) (events d tc)).1, m, (runEv v m (st, 0) (events d tc)).2))
    (st : σ) (res : Int) :
    (if res = 0 ∧ ac ≠ 0 then rec st m ac d else some (st, m, res)) =
      some ((runEv v m (st, res) (events d tc)).1, m, (runEv v m (st, res) (events d tc)).2) := by
  by_cases hr : res = 0
  · subst hr
    by_cases ha : ac = 0
    · rw [hS.zero_iff.mp ha, if_neg (fun h => h.2 ha)]; rfl
    · rw [if_pos ⟨rfl, ha⟩, ih st ha]
  · rw [if_neg (fun h => hr h.1), runEv_done v m st hr]

/-- a function that satisfies the one-level equation of `__cstl_bintree_foreach`, on a memory that
represents `t` and with a callback that leaves the links alone: the visits of `events d t`, in order,
each only while the result is still 0; the links are untouched -/
theorem foreach_events (hk : ∀ st a o, (v st m a o).2.1 = m) {d : Bool}
    {F : Nat → σ → TM → Nat → Bool → Option (σ × TM × Int)}
    (hF : ∀ f st m a d, F (f + 1) st m a d = foreachStep v (F f) st m a d) (t : Tree) :
    ∀ (a p : Nat) (st : σ) (fuel : Nat), Shape m a p t → a ≠ 0 → t.height ≤ fuel →
      F fuel st m a d = some ((runEv v m (st, 0) (events d t)).1, m, (runEv v m (st, 0) (events d t)).2) := by
  induction t with
  | nil => intro a p st fuel hS ha; exact absurd hS ha
  | node c l e r ihl ihr =>
    intro a p st fuel hS ha hh
    cases fuel with
    | zero => exact absurd hh (Nat.not_succ_le_zero _)
    | succ f =>
      simp only [Shape_node] at hS
      obtain ⟨_, he, _, _, hl, hr⟩ := hS
      have hhl : l.height ≤ f := Nat.le_trans (Nat.le_max_left ..) (Nat.le_of_succ_le_succ hh)
      have hhr : r.height ≤ f := Nat.le_trans (Nat.le_max_right ..) (Nat.le_of_succ_le_succ hh)
      -- the children in the order of the direction
      obtain ⟨t1, t2, h1, h2, ih1, ih2, hev⟩ : ∃ t1 t2, Shape m (chL m d a) a t1 ∧ Shape m (chR m d a) a t2 ∧
          (∀ st, chL m d a ≠ 0 → F f st m (chL m d a) d =
            some ((runEv v m (st, 0) (events d t1)).1, m, (runEv v m (st, 0) (events d t1)).2)) ∧
          (∀ st, chR m d a ≠ 0 → F f st m (chR m d a) d =
            some ((runEv v m (st, 0) (events d t2)).1, m, (runEv v m (st, 0) (events d t2)).2)) ∧
          events d (.node c l e r) = if t1.isNil && t2.isNil then [(e, Ord.leaf)]
            else (e, Ord.pre) :: events d t1 ++ (e, Ord.mid) :: events d t2 ++ [(e, Ord.post)] := by
        cases d
        · exact ⟨r, l, hr, hl, fun st h0 => ihr _ _ st f hr h0 hhr, fun st h0 => ihl _ _ st f hl h0 hhl,
            Cstl.Tree.events_node false c l r e⟩
        · exact ⟨l, r, hl, hr, fun st h0 => ihl _ _ st f hl h0 hhl, fun st h0 => ihr _ _ st f hr h0 hhr,
            Cstl.Tree.events_node true c l r e⟩
      have hid : e.id = a := by rw [he]; rfl
      have c1 := runEv_child h1 ih1
      have c2 := runEv_child h2 ih2
      rw [hF, hev]
      unfold foreachStep
      by_cases hA : chL m d a = 0 ∧ chR m d a = 0
      · rw [h1.zero_iff.mp hA.1, h2.zero_iff.mp hA.2]
        simp [hA.1, hA.2, Tree.isNil, runEv, evStep, ordCode, hid, hk]
      · have hleaf : (t1.isNil && t2.isNil) = false := by
          rw [Bool.and_eq_false_iff, Bool.eq_false_iff, Bool.eq_false_iff, Ne, Ne, h1.isNil_iff, h2.isNil_iff]
          exact Decidable.not_and_iff_not_or_not.mp hA
        simp only [hleaf, Bool.false_eq_true, if_false, List.cons_append, runEv_cons, runEv_append]
        simp only [evStep, hid, ordCode, if_true]
        simp only [if_neg hA, if_true, ne_eq, not_true_eq_false, if_false, hk, c1, and_true]
        generalize runEv v m ((v st m a 0).1, (v st m a 0).2.2) (events d t1) = s2
        simp only [hk, ite_self, c2]
        generalize runEv v m _ (events d t2) = s4
        rfl

theorem shape_events_elem (m : TM) (d : Bool) (t : Tree) : ∀ (a p : Nat), Shape m a p t →
    ∀ ev ∈ events d t, elemAt m ev.1.id = ev.1 :=
  fun _ _ hS _ hev => hS.elemAt_mem (Cstl.Tree.events_mem hev)

/-- a callback that logs the visit, leaves the links alone and answers what the functional visit function `visit`
answers makes the recursion the functional `walk` -/
theorem foreach_walk {visit : Nat → Elem → Ord → Int} {v : List Ev → TM → Nat → Nat → List Ev × TM × Int}
    {od : Nat → Ord} (hod : ∀ o, od (ordCode o) = o)
    (hv : ∀ log a o, v log m a o = (log ++ [(elemAt m a, od o)], m, visit log.length (elemAt m a) (od o)))
    {F : Nat → List Ev → TM → Nat → Bool → Option (List Ev × TM × Int)}
    (hF : ∀ f st m a d, F (f + 1) st m a d = foreachStep v (F f) st m a d) {d : Bool} {t : Tree} {a p : Nat}
    (log : List Ev) {fuel : Nat} (hS : Shape m a p t) (ha : a ≠ 0) (hh : t.height ≤ fuel) :
    F fuel log m a d = some ((walk d visit t (0, log)).2, m, (walk d visit t (0, log)).1) := by
  rw [foreach_events (fun st a o => by rw [hv]) hF t a p log fuel hS ha hh, Cstl.Tree.walk_eq_runVisits]
  have key : ∀ (evs : List Ev), (∀ ev ∈ evs, elemAt m ev.1.id = ev.1) → ∀ (log : List Ev) (r : Int),
      runEv v m (log, r) evs = ((runVisits visit evs (r, log)).2, (runVisits visit evs (r, log)).1) := by
    intro evs
    induction evs with
    | nil => intro _ log r; rfl
    | cons ev rest ih =>
      intro hel log r
      rw [runEv_cons, runVisits, evStep, hv, hod, hel ev (by simp), doVisit]
      by_cases hr : r = 0
      · subst hr; exact ih (fun x hx => hel x (by simp [hx])) _ _
      · simp only [hr, if_false, ne_eq, not_false_eq_true, if_true]
        exact ih (fun x hx => hel x (by simp [hx])) _ _
  rw [key _ (shape_events_elem m d t a p hS)]

variable (v m)

/-- a callback that leaves the link memory `m` alone and never stops the traversal -/
def Quiet : Prop :=
  ∀ st a o, (v st m a o).2.1 = m ∧ (v st m a o).2.2 = 0

/-- the client state after the listed visits -/
def foldEv (st : σ) (evs : List Ev) : σ :=
  evs.foldl (fun st ev => (v st m ev.1.id (ordCode ev.2)).1) st

theorem foldEv_append (st : σ) (a b : List Ev) :
    foldEv v m st (a ++ b) = foldEv v m (foldEv v m st a) b := by simp [foldEv, List.foldl_append]

variable {v m}

/-- with a quiet callback the recursion folds the callback over the complete visit list; the result is 0 -/
theorem foreach_quiet (hq : Quiet v m)
    {F : Nat → σ → TM → Nat → Bool → Option (σ × TM × Int)}
    (hF : ∀ f st m a d, F (f + 1) st m a d = foreachStep v (F f) st m a d) {d : Bool} {t : Tree} {a p : Nat} (st : σ)
    {fuel : Nat} (hS : Shape m a p t) (ha : a ≠ 0) (hh : t.height ≤ fuel) :
    F fuel st m a d = some (foldEv v m st (events d t), m, 0) := by
  rw [foreach_events (fun st a o => (hq st a o).1) hF t a p st fuel hS ha hh]
  have key : ∀ (evs : List Ev) (st : σ), runEv v m (st, 0) evs = (foldEv v m st evs, 0) := by
    intro evs
    induction evs with
    | nil => intro st; rfl
    | cons ev rest ih => intro st; rw [runEv_cons, evStep, if_pos rfl, if_pos rfl, (hq _ _ _).2, ih]; rfl
  rw [key]
end

end Cstl.TreeL
