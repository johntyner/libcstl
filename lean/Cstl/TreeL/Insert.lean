import Cstl.TreeL.Surgery
/-
cstl_bintree_insert at link level: the descent loop ends at the empty hole of
the functional insert path; the leaf attach (Surgery.lean) fills it.
-/
namespace Cstl.TreeL
open Cstl.SList (Mem upd upd_same upd_other)
open Cstl.Tree (Color Elem Tree)
open Cstl.Tree.Color Cstl.Tree.Tree

theorem Zip.of_mem {m : TM} {root hint : Nat} {t : Tree} (ht : IsTree m root 0 t) (hh : hint ∈ t.ids) :
    ∃ k c l e r, t = plug k (.node c l e r) ∧ e.id = hint ∧ Zip m root k hint (ctxParent k) (.node c l e r) := by
  obtain ⟨k, c, l, e, r, rfl, rfl⟩ := exists_ctx_of_mem hh
  exact ⟨k, c, l, e, r, rfl, rfl, Zip.of_plug ht⟩

/-- the descent loop of `cstl_bintree_insert` started at the focus follows the functional insert
path and stops at its empty hole, with `bp` the hole's parent and `bc` the hole's slot -/
theorem insLoop_spec {m : TM} {h : Hd} {n : Nat} : ∀ (t : Tree) (k : Ctx) (a p bp : Nat) (bc : Loc) (fuel : Nat),
    Zip m h.root k a p t → rdLoc m h bp bc = a → (t = .nil → bp = p ∧ bc = slot k p) → t.height ≤ fuel →
    ∃ P, insLoop m h n fuel bp bc = some (P, slot (insPath (m.key n) t ++ k) P) ∧
      Zip m h.root (insPath (m.key n) t ++ k) 0 P .nil := by
  intro t
  induction t with
  | nil =>
    intro k a p bp bc fuel hz hrd hnil _
    obtain ⟨rfl, rfl⟩ := hnil rfl
    have ha : a = 0 := hz.sub
    subst ha
    refine ⟨bp, ?_, by simpa [insPath] using hz⟩
    cases fuel <;> simp [insLoop, hrd, insPath]
  | node c l e r ihl ihr =>
    intro k a p bp bc fuel hz hrd _ hfuel
    have hs := hz.sub
    simp only [Shape_node] at hs
    obtain ⟨ha0, he, _, _, _, _⟩ := hs
    cases fuel with
    | zero => simp [Tree.height] at hfuel
    | succ f =>
      simp only [Tree.height] at hfuel
      simp only [insLoop, hrd, ha0, if_false]
      have hk : e.key = m.key a := by simp [he]
      simp only [insPath, hk]
      by_cases hlt : m.key n < m.key a
      · simp only [hlt, if_true]
        obtain ⟨P, h1, h2⟩ := ihl (.L c e r :: k) (m.lf a) a a (.lf a) f hz.downL rfl (fun _ => ⟨rfl, rfl⟩) (by omega)
        refine ⟨P, ?_, ?_⟩
        · simpa [List.append_assoc] using h1
        · simpa [List.append_assoc] using h2
      · simp only [hlt, if_false]
        obtain ⟨P, h1, h2⟩ := ihr (.R c l e :: k) (m.rt a) a a (.rt a) f hz.downR rfl (fun _ => ⟨rfl, rfl⟩) (by omega)
        refine ⟨P, ?_, ?_⟩
        · simpa [List.append_assoc] using h1
        · simpa [List.append_assoc] using h2

/-- `cstl_bintree_insert(bt, n, hint)` from a focused tree: without a hint the focus is the whole
tree, with a hint it is the subtree rooted at the hinted node -/
theorem btInsert_zip {m : TM} {h : Hd} {k : Ctx} {a p n hint : Nat} {t : Tree} (hz : Zip m h.root k a p t)
    (h0 : hint = 0 → k = []) (h1 : hint ≠ 0 → hint = a) (hfuel : t.height ≤ h.size + 1) (hn0 : n ≠ 0)
    (hnt : n ∉ t.ids) (hnk : n ∉ ctxIds k) :
    ∃ P m' h', btInsert m h n hint = some (m', h') ∧
      Zip m' h'.root (insPath (m.key n) t ++ k) n P (.node (m.cl n) .nil (elemAt m n) .nil) ∧
      h'.size = h.size + 1 ∧ m'.cl = m.cl ∧ m'.key = m.key ∧
      (∀ z, z ≠ 0 → z ≠ n → z ∉ (plug k t).ids → Agree m m' z) := by
  have key : ∃ P, insLoop m h n (h.size + 1) (if hint ≠ 0 then (hint, Loc.bp) else (h.root, Loc.root)).1
      (if hint ≠ 0 then (hint, Loc.bp) else (h.root, Loc.root)).2 = some (P, slot (insPath (m.key n) t ++ k) P) ∧
      Zip m h.root (insPath (m.key n) t ++ k) 0 P .nil := by
    by_cases hh : hint = 0
    · have hk := h0 hh
      subst hk
      obtain ⟨hp, hr⟩ := hz.slot_nil
      simp only [hh, ne_eq, not_true_eq_false, if_false]
      refine insLoop_spec t [] a p h.root .root _ hz (by simp [rdLoc, hr]) ?_ hfuel
      intro ht
      have : a = 0 := by rw [ht] at hz; exact hz.sub
      simp [slot, hp, hr, this]
    · have ha := h1 hh
      simp only [hh, ne_eq, not_false_eq_true, if_true]
      refine insLoop_spec t k a p hint .bp _ hz (by simp [rdLoc, ha]) ?_ hfuel
      intro ht
      have : a = 0 := by rw [ht] at hz; exact hz.sub
      exact absurd (ha.trans this) hh
  obtain ⟨P, hloop, hz'⟩ := key
  have hsub : ∀ z, z ∈ ctxIds (insPath (m.key n) t ++ k) → z ∈ (plug k t).ids := by
    intro z hc
    rw [ctxIds_append, List.mem_append] at hc
    exact mem_plug_ids.mpr (hc.imp_left insPath_ids_sub)
  obtain ⟨a1, a2, a3, a4, a5⟩ := attach_spec hz' hn0
    (fun hc => (mem_plug_ids.mp (hsub n hc)).elim hnt hnk)
  refine ⟨P, _, _, ?_, a1, a2, a3, a4, fun z hz0 hzn hzt => a5 z hzn ?_⟩
  · simp only [btInsert, hloop]
  · exact fun e => hzt (hsub z (e ▸ hz'.ctx.parent_mem (e ▸ hz0)))

end Cstl.TreeL
