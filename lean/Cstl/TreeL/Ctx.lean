import Cstl.Tree.Lemmas
/- Trees with a hole, without any memory. -/
namespace Cstl.TreeL
open Cstl.Tree (Color Elem Tree)
open Cstl.Tree.Color Cstl.Tree.Tree

theorem perm_swap_mid (l t : List Nat) (x : Nat) : (l ++ x :: t).Perm (t ++ x :: l) :=
  (List.perm_middle).trans ((List.Perm.cons x List.perm_append_comm).trans (List.perm_middle).symm)

/-- one level of a path from the root: the hole is the left child (`L`: colour,
element and right subtree of the parent) or the right child (`R`) -/
inductive Frame where
  | L (c : Color) (e : Elem) (r : Tree)
  | R (c : Color) (l : Tree) (e : Elem)

/-- innermost frame first -/
abbrev Ctx := List Frame

def Frame.ids : Frame → List Nat
  | .L _ e r => e.id :: r.ids
  | .R _ l e => e.id :: l.ids

def ctxIds : Ctx → List Nat
  | [] => []
  | f :: k => f.ids ++ ctxIds k

@[simp] theorem ctxIds_nil : ctxIds [] = [] := rfl

@[simp] theorem ctxIds_cons (f : Frame) (k : Ctx) : ctxIds (f :: k) = f.ids ++ ctxIds k := rfl

@[simp] theorem Frame.ids_L (c : Color) (e : Elem) (r : Tree) : (Frame.L c e r).ids = e.id :: r.ids := rfl

@[simp] theorem Frame.ids_R (c : Color) (l : Tree) (e : Elem) : (Frame.R c l e).ids = e.id :: l.ids := rfl

theorem ctxIds_append (k1 k2 : Ctx) : ctxIds (k1 ++ k2) = ctxIds k1 ++ ctxIds k2 := by
  induction k1 with
  | nil => rfl
  | cons f k ih => simp [ih]

def plug : Ctx → Tree → Tree
  | [], t => t
  | .L c e r :: k, t => plug k (.node c t e r)
  | .R c l e :: k, t => plug k (.node c l e t)

@[simp] theorem plug_nil (t : Tree) : plug [] t = t := rfl

@[simp] theorem plug_L (c : Color) (e : Elem) (r : Tree) (k : Ctx) (t : Tree) :
    plug (.L c e r :: k) t = plug k (.node c t e r) := rfl

@[simp] theorem plug_R (c : Color) (l : Tree) (e : Elem) (k : Ctx) (t : Tree) :
    plug (.R c l e :: k) t = plug k (.node c l e t) := rfl

theorem plug_append (k1 k2 : Ctx) (t : Tree) : plug (k1 ++ k2) t = plug k2 (plug k1 t) := by
  induction k1 generalizing t with
  | nil => rfl
  | cons f k ih => cases f <;> simp [ih]

theorem plug_ids_perm (k : Ctx) (t : Tree) : (plug k t).ids.Perm (t.ids ++ ctxIds k) := by
  induction k generalizing t with
  | nil => simp
  | cons f k ih =>
    cases f with
    | L c e r =>
      refine (ih _).trans ?_
      simp only [Cstl.Tree.ids_node, ctxIds_cons, Frame.ids_L, List.append_assoc, List.cons_append]
      exact List.Perm.refl _
    | R c l e =>
      refine (ih _).trans ?_
      simp only [Cstl.Tree.ids_node, ctxIds_cons, Frame.ids_R, List.append_assoc, List.cons_append]
      have := (perm_swap_mid l.ids t.ids e.id).append_right (ctxIds k)
      simpa using this

theorem mem_plug_ids {K : Ctx} {t : Tree} {z : Nat} : z ∈ (plug K t).ids ↔ z ∈ t.ids ∨ z ∈ ctxIds K := by
  rw [(plug_ids_perm K t).mem_iff]; simp

theorem mem_plug_congr {K : Ctx} {t t' : Tree} (h : ∀ z, z ∈ t.ids ↔ z ∈ t'.ids) (z : Nat) :
    z ∈ (plug K t).ids ↔ z ∈ (plug K t').ids := by rw [mem_plug_ids, mem_plug_ids, h]

theorem mem_plug_mono {K : Ctx} {t t' : Tree} (h : ∀ z, z ∈ t.ids → z ∈ t'.ids) (z : Nat) :
    z ∈ (plug K t).ids → z ∈ (plug K t').ids := by
  rw [mem_plug_ids, mem_plug_ids]; exact Or.imp_left (h z)

/-! ### nodes and frames for a direction `d` (`true`: the `l`-side is the left one) -/

/-- the frame whose hole is on the `l`-side; `s` is the sibling subtree -/
def mkFrame (d : Bool) (c : Color) (e : Elem) (s : Tree) : Frame := if d then .L c e s else .R c s e

@[simp] theorem mkFrame_true (c : Color) (e : Elem) (s : Tree) : mkFrame true c e s = .L c e s := rfl

@[simp] theorem mkFrame_false (c : Color) (e : Elem) (s : Tree) : mkFrame false c e s = .R c s e := rfl

theorem frame_cases (f : Frame) : ∃ d c e s, f = mkFrame d c e s := by
  cases f with
  | L c e r => exact ⟨true, c, e, r, rfl⟩
  | R c l e => exact ⟨false, c, e, l, rfl⟩

theorem mem_ctxIds_mkFrame {d : Bool} {c : Color} {e : Elem} {s : Tree} {K : Ctx} {z : Nat} :
    z ∈ ctxIds (mkFrame d c e s :: K) ↔ z = e.id ∨ z ∈ s.ids ∨ z ∈ ctxIds K := by
  cases d <;> simp

theorem ids_mkFrame (d : Bool) (c : Color) (e : Elem) (s : Tree) : (mkFrame d c e s).ids = e.id :: s.ids := by
  cases d <;> rfl

/-- a node whose `l`-side child (in the sense of the `l`/`r` function parameters) is `l` -/
def mkNode (d : Bool) (c : Color) (l : Tree) (e : Elem) (r : Tree) : Tree :=
  if d then .node c l e r else .node c r e l

@[simp] theorem mkNode_true (c : Color) (l r : Tree) (e : Elem) : mkNode true c l e r = .node c l e r := rfl

@[simp] theorem mkNode_false (c : Color) (l r : Tree) (e : Elem) : mkNode false c l e r = .node c r e l := rfl

theorem mkNode_not (d : Bool) (c : Color) (l r : Tree) (e : Elem) : mkNode (!d) c l e r = mkNode d c r e l := by
  cases d <;> rfl

theorem mkNode_ids_perm (d : Bool) (c : Color) (l r : Tree) (e : Elem) :
    (mkNode d c l e r).ids.Perm (e.id :: (l.ids ++ r.ids)) := by
  cases d
  · simp only [mkNode_false, Cstl.Tree.ids_node]
    exact (List.perm_middle).trans (List.Perm.cons _ List.perm_append_comm)
  · simp only [mkNode_true, Cstl.Tree.ids_node]
    exact List.perm_middle

theorem blacken_mkNode (d : Bool) (c : Color) (l r : Tree) (e : Elem) :
    (mkNode d c l e r).blacken = mkNode d black l e r := by cases d <;> rfl

theorem isRed_mkNode (d : Bool) (c : Color) (l r : Tree) (e : Elem) : (mkNode d c l e r).isRed = (c == red) := by
  cases d <;> cases c <;> rfl

theorem node_as_mkNode (d : Bool) (c : Color) (l r : Tree) (e : Elem) :
    ∃ wn wf, Tree.node c l e r = mkNode d c wn e wf := by
  cases d
  · exact ⟨r, l, rfl⟩
  · exact ⟨l, r, rfl⟩

theorem mkNode_eq_node (d : Bool) (c : Color) (l r : Tree) (e : Elem) :
    ∃ l' r', mkNode d c l e r = .node c l' e r' := by
  cases d <;> exact ⟨_, _, rfl⟩

theorem mem_mkNode_ids {d : Bool} {c : Color} {l r : Tree} {e : Elem} {z : Nat} :
    z ∈ (mkNode d c l e r).ids ↔ z = e.id ∨ z ∈ l.ids ∨ z ∈ r.ids := by
  rw [(mkNode_ids_perm d c l r e).mem_iff]; simp

theorem count_mkNode_ids (d : Bool) (c : Color) (l r : Tree) (e : Elem) (z : Nat) :
    (mkNode d c l e r).ids.count z = (if e.id == z then 1 else 0) + l.ids.count z + r.ids.count z := by
  cases d <;> simp only [mkNode_true, mkNode_false, Cstl.Tree.ids_node, List.count_append, List.count_cons] <;> omega

@[simp] theorem plug_mkFrame (d : Bool) (c : Color) (e : Elem) (s : Tree) (K : Ctx) (t : Tree) :
    plug (mkFrame d c e s :: K) t = plug K (mkNode d c t e s) := by cases d <;> rfl

/-- the address a subtree sits at: the id of its root, NULL for the empty tree -/
def rootOf : Tree → Nat
  | .nil => 0
  | .node _ _ e _ => e.id

/-- the address of the hole's parent is determined by the context -/
def ctxParent : Ctx → Nat
  | [] => 0
  | .L _ e _ :: _ => e.id
  | .R _ _ e :: _ => e.id

theorem rootOf_mkNode (d : Bool) (c : Color) (l r : Tree) (e : Elem) : rootOf (mkNode d c l e r) = e.id := by
  cases d <;> rfl

@[simp] theorem ctxParent_mkFrame (d : Bool) (c : Color) (e : Elem) (s : Tree) (K : Ctx) :
    ctxParent (mkFrame d c e s :: K) = e.id := by cases d <;> rfl

theorem height_le_size (t : Tree) : t.height ≤ t.size := by
  induction t with
  | nil => simp [Tree.height, Tree.size]
  | node c l e r ihl ihr => simp only [Tree.height, Tree.size]; omega

theorem size_plug (k : Ctx) (t : Tree) : (plug k t).size = t.size + (ctxIds k).length := by
  have h : ∀ u : Tree, u.size = u.ids.length := fun u => by
    rw [Cstl.Tree.size_eq_length, Tree.ids, List.length_map]
  rw [h, h, (plug_ids_perm k t).length_eq, List.length_append]

theorem length_le_ctxIds (k : Ctx) : k.length ≤ (ctxIds k).length := by
  induction k with
  | nil => exact Nat.le_refl _
  | cons f k ih => cases f <;> simp only [ctxIds_cons, Frame.ids_L, Frame.ids_R, List.length_append, List.length_cons] <;> omega

theorem length_add_size_le_plug (k : Ctx) (t : Tree) : k.length + t.size ≤ (plug k t).size := by
  have := length_le_ctxIds k; rw [size_plug]; omega

theorem size_le_plug (k : Ctx) (t : Tree) : t.size ≤ (plug k t).size := by rw [size_plug]; omega

theorem plug_size_mono (k : Ctx) {s s' : Tree} (h : s.size ≤ s'.size) : (plug k s).size ≤ (plug k s').size := by
  rw [size_plug, size_plug]; omega

end Cstl.TreeL
