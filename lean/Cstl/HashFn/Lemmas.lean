import Cstl.HashFn.Model
/-
C17a: what `rnd` is on arguments of 25 bits and more (`rnd_big`), and the representable value in
`[(1-2^-23)·(float)m, m)` that `hashMul_lt` rests on (`exists_rep_between`).
-/
namespace Cstl.HashFn

/-- `n` is a binary32-representable magnitude: at most 24 significant bits. -/
def Rep (n : Nat) : Prop := ∃ q e, q < 2 ^ 24 ∧ n = q * 2 ^ e

/-- `rnd` fixes values with at most 24 significant bits. -/
theorem rnd_fixed {n : Nat} (h : n < 2 ^ 24) : rnd n = n := by
  simp [rnd, h]

/-- The rounding step of `rnd` on the pieces of its argument `q * P + r`
(`r < P = 2 * H`). -/
def rne (P H q r : Nat) : Nat := if H < r ∨ (r = H ∧ q % 2 = 1) then (q + 1) * P else q * P

theorem rnd_of_ge {n : Nat} (h : 2 ^ 24 ≤ n) :
    rnd n = rne (2 ^ (n.log2 - 23)) (2 ^ (n.log2 - 23 - 1)) (n / 2 ^ (n.log2 - 23)) (n % 2 ^ (n.log2 - 23)) := by
  unfold rnd rne
  rw [if_neg (Nat.not_lt.mpr h)]

theorem rne_spec {P H q r : Nat} (hP : 2 * H = P) (hr : r < P) :
    ∃ q', rne P H q r = q' * P ∧ q ≤ q' ∧ q' ≤ q + 1 ∧
      2 * (q' * P) ≤ 2 * (q * P + r) + P ∧ 2 * (q * P + r) ≤ 2 * (q' * P) + P ∧ (2 * r = P → q' % 2 = 0) := by
  have hX : (q + 1) * P = q * P + P := Nat.succ_mul q P
  unfold rne
  by_cases c : H < r ∨ (r = H ∧ q % 2 = 1)
  · rw [if_pos c]; exact ⟨q + 1, rfl, by omega⟩
  · rw [if_neg c]; exact ⟨q, rfl, by omega⟩

theorem rne_scale {P H q r S : Nat} (hS : 0 < S) : rne (P * S) (H * S) q (r * S) = rne P H q r * S := by
  unfold rne
  simp only [Nat.mul_lt_mul_right hS, Nat.mul_left_inj (Nat.ne_of_gt hS), ← Nat.mul_assoc]
  split <;> rfl

theorem step_of_lt {P x y : Nat} (h : x * P < y * P) : x * P + P ≤ y * P :=
  Nat.succ_mul x P ▸ Nat.mul_le_mul_right P (Nat.lt_of_mul_lt_mul_right h)

/-- The pieces `rnd` computes for `n ≥ 2^24`. -/
structure Dec (n e q r : Nat) : Prop where
  he  : 1 ≤ e
  hn  : n = q * 2 ^ e + r
  hr  : r < 2 ^ e
  hq1 : 2 ^ 23 ≤ q
  hq2 : q < 2 ^ 24
  hh  : 2 * 2 ^ (e - 1) = 2 ^ e

theorem dec_big {n : Nat} (h : 2 ^ 24 ≤ n) :
    Dec n (n.log2 - 23) (n / 2 ^ (n.log2 - 23)) (n % 2 ^ (n.log2 - 23)) := by
  have hn0 : n ≠ 0 := by
    intro h0; subst h0; simp at h
  have hL : 24 ≤ n.log2 := (Nat.le_log2 hn0).2 h
  have h1 : 2 ^ n.log2 ≤ n := Nat.log2_self_le hn0
  have h2 : n < 2 ^ (n.log2 + 1) := Nat.lt_log2_self
  generalize hLe : n.log2 = L at *
  obtain ⟨e, rfl⟩ : ∃ e, L = 23 + (e + 1) := ⟨L - 24, by omega⟩
  have he : 23 + (e + 1) - 23 = e + 1 := by omega
  rw [he]
  have hP : 0 < 2 ^ (e + 1) := Nat.two_pow_pos _
  have e1 : 2 ^ (23 + (e + 1)) = 2 ^ 23 * 2 ^ (e + 1) := Nat.pow_add ..
  have e2 : 2 ^ (23 + (e + 1) + 1) = 2 ^ 24 * 2 ^ (e + 1) := by
    rw [show 23 + (e + 1) + 1 = 24 + (e + 1) by omega, Nat.pow_add]
  rw [e1] at h1; rw [e2] at h2
  refine ⟨by omega, ?_, Nat.mod_lt _ hP, ?_, ?_, ?_⟩
  · have := Nat.div_add_mod n (2 ^ (e + 1)); rw [Nat.mul_comm] at this; omega
  · exact (Nat.le_div_iff_mul_le hP).2 h1
  · exact (Nat.div_lt_iff_lt_mul hP).2 h2
  · show 2 * 2 ^ (e + 1 - 1) = 2 ^ (e + 1)
    rw [Nat.add_sub_cancel, Nat.pow_succ, Nat.mul_comm]

/-- `rnd n` for `n ≥ 2^24`, with `P = 2^(⌊log2 n⌋-23)` the unit in the last
place of `n`: a multiple `q * P` of `P` with a 24-bit `q` (or `q = 2^24`, the
next power of two), at most `P/2` away from `n`, `q` even on a tie. -/
theorem rnd_big {n : Nat} (h : 2 ^ 24 ≤ n) :
    ∃ q, rnd n = q * 2 ^ (n.log2 - 23) ∧ 2 ^ 23 ≤ q ∧ q ≤ 2 ^ 24 ∧
      2 * rnd n ≤ 2 * n + 2 ^ (n.log2 - 23) ∧ 2 * n ≤ 2 * rnd n + 2 ^ (n.log2 - 23) ∧
      (2 * (n % 2 ^ (n.log2 - 23)) = 2 ^ (n.log2 - 23) → q % 2 = 0) := by
  have d := dec_big h
  obtain ⟨q, e1, e2, e3, e4, e5, e6⟩ := rne_spec (q := n / 2 ^ (n.log2 - 23)) d.hh d.hr
  rw [← d.hn, ← e1, ← rnd_of_ge h] at e4 e5
  rw [← rnd_of_ge h] at e1
  have := d.hq1
  have := d.hq2
  exact ⟨q, e1, by omega, by omega, e4, e5, e6⟩

theorem rnd_big_bounds {n : Nat} (h : 2 ^ 24 ≤ n) :
    2 ^ 24 ≤ rnd n ∧ 2 ^ 23 * 2 ^ (n.log2 - 23) ≤ rnd n ∧ rnd n ≤ 2 ^ 24 * 2 ^ (n.log2 - 23) := by
  obtain ⟨q, hq, h1, h2, _⟩ := rnd_big h
  have l1 : 2 ^ 23 * 2 ^ (n.log2 - 23) ≤ q * 2 ^ (n.log2 - 23) := Nat.mul_le_mul_right _ h1
  have l2 : q * 2 ^ (n.log2 - 23) ≤ 2 ^ 24 * 2 ^ (n.log2 - 23) := Nat.mul_le_mul_right _ h2
  have l3 : 2 ^ 23 * 2 ^ 1 ≤ 2 ^ 23 * 2 ^ (n.log2 - 23) :=
    Nat.mul_le_mul_left _ (Nat.pow_le_pow_right (by decide) (dec_big h).he)
  rw [hq]
  exact ⟨Nat.le_trans l3 l1, l1, l2⟩

theorem log2_mono {a b : Nat} (ha : a ≠ 0) (h : a ≤ b) : a.log2 ≤ b.log2 := by
  have hb : b ≠ 0 := by omega
  exact (Nat.le_log2 hb).2 (Nat.le_trans (Nat.log2_self_le ha) h)

theorem rnd_mono {a b : Nat} (h : a ≤ b) : rnd a ≤ rnd b := by
  by_cases hb : b < 2 ^ 24
  · rw [rnd_fixed hb, rnd_fixed (Nat.lt_of_le_of_lt h hb)]; exact h
  have hb : 2 ^ 24 ≤ b := Nat.le_of_not_lt hb
  by_cases ha : a < 2 ^ 24
  · rw [rnd_fixed ha]
    exact Nat.le_trans (Nat.le_of_lt ha) (rnd_big_bounds hb).1
  have ha : 2 ^ 24 ≤ a := Nat.le_of_not_lt ha
  have hL : a.log2 ≤ b.log2 := log2_mono (by intro h0; subst h0; simp at ha) h
  by_cases hE : a.log2 - 23 < b.log2 - 23
  · -- different exponents: the end of `a`'s binade lies between
    have h3 : 2 ^ (a.log2 - 23) * 2 ≤ 2 ^ (b.log2 - 23) := by
      rw [← Nat.pow_succ]; exact Nat.pow_le_pow_right (by decide) hE
    have h1 := (rnd_big_bounds ha).2.2
    have h2 := (rnd_big_bounds hb).2.1
    omega
  · -- same exponent: both results are multiples of the same `P`, each within
    -- `P/2` of its argument; if they were in the wrong order, `a = b`
    have hE : b.log2 - 23 = a.log2 - 23 := by omega
    obtain ⟨x, hx, _, _, ha1, _⟩ := rnd_big ha
    obtain ⟨y, hy, _, _, _, hb2, _⟩ := rnd_big hb
    rw [hE] at hy hb2
    apply Nat.le_of_not_lt
    intro hlt
    have hs : y * 2 ^ (a.log2 - 23) + 2 ^ (a.log2 - 23) ≤ x * 2 ^ (a.log2 - 23) := step_of_lt (by rwa [hx, hy] at hlt)
    have : a = b := by omega
    subst this
    omega

/-- `rnd` fixes every representable value (`Rep n`: `n = q·2^e` with `q < 2^24`). -/
theorem rnd_fixed_rep {n : Nat} (h : Rep n) : rnd n = n := by
  by_cases hn : n < 2 ^ 24
  · exact rnd_fixed hn
  · have hn' : 2 ^ 24 ≤ n := by omega
    obtain ⟨q, s, hq, rfl⟩ := h
    have hn0 : q * 2 ^ s ≠ 0 := by intro h0; rw [h0] at hn'; simp at hn'
    -- the exponent `e` of `n` is at most `s`, so `n` is itself a multiple of `2^e`
    have hlt : q * 2 ^ s < 2 ^ (24 + s) := by
      rw [Nat.pow_add]; exact Nat.mul_lt_mul_of_lt_of_le hq (Nat.le_refl _) (Nat.two_pow_pos _)
    have hes : (q * 2 ^ s).log2 - 23 ≤ s := by
      have := (Nat.log2_lt hn0).2 hlt; omega
    obtain ⟨x, hx⟩ : ∃ x, q * 2 ^ s = x * 2 ^ ((q * 2 ^ s).log2 - 23) :=
      ⟨q * 2 ^ (s - ((q * 2 ^ s).log2 - 23)), by rw [Nat.mul_assoc, ← Nat.pow_add, Nat.sub_add_cancel hes]⟩
    obtain ⟨q', hq', _, _, h1, h2, _⟩ := rnd_big hn'
    generalize (q * 2 ^ s).log2 - 23 = e at *
    rw [hq'] at h1 h2 ⊢
    rw [hx] at h1 h2 ⊢
    rcases Nat.lt_trichotomy (q' * 2 ^ e) (x * 2 ^ e) with h | h | h
    · have := step_of_lt h; omega
    · exact h
    · have := step_of_lt h; omega

theorem rep_rnd (n : Nat) : Rep (rnd n) := by
  by_cases hn : n < 2 ^ 24
  · rw [rnd_fixed hn]; exact ⟨n, 0, hn, by simp⟩
  · obtain ⟨q, hq, _, h2, _⟩ := rnd_big (Nat.le_of_not_lt hn)
    by_cases hlt : q < 2 ^ 24
    · exact ⟨q, _, hlt, hq⟩
    · have hq' : q = 2 ^ 23 * 2 := by omega
      exact ⟨2 ^ 23, n.log2 - 23 + 1, by decide, by rw [hq, hq', Nat.pow_succ]; grind⟩

theorem log2_eq_of {n L : Nat} (h1 : 2 ^ L ≤ n) (h2 : n < 2 ^ (L + 1)) : n.log2 = L :=
  (Nat.log2_eq_iff (Nat.ne_of_gt (Nat.lt_of_lt_of_le (Nat.two_pow_pos L) h1))).2 ⟨h1, h2⟩

/-- Scale independence: the same function rounds a value that is carried as an
integer multiple of `2^-s` (used at `s = 23` in `frac` and `hashMul`). -/
theorem rnd_scale_indep (n s : Nat) : rnd (n * 2 ^ s) = rnd n * 2 ^ s := by
  by_cases hn : n < 2 ^ 24
  · rw [rnd_fixed hn]; exact rnd_fixed_rep ⟨n, s, hn, rfl⟩
  · have hb : 2 ^ 24 ≤ n := by omega
    have hS := Nat.two_pow_pos s
    have hb' : 2 ^ 24 ≤ n * 2 ^ s := Nat.le_trans hb (Nat.le_mul_of_pos_right n hS)
    have hn0 : n ≠ 0 := by omega
    have hL : 24 ≤ n.log2 := (Nat.le_log2 hn0).2 hb
    have hlog : (n * 2 ^ s).log2 = n.log2 + s := by
      apply log2_eq_of
      · rw [Nat.pow_add]; exact Nat.mul_le_mul_right _ (Nat.log2_self_le hn0)
      · rw [show n.log2 + s + 1 = (n.log2 + 1) + s by omega, Nat.pow_add]
        exact Nat.mul_lt_mul_of_lt_of_le Nat.lt_log2_self (Nat.le_refl _) hS
    have he : n.log2 + s - 23 = (n.log2 - 23) + s := by omega
    have he1 : (n.log2 - 23) + s - 1 = (n.log2 - 23 - 1) + s := by omega
    rw [rnd_of_ge hb', rnd_of_ge hb, hlog, he, he1, Nat.pow_add, Nat.pow_add, Nat.mul_div_mul_right _ _ hS,
      Nat.mul_mod_mul_right, rne_scale hS]

/-- The key fact behind `hashMul_lt`: below `m` (at scale `2^-23`) there is a
representable value that is at least `(1 - 2^-23) · (float)m`. -/
theorem exists_rep_between {m : Nat} (hm : 1 ≤ m) :
    ∃ R, Rep R ∧ (2 ^ 23 - 1) * rnd m ≤ R ∧ R < 2 ^ 23 * m := by
  by_cases hs : m < 2 ^ 24
  · -- (float)m = m;  R = m·2^23 - 2^⌊log2 m⌋  (the predecessor of m·2^23)
    rw [rnd_fixed hs]
    have hm0 : m ≠ 0 := by omega
    have h1 : 2 ^ m.log2 ≤ m := Nat.log2_self_le hm0
    have h2 : m < 2 ^ (m.log2 + 1) := Nat.lt_log2_self
    have hL : m.log2 < 24 := (Nat.log2_lt hm0).2 hs
    generalize m.log2 = L at *
    obtain ⟨j, hj⟩ : ∃ j, j + L = 23 := ⟨23 - L, by omega⟩
    have hp : 2 ^ j * 2 ^ L = 2 ^ 23 := by rw [← Nat.pow_add, hj]
    have hq : m * 2 ^ j < 2 ^ 24 := by
      have : m * 2 ^ j < 2 ^ (L + 1) * 2 ^ j :=
        Nat.mul_lt_mul_of_lt_of_le h2 (Nat.le_refl _) (Nat.two_pow_pos _)
      rw [← Nat.pow_add, show L + 1 + j = 24 by omega] at this
      exact this
    have hq1 : 1 ≤ m * 2 ^ j := Nat.mul_pos hm (Nat.two_pow_pos _)
    obtain ⟨t, ht⟩ : ∃ t, m * 2 ^ j = t + 1 := ⟨m * 2 ^ j - 1, by omega⟩
    have key : t * 2 ^ L + 2 ^ L = m * 2 ^ 23 := by rw [← hp, ← Nat.mul_assoc, ht, Nat.succ_mul]
    exact ⟨t * 2 ^ L, ⟨t, L, by omega, rfl⟩, by omega, by omega⟩
  · -- (float)m = q·P is within P/2 of m;  R = (q-1)·P (×2^23)
    obtain ⟨q, hq, hq1, hq2, h1, _⟩ := rnd_big (Nat.le_of_not_lt hs)
    have hP := Nat.two_pow_pos (m.log2 - 23)
    obtain ⟨t, rfl⟩ : ∃ t, q = t + 1 := ⟨q - 1, by omega⟩
    have hX : (2 ^ 23 - 1) * 2 ^ (m.log2 - 23) ≤ t * 2 ^ (m.log2 - 23) := Nat.mul_le_mul_right _ (by omega)
    have eR : t * 2 ^ (m.log2 - 23 + 23) = t * 2 ^ (m.log2 - 23) * 2 ^ 23 := by rw [Nat.pow_add, Nat.mul_assoc]
    rw [Nat.succ_mul] at hq
    refine ⟨t * 2 ^ (m.log2 - 23 + 23), ⟨t, _, by omega, rfl⟩, ?_, ?_⟩ <;> rw [eR]
    · omega
    · omega

end Cstl.HashFn
