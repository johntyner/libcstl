import Cstl.HashFn.Lemmas
/-
C17 (numeric half): `cstl_hash_div` and `cstl_hash_mul` return a value in
`[0, m)` for every key and every table size `m ≥ 1`.

`hashMul` / `hashDiv` (Model.lean) compute what the C functions compute,
operation by operation, on binary32 values carried as scaled naturals; the
correspondence check runs the compiled functions against them on the float
boundary grid on every run.  The theorems below are about *all* naturals
`k`, `m`, hence in particular about all 64-bit `size_t` values.

Trusted, not proved: that the FPU implements round-to-nearest-even binary32
with `FLT_EVAL_METHOD == 0` (asserted by the harness, validated by the
correspondence check).
-/
namespace Cstl.HashFn

theorem hashDiv_lt (k m : Nat) (hm : 1 ≤ m) : hashDiv k m < m :=
  Nat.mod_lt _ hm

example : hashDiv (2 ^ 64 - 1) (2 ^ 64 - 2) = 1 := by decide

/-! ### the rounding function is IEEE round-to-nearest on 24-bit significands -/

example : Rep (16777215 * 2 ^ 40) ∧ ¬ (16777215 * 2 ^ 40 < 2 ^ 24) :=
  ⟨⟨16777215, 40, by decide, rfl⟩, by decide⟩

/-- Faithful rounding: the result is representable, and no representable value
lies strictly between the argument and the result. -/
theorem rnd_faithful (n : Nat) :
    Rep (rnd n) ∧ ∀ x, Rep x → (x ≤ n → x ≤ rnd n) ∧ (n ≤ x → rnd n ≤ x) := by
  refine ⟨rep_rnd n, fun x hx => ⟨fun h => ?_, fun h => ?_⟩⟩
  · have := rnd_mono h; rwa [rnd_fixed_rep hx] at this
  · have := rnd_mono h; rwa [rnd_fixed_rep hx] at this

/-- Round to *nearest*: the error is at most half a unit in the last place
(`2^(⌊log2 n⌋-23)` is the unit in the last place of a 24-bit significand). -/
theorem rnd_nearest {n : Nat} (h : 2 ^ 24 ≤ n) :
    2 * (rnd n - n) ≤ 2 ^ (n.log2 - 23) ∧ 2 * (n - rnd n) ≤ 2 ^ (n.log2 - 23) := by
  obtain ⟨_, _, _, _, h1, h2, _⟩ := rnd_big h
  omega

/-- Ties go to the even significand. -/
theorem rnd_ties_even {n : Nat} (h : 2 ^ 24 ≤ n)
    (htie : 2 * (n % 2 ^ (n.log2 - 23)) = 2 ^ (n.log2 - 23)) :
    (rnd n / 2 ^ (n.log2 - 23)) % 2 = 0 := by
  obtain ⟨q, hq, _, _, _, _, he⟩ := rnd_big h
  rw [hq, Nat.mul_div_cancel _ (Nat.two_pow_pos _)]
  exact he htie

-- both directions of rounding and a tie occur
example : rnd (2 ^ 24 + 1) = 2 ^ 24 ∧ rnd (2 ^ 24 + 3) = 2 ^ 24 + 4 ∧
    rnd (2 ^ 25 + 5) = 2 ^ 25 + 4 ∧ rnd (2 ^ 25 + 7) = 2 ^ 25 + 8 := by decide
-- `(float)m` can exceed `m`: the case the proof of `hashMul_lt` has to survive
example : (2 ^ 64 - 1) < rnd (2 ^ 64 - 1) := by decide

/-- `M - floorf(M)` is at most `1 - 2^-23` (scale `2^-23`). -/
theorem frac_le (k : Nat) : frac k ≤ 2 ^ 23 - 1 := by
  have : frac k < 2 ^ 23 := by
    unfold frac
    simp only
    generalize rnd (PHI * rnd k) = M
    have hm : M - M / 2 ^ 23 * 2 ^ 23 = M % 2 ^ 23 := by
      omega
    rw [hm]
    have hlt : M % 2 ^ 23 < 2 ^ 23 := Nat.mod_lt _ (by decide)
    rw [rnd_fixed (by omega)]
    exact hlt
  omega

example : frac 1 = 5184445 ∧ frac 3 = 7164728 ∧ frac (2 ^ 40) = 0 := by decide

/-- the product `hashMul` converts back to `size_t` (scale `2^-23`) is below `m`:
`fr·(float)m ≤ (1-2^-23)·(float)m ≤ R < m` for a representable `R`
(`exists_rep_between`), and rounding is monotone and fixes `R` -/
theorem prod_lt (k : Nat) {m : Nat} (hm : 1 ≤ m) : rnd (frac k * rnd m) < 2 ^ 23 * m := by
  obtain ⟨R, hR, h1, h2⟩ := exists_rep_between hm
  have hP := rnd_mono (Nat.le_trans (Nat.mul_le_mul_right _ (frac_le k)) h1)
  rw [rnd_fixed_rep hR] at hP
  omega

/-- **C17a.**  The multiplicative hash is in range for every key and every
table size `m ≥ 1` — all naturals, so in particular all 64-bit values. -/
theorem hashMul_lt (k m : Nat) (hm : 1 ≤ m) : hashMul k m < m :=
  (Nat.div_lt_iff_lt_mul (by decide)).2 (by have := prod_lt k hm; omega)

/-- For `size_t` arguments the product that is converted back to `size_t` is
below `2^64`, so the float → `size_t` conversion is defined, and the result is
a valid bucket index. -/
theorem hashMul_size_t (k m : Nat) (_hk : k < 2 ^ 64) (hm1 : 1 ≤ m) (hm : m < 2 ^ 64) :
    rnd (frac k * rnd m) < 2 ^ 64 * 2 ^ 23 ∧ hashMul k m < m :=
  ⟨by have := prod_lt k hm1; omega, hashMul_lt k m hm1⟩

example : hashMul 1 (2 ^ 64 - 1) = 11400715122130288640 ∧ hashMul 3 16777217 = 14329456 ∧
    hashMul 1 1 = 0 := by decide

end Cstl.HashFn
